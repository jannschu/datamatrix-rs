import DM.Props.C01
import DM.Props.C01Planner
import DM.Props.C02
import DM.Props.C02Planner
import DM.Props.C02Shape
import DM.Props.C02Spec
import DM.Props.C02SpecC40
import DM.Props.C02SpecEdi
import DM.Props.C02SpecMixed
import DM.Props.C02SpecMixed5
import DM.Props.C02SpecMixedC40
import DM.Props.C02SpecMixedE
import DM.Props.C02SpecMixedEdi
import DM.Props.C02SpecMixedX12
import DM.Props.C02SpecX12
import DM.Props.C03
import DM.Props.C03Complete
import DM.Props.C03Full
import DM.Props.C03Single
import DM.Props.C04
import DM.Props.C05
import DM.Props.C06
import DM.Props.C07
import DM.Props.C08
import DM.Props.C09
import DM.Props.C09Sound
import DM.Props.C10
import DM.Props.C10Ascii
import DM.Props.C11
import DM.Props.C12
import DM.Props.C13
import DM.Props.C13Tail
import DM.Props.C13TailDefs
import DM.Props.C13TailEnc
import DM.Props.C13TailRun
import DM.Props.C14
import DM.Props.C14Planner
import DM.Props.C14Str
import DM.Props.C15
import DM.Props.C16
import DM.Props.C16Planner
import DM.Props.C17
import DM.Props.C17b
import DM.Props.C18
import DM.Props.C18Couple
import DM.Props.C19
import DM.Props.Planner
import DM.Model.Fast
import DM.Lemmas.LDNoErr
/-
The root of the library: every `Props` module (`C01` … `C19` and `Planner`: the theorems that stand for
the properties), and the two modules that none of them reaches, `Model.Fast` (the array-backed
definitions that the driver `DM/Drv` runs) and `Lemmas.LDNoErr` (`ldStep` never answers with a
non-panic error).
-/
