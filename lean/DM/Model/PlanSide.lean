import DM.Model.Encode
/-!
The decidable side condition of the planner / encoder coupling theorems (`DM/Lemmas/CoupleMain.lean`,
`DM/Props/C18Couple.lean`), kept in a file of its own without proof imports so that the compiled driver can
evaluate it on every plan the implementation uses (request `planok`).
-/
namespace DM.Model.PlanSide
open DM.Model.Enc

/-- the last two characters of the message are digits and `r ∈ {1, 2}` characters remain: the
situation in which `c40::handle_end` ends the encodation in ASCII whatever the plan says -/
def lateDigits (body : List Nat) (r : Nat) : Bool :=
  (r == 1 || r == 2) && decide (2 ≤ body.length) && isDigit (body.getD (body.length - 2) 0) &&
    isDigit (body.getD (body.length - 1) 0)

/-- the condition on an entry `e` of the plan and the entries `t` after it: a C40 / Text segment is not
ended by a switch at one of the last two positions of a message that ends with two digits — except by
the switch to ASCII exactly two characters before the end, as the last switch of the plan -/
def headOK (body : List Nat) (e : Nat × EMode) (t : List (Nat × EMode)) : Bool :=
  match t with
  | [] => true
  | (r, m') :: t' =>
    !(e.2 == .c40 || e.2 == .text) || !lateDigits body r || (r == 2 && m' == .ascii && t' == [(0, .ascii)])

/-- **The decidable side condition on the returned plan**: `headOK` at every entry -/
def planOK (body : List Nat) : List (Nat × EMode) → Bool
  | [] => true
  | e :: t => headOK body e t && planOK body t

end DM.Model.PlanSide
