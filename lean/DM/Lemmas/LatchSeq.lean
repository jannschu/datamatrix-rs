import DM.Lemmas.Trace
/-
The exact sequence of latches (C18, encoder side): along the main loop, the latches written so far,
the pending one and `latchesFrom (current mode) (rest of the plan)` make up `plannedLatches plan`.
-/
namespace DM.Lemmas.LatchSeq
open DM.Model DM.Model.Enc DM.Gen DM.Lemmas
open DM.Lemmas.EncRT DM.Lemmas.C40Gen DM.Lemmas.PlanProv DM.Lemmas.Trace

/-- latches caused by running through the modes `ms` when the current mode is `cur` -/
def latchSeq (cur : EMode) : List EMode → List Nat
  | [] => []
  | m :: t => if m = cur then latchSeq cur t else m.latch.toList ++ latchSeq m t

def plannedModes (plan : List (Nat × EMode)) : List EMode := (plan.filter (fun e => 0 < e.1)).map (·.2)

/-- latches still to come when the encoder is in mode `cur` with `plan` left -/
def latchesFrom (cur : EMode) (plan : List (Nat × EMode)) : List Nat := latchSeq cur (plannedModes plan)

/-- the latch codewords of the non-ASCII modes the plan assigns at least one character to, in plan
order, consecutive entries of the same mode merged -/
def plannedLatches (plan : List (Nat × EMode)) : List Nat := latchesFrom .ascii plan

theorem latchesFrom_nil (cur : EMode) : latchesFrom cur [] = [] := rfl

theorem latchesFrom_cons_zero (cur m : EMode) (t : List (Nat × EMode)) :
    latchesFrom cur ((0, m) :: t) = latchesFrom cur t := by
  simp [latchesFrom, plannedModes]

theorem latchesFrom_cons_same (cur : EMode) (p : Nat) (t : List (Nat × EMode)) (hp : 0 < p) :
    latchesFrom cur ((p, cur) :: t) = latchesFrom cur t := by
  simp [latchesFrom, plannedModes, hp, latchSeq]

theorem latchesFrom_cons_ne (cur m : EMode) (p : Nat) (t : List (Nat × EMode)) (hp : 0 < p) (hm : m ≠ cur) :
    latchesFrom cur ((p, m) :: t) = m.latch.toList ++ latchesFrom m t := by
  simp [latchesFrom, plannedModes, hp, latchSeq, hm]

theorem latchSeq_ascii : ∀ (ms : List EMode) (cur : EMode), (∀ m ∈ ms, m = .ascii) → latchSeq cur ms = [] := by
  intro ms
  induction ms with
  | nil => intro _ _; rfl
  | cons m t ih =>
    intro cur h
    have ht : ∀ m ∈ t, m = .ascii := fun m hm => h m (List.mem_cons_of_mem _ hm)
    unfold latchSeq
    split
    · exact ih cur ht
    · rw [ih m ht, h m (List.mem_cons_self ..)]; rfl

theorem latchesFrom_ineff (R : List (Nat × EMode)) (cur : EMode) (h : ∀ e ∈ R, e.2 = .ascii ∨ e.1 = 0) :
    latchesFrom cur R = [] := by
  refine latchSeq_ascii _ cur fun m hm => ?_
  obtain ⟨e, he, rfl⟩ := List.mem_map.mp hm
  rcases h e (List.mem_filter.mp he).1 with h1 | h1
  · exact h1
  · have := (List.mem_filter.mp he).2
    simp [h1] at this

theorem latchesFrom_small (R : List (Nat × EMode)) (cur : EMode) (hok : PlanOK R) (h : ∀ e ∈ R, e.1 ≤ 4) :
    latchesFrom cur R = [] := by
  apply latchesFrom_ineff
  intro e he
  by_cases hm : e.2 = .ascii
  · exact Or.inl hm
  · right
    rcases (hok e he).1 hm with h0 | h0
    · exact h0
    · have := h e he; omega

abbrev Sorted (plan : List (Nat × EMode)) : Prop := plan.Pairwise (fun a b => a.1 ≥ b.1)

structure G (k : Key) : Prop where
  ok : PlanOK k.1
  sorted : Sorted k.1
  noEdi : k.2.1 ≠ .edifact

/-- before a mode change: no latch pending, `L` are the latches still to come -/
def Ctl0 (L : List Nat) (k : Key) : Prop := G k ∧ k.2.2 = none ∧ latchesFrom k.2.1 k.1 = L

def Ctl1 (L : List Nat) (k : Key) : Prop := G k ∧ k.2.2.toList ++ latchesFrom k.2.1 k.1 = L

def Tight (s : St) : Prop := ∀ e ∈ s.plan, e.1 ≤ s.charsLeft

/-- what holds when a mode encoder returns to the main loop -/
def Post (L : List Nat) (s : St) : Prop := Ctl1 L (key s) ∧ Tight s ∧ NoLate s

theorem post_of_ctl0 {L : List Nat} {s : St} (h : Ctl0 L (key s)) (ht : Tight s) : Post L s :=
  ⟨⟨h.1, by rw [h.2.1]; simpa using h.2.2⟩, ht, fun _ => h.2.1⟩

theorem post_congr {L : List Nat} {s s' : St} (h : Post L s) (hk : key s' = key s) (hc : s'.charsLeft = s.charsLeft) :
    Post L s' := by
  obtain ⟨h1, h2, h3⟩ := h
  have hp : s'.plan = s.plan := congrArg (·.1) hk
  have hn : s'.newMode = s.newMode := congrArg (·.2.2) hk
  refine ⟨by rw [hk]; exact h1, ?_, ?_⟩
  · intro e he; rw [hc]; exact h2 e (by rw [← hp]; exact he)
  · intro hle; rw [hn]; exact h3 (by rw [← hc]; exact hle)

theorem g_ascii : G ([(0, EMode.ascii)], EMode.ascii, (none : Option Nat)) :=
  ⟨by intro e he; simp at he; subst he; simp, by simp [Sorted], by simp⟩

/-- `set_ascii_until_end` with at most four characters left: nothing is pending then, and what it drops
lies within the last four characters -/
theorem post_ascii {L : List Nat} {s s' : St} (h : Post L s) (hk : key s' = asciiKey (key s)) (hc : s.charsLeft ≤ 4) :
    Post L s' := by
  · obtain ⟨⟨g, hl⟩, h2, h3⟩ := h
    have hnm : s.newMode = none := h3 hc
    have hL : L = [] := by
      rw [← hl, latchesFrom_small _ _ g.ok fun e he => Nat.le_trans (h2 e he) hc]
      simp [key, hnm]
    have hkey : key s' = ([(0, EMode.ascii)], EMode.ascii, (none : Option Nat)) := by
      rw [hk]; simp [asciiKey, key, hnm]
    have hp : s'.plan = [(0, EMode.ascii)] := congrArg (·.1) hkey
    have hn : s'.newMode = none := congrArg (·.2.2) hkey
    refine ⟨⟨by rw [hkey]; exact g_ascii, ?_⟩, ?_, fun _ => hn⟩
    · rw [hkey, hL]
      simp [latchesFrom, plannedModes, latchSeq]
    · intro e he
      rw [hp] at he
      simp only [List.mem_singleton] at he
      subst he
      exact Nat.zero_le _

theorem post_handler {L : List Nat} {n k : Nat} {s s' : St} (h : Post L s) (he : EncStep.Ended n k s s') (hn : n ≤ 4) :
    Post L s' := by
  cases he with
  | wrote => exact post_congr h rfl rfl
  | ascii cw back hk hp hb => exact post_ascii h rfl (by omega)

theorem switch_ctl {L : List Nat} (s s1 : St) (b : Bool) (h : s.maybeSwitch = .ok (b, s1)) (hc : Ctl0 L (key s)) :
    Tight s1 ∧ (b = false → Ctl0 L (key s1)) ∧ (b = true → Post L s1) := by
  obtain ⟨g, hn, hl⟩ := hc
  obtain ⟨at_, m, rest, hp, hge, hcs⟩ := EncStep.maybeSwitch_cases h
  have gok : PlanOK s.plan := g.ok
  have gso : Sorted s.plan := g.sorted
  have ged : s.mode ≠ .edifact := g.noEdi
  simp only [key] at hn hl
  rw [hp] at gok gso hl
  have hso := List.pairwise_cons.mp gso
  have hrest_ok : PlanOK rest := fun e he => gok e (List.mem_cons_of_mem _ he)
  -- the plan is ordered and `maybe_switch_mode` has just checked its head
  have htight : ∀ e ∈ rest, e.1 ≤ s.charsLeft := fun e he => by
    have := hso.1 e he; simp only [] at this; omega
  rcases hcs with ⟨_, rfl, rfl⟩ | ⟨hd, hm, rfl, rfl⟩ | ⟨hd, hne, rfl, rfl⟩
  · refine ⟨fun e he => ?_, fun _ => ⟨g, hn, by simp only [key]; rw [hp]; exact hl⟩, nofun⟩
    rw [hp] at he
    rcases List.mem_cons.mp he with rfl | he2
    · exact hge
    · exact htight e he2
  · refine ⟨htight, fun _ => ⟨⟨hrest_ok, hso.2, ged⟩, hn, ?_⟩, nofun⟩
    simp only [key]
    rw [← hl, hm, latchesFrom_cons_same _ _ _ (by omega)]
  · have hmed : m ≠ .edifact := (gok (at_, m) (by simp)).2
    rw [latchesFrom_cons_ne _ _ _ _ (by omega) hne] at hl
    refine ⟨htight, nofun, fun _ => ⟨⟨⟨hrest_ok, hso.2, hmed⟩, ?_⟩, htight, ?_⟩⟩
    · simp only [key]
      rw [← hl, hn]
      cases m.latch <;> rfl
    · exact (switched_ok s _ hn (planOKE_of_planOK _ g.ok) h).2.1

theorem eat_none {s : St} (h : s.eat = none) : s.charsLeft = 0 := by
  unfold St.eat at h
  split at h
  · cases h
  · rename_i hn
    have := List.getElem?_eq_none_iff.mp hn
    simp only [St.charsLeft]; omega

theorem ctl_pass (L : List Nat) :
    EncStep.Pass 4 (fun _ s => Ctl0 L (key s) ∧ Tight s) (fun _ s => Ctl0 L (key s)) (fun _ s => Post L s) (Post L) where
  eat _ _ _ h := h.1
  wrote _ _ _ _ h _ := h
  stay _ s s1 h hj := have ⟨ht, hf, _⟩ := switch_ctl s s1 false h hj; ⟨hf rfl, ht⟩
  leave _ s s1 h hj := (switch_ctl s s1 true h hj).2.2 rfl
  fin _ _ h _ := post_of_ctl0 h.1 h.2
  tail _ s cw p' h _ _ h4 :=
    post_ascii (post_of_ctl0 h.1 h.2) (s' := ({ s with cw := cw, pos := p' } : St).setAscii) rfl h4
  handler _ _ _ h he := post_handler h he (Nat.le_refl _)

theorem encodeMode_ctl {L : List Nat} (s s' : St) (hc : Ctl0 L (key s)) (ht : Tight s) (h : encodeMode s = .ok s') :
    Post L s' :=
  (EncStep.encodeMode_res (ctl_pass L) s (fun _ => by decide) (fun _ => Nat.le_refl _) fun _ => ⟨hc, ht⟩).ok h

def LI (target : List Nat) (s : St) (segs : List Seg) : Prop :=
  ∃ L, segs.filterMap (·.latch) ++ L = target ∧ Post L s

theorem li_init (list : List Sym) (pre body : List Nat) (plan : List (Nat × EMode)) (hplan : PlanOK plan)
    (hsorted : plan.Pairwise (fun a b => a.1 ≥ b.1)) (hfit : ∀ e ∈ plan, e.1 ≤ body.length) :
    LI (plannedLatches plan)
      { input := body, pos := 0, mode := .ascii, plan := plan, newMode := none, cw := pre, list := list } [] := by
  refine ⟨plannedLatches plan, by simp, ⟨⟨hplan, hsorted, by simp [key]⟩, ?_⟩, ?_, fun _ => rfl⟩
  · simp [key, plannedLatches]
  · intro e he
    simpa [St.charsLeft] using hfit e he

theorem step_LI (target : List Nat) (s s' : St) (segs : List Seg) (X : List Nat) (h : LI target s segs)
    (he : encodeMode (latched s) = .ok s') : LI target s' (segs ++ [(⟨s.pos, s.newMode, X⟩ : Seg)]) := by
  obtain ⟨L, hL, ⟨g, hl⟩, ht, _⟩ := h
  simp only [key] at hl
  cases hnm : s.newMode with
  | none =>
    have hlat : latched s = s := by simp [latched, hnm]
    rw [hlat] at he
    rw [hnm] at hl
    have hc : Ctl0 L (key s) := ⟨g, hnm, by simpa [key] using hl⟩
    refine ⟨L, ?_, encodeMode_ctl s s' hc ht he⟩
    rw [List.filterMap_append]
    simpa using hL
  | some l =>
    have hlat : latched s = { s with newMode := none }.push l := by simp [latched, hnm]
    rw [hlat] at he
    rw [hnm] at hl
    have hc : Ctl0 (latchesFrom s.mode s.plan) (key ({ s with newMode := none }.push l)) :=
      ⟨⟨g.ok, g.sorted, g.noEdi⟩, rfl, rfl⟩
    refine ⟨latchesFrom s.mode s.plan, ?_, encodeMode_ctl _ s' hc (by exact ht) he⟩
    rw [List.filterMap_append, ← hL, ← hl]
    simp

/-- at the end of the data nothing is pending and nothing in the rest of the plan counts -/
theorem li_end (target : List Nat) (s : St) (segs : List Seg) (h : LI target s segs) (hmf : s.hasMore = false) :
    segs.filterMap (·.latch) = target := by
  obtain ⟨L, hL, ⟨g, hl⟩, ht, hn⟩ := h
  have h0 := EncStep.noMore hmf
  have hnm : s.newMode = none := hn (by omega)
  have hz : latchesFrom s.mode s.plan = [] := by
    apply latchesFrom_ineff
    intro e he
    right
    have := ht e he
    omega
  simp only [key, hnm, hz] at hl
  rw [← hL, ← hl]
  simp

end DM.Lemmas.LatchSeq
