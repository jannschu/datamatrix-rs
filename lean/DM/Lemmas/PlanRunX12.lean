import DM.Lemmas.PlanRun
import DM.Lemmas.PlanSwitch
import DM.Lemmas.AsciiSize
/-!
`FInv` describes the state of an `X12Plan` created at position `p` with `w` codewords accounted for after `i` steps:
native values, eight twelfths each and two codewords with every third, or - once the end-of-data look-ahead has fired
at a triple boundary with one or two characters left - the ASCII end with its surcharge `EndC`. `FInv.natAt` /
`FInv.ofNat` read and build it at `i = 3 * j + t` without division. The two exits: `x12_switch_plan` (`X12Seg`) and
`x12_end_plan`.
Namespace: `CoupleX12`.
-/
namespace DM.Lemmas.CoupleX12
open DM.Model DM.Model.Plan DM.Model.Enc DM.Lemmas.Couple DM.Lemmas.CoupleSeg DM.Lemmas.PlanStep
open DM.Lemmas.PlanInv (CtxAt hasMore_iff rest_eq charsLeft_eq peek_eq)

structure FInv (body : List Nat) (list : List Sym) (p w i : Nat) (q : X12P) : Prop where
  nat : q.asciiEnd = none → q.values = i % 3 ∧ q.cost = 8 * i ∧ q.ctx.written = w + 2 * (i / 3) ∧
      (i % 3 ≠ 0 → p + 3 * (i / 3) + 3 ≤ body.length) ∧ ∀ x, x < i → isNativeX12 (body.getD (p + x) 0) = true
  asc : ∀ f, q.asciiEnd = some f → ∃ j t c0, 3 * j < i ∧ p + 3 * j + t = body.length ∧ (t = 1 ∨ t = 2) ∧
      q.values = 0 ∧ q.ctx.written = w + 2 * j ∧ f = asciiSize (body.drop (p + 3 * j)) * (12 / t) ∧
      q.cost = 24 * j + c0 + f * (i - 3 * j) ∧ EndC list (w + 2 * j) (asciiSize (body.drop (p + 3 * j))) c0 ∧
      ∀ x, x < 3 * j → isNativeX12 (body.getD (p + x) 0) = true

theorem FInv.natAt {body list p w i j t q} (h : FInv body list p w i q) (hi : i = 3 * j + t) (ht : t < 3)
    (ha : q.asciiEnd = none) :
    q.values = t ∧ q.cost = 8 * i ∧ q.ctx.written = w + 2 * j ∧ (t ≠ 0 → p + 3 * j + 3 ≤ body.length) ∧
      ∀ x, x < i → isNativeX12 (body.getD (p + x) 0) = true := by
  subst hi
  have h := h.nat ha
  rwa [(div_mod_block' j ht).2, (div_mod_block' j ht).1] at h

theorem FInv.ofNat {body list p w i j t q} (hi : i = 3 * j + t) (ht : t < 3) (ha : q.asciiEnd = none)
    (hn : q.values = t ∧ q.cost = 8 * i ∧ q.ctx.written = w + 2 * j ∧ (t ≠ 0 → p + 3 * j + 3 ≤ body.length) ∧
      ∀ x, x < i → isNativeX12 (body.getD (p + x) 0) = true) : FInv body list p w i q := by
  subst hi
  refine ⟨fun _ => ?_, fun f hf => by cases ha.symm.trans hf⟩
  rwa [(div_mod_block' j ht).2, (div_mod_block' j ht).1]

theorem x12Step_FInv {body list p w i} (q q' : X12P) (r : StepResult) (hx : CtxAt body list (p + i) q.ctx)
    (hlt : p + i < body.length) (h : FInv body list p w i q) (hs : x12Step q = .ok (some (q', r))) :
    FInv body list p w (i + 1) q' := by
  have hcl : q.ctx.charsLeft = body.length - (p + i) := charsLeft_eq hx
  rcases x12Step_some hs with ⟨hm, -⟩ | ⟨-, hr⟩
  · rw [hasMore_iff hx, decide_eq_true hlt] at hm
    cases hm
  cases hr with
  | asc f hae =>
    obtain ⟨j, t, c0, a1, a2, a3, a4, a5, a6, a7, a8, a9⟩ := h.asc f hae
    refine ⟨fun hn => (by cases hae.symm.trans hn), fun f' hf' => ?_⟩
    cases hae.symm.trans hf'
    refine ⟨j, t, c0, Nat.lt_succ_of_lt a1, a2, a3, a4, a5, a6, ?_, a8, a9⟩
    show q.cost + f = _
    rw [a7, Nat.succ_sub (Nat.le_of_lt a1), Nat.mul_succ, Nat.add_assoc]
  | fire c0 hv hae h2 hE =>
    -- the look-ahead at a triple boundary with at most two characters left
    obtain ⟨j, t, hi, ht⟩ := exists_groups 3 i (by decide)
    obtain ⟨n1, n2, n3, -, n5⟩ := h.natAt hi ht hae
    obtain rfl : t = 0 := n1.symm.trans hv
    obtain rfl : i = 3 * j := hi
    have hrest : q.ctx.rest = body.drop (p + 3 * j) := rest_eq hx
    rw [hrest, hx.2.1, n3] at hE
    refine ⟨fun hn => (by cases hn), fun f hf => ?_⟩
    cases hf
    refine ⟨j, body.length - (p + 3 * j), c0, Nat.lt_succ_self _, Nat.add_sub_cancel' (Nat.le_of_lt hlt), by omega,
      hv, n3, ?_, ?_, hE, n5⟩
    · rw [hrest, hcl]
    · show q.cost + c0 + _ = _
      rw [hrest, hcl, n2, Nat.add_sub_cancel_left, Nat.mul_one]
      omega
  | nat hc hae hnat =>
    obtain ⟨j, t, hi, ht⟩ := exists_groups 3 i (by decide)
    obtain ⟨n1, n2, n3, n4, n5⟩ := h.natAt hi ht hae
    have hpeek : q.ctx.peek = body.getD (p + i) 0 := peek_eq hx
    have hnat' : ∀ x, x < i + 1 → isNativeX12 (body.getD (p + x) 0) = true := by
      intro x hx
      by_cases hxi : x = i
      · rw [hxi, ← hpeek]; exact hnat
      · exact n5 x (Nat.lt_of_le_of_ne (Nat.le_of_lt_succ hx) hxi)
    by_cases h2 : t = 2
    · refine FInv.ofNat (j := j + 1) (t := 0) (by omega) (by decide) rfl
        ⟨?_, congrArg (· + 8) n2, ?_, fun h => absurd rfl h, hnat'⟩
      · show (q.values + 1) % 3 = 0
        rw [n1, h2]
      · show q.ctx.written + (if (q.values + 1) % 3 = 0 then 2 else 0) = _
        rw [n1, h2, n3]
        rfl
    · have h3 : t + 1 < 3 := Nat.lt_of_le_of_ne ht (fun h => h2 (Nat.succ.inj h))
      refine FInv.ofNat (j := j) (t := t + 1) (congrArg (· + 1) hi) h3 rfl
        ⟨?_, congrArg (· + 8) n2, ?_, fun _ => ?_, hnat'⟩
      · show (q.values + 1) % 3 = _
        rw [n1, Nat.mod_eq_of_lt h3]
      · show q.ctx.written + (if (q.values + 1) % 3 = 0 then 2 else 0) = _
        rw [n1, Nat.mod_eq_of_lt h3, if_neg (Nat.succ_ne_zero t), n3]
        rfl
      · -- a triple that has begun is complete in the data: the look-ahead did not trigger at its start
        by_cases ht0 : t = 0
        · have h4 : ¬ q.ctx.charsLeft ≤ 2 := fun h => hc ⟨n1.trans ht0, h⟩
          clear hc
          omega
        · exact n4 ht0

theorem steps_fresh {body list p w k} {g0 gk : GPlan} (hp : p ≤ body.length)
    (h0 : g0.plan = newPlan .x12 (ctxAt body list p w)) (hst : StepsTo k g0 gk) :
    ∃ qk, gk.plan = .x12 qk ∧ CtxAt body list (p + k) qk.ctx ∧ FInv body list p w k qk ∧ gk.extra = g0.extra := by
  have h := fresh_inv (I := fun t pl => ∃ q, pl = .x12 q ∧ FInv body list p w t q) ?_ hp h0
    ⟨_, rfl, fun _ => ⟨rfl, rfl, rfl, fun h => absurd rfl h, fun x hx => absurd hx (Nat.not_lt_zero x)⟩,
      fun f hf => by cases hf⟩ hst
  · obtain ⟨⟨qk, hqk, hF⟩, hc, hex⟩ := h
    have hx := hc.1
    rw [hqk] at hx
    exact ⟨qk, hqk, hx, hF, hex⟩
  · intro t g g1 r hc hlt ⟨q, e1, e2⟩ h1 _
    obtain ⟨_, _, q1, f1, f2⟩ := e1 ▸ gstep_cases h1
    have hx := hc.1
    rw [e1] at hx
    exact ⟨q1, f2, x12Step_FInv q q1 r hx hlt e2 f1⟩

theorem endStep_x12 (g gE : GPlan) (q : X12P) (r : StepResult) (hp : g.plan = .x12 q) (hm : q.ctx.hasMore = false)
    (h : g.step = .ok (some (gE, r))) : gE.cost = g.extra + q.cost := by
  obtain ⟨e, _, q1, h1, h2⟩ := hp ▸ gstep_cases h
  rw [x12Step_end q hm] at h1
  cases h1
  rw [GPlan.cost, h2, e]

theorem FInv.atEnd {body list p w j t q} (h : FInv body list p w (3 * j + t) q) (ht : t < 3)
    (hpk : p + (3 * j + t) = body.length) :
    (∀ x, x < 3 * j → isNativeX12 (body.getD (p + x) 0) = true) ∧
    ((t = 0 ∧ q.cost = 24 * j) ∨
     (t ≠ 0 ∧ ∃ c0, q.cost = 24 * j + c0 + 12 * asciiSize (body.drop (p + 3 * j)) ∧
        EndC list (w + 2 * j) (asciiSize (body.drop (p + 3 * j))) c0)) := by
  cases hae : q.asciiEnd with
  | none =>
    obtain ⟨_, n2, _, n4, n5⟩ := h.natAt rfl ht hae
    have ht0 : t = 0 := Decidable.by_contra fun hne => by have := n4 hne; omega
    subst ht0
    exact ⟨n5, Or.inl ⟨rfl, by rw [n2]; omega⟩⟩
  | some f =>
    obtain ⟨j', t', c0, a1, a2, a3, _, _, a6, a7, a8, a9⟩ := h.asc f hae
    obtain ⟨rfl, rfl⟩ : j' = j ∧ t' = t := by omega
    have ht1 : 1 ≤ t' := by omega
    refine ⟨a9, Or.inr ⟨Nat.ne_of_gt ht1, c0, ?_, a8⟩⟩
    rw [a7, Nat.add_sub_cancel_left, a6, Nat.mul_comm _ t', portion_sum _ t' ht1 (Nat.le_of_lt (Nat.lt_trans ht (by decide)))]

theorem switchPoint_few (g : GPlan) (q : X12P) (hp : g.plan = .x12 q) (hv : q.values = 0) (ha : q.asciiEnd = none)
    (h2 : q.ctx.charsLeft ≤ 2) (hsp : SwitchPoint g) :
    asciiSize q.ctx.rest = 1 ∧ firstBigEnough q.ctx.list (q.ctx.written + 1) = none := by
  rcases hsp with h | ⟨g', r, h, hu, he⟩
  · have hn := gstep_none h
    rw [hp] at hn
    rcases (x12Step_none hn).2.2 with ⟨_, _, h3, h4⟩ | ⟨hc, _⟩
    · exact ⟨h3, h4⟩
    · exact absurd ⟨hv, h2⟩ hc
  · -- a step there starts the ASCII end, and that step is unbeatable
    obtain ⟨_, _, q1, h1, _⟩ := hp ▸ gstep_cases h
    rcases x12Step_some h1 with ⟨_, _, rfl⟩ | ⟨-, hr⟩
    · cases he
    · cases hr with
      | asc f ha' => cases ha.symm.trans ha'
      | fire => cases hu
      | nat hc => exact absurd ⟨hv, h2⟩ hc

/-- an X12 segment of `k` characters that ends with a switch, as data: `j + 1` native triples; and if one or two
characters follow, they are a single ASCII codeword that no symbol holds (the plan dies there) -/
def X12Seg (body : List Nat) (list : List Sym) (p w k j : Nat) : Prop :=
  k = 3 * (j + 1) ∧ (∀ x, x < k → isNativeX12 (body.getD (p + x) 0) = true) ∧
  (body.length - (p + k) ≤ 2 → asciiSize (body.drop (p + k)) = 1 ∧ firstBigEnough list (w + 2 * (j + 1) + 1) = none)

theorem x12_switch_plan {body list p w k} {g0 gk : GPlan} {ac : Nat} {ctx' : Ctx} (hlt : p + k < body.length) (hk : 1 ≤ k)
    (hg0 : g0.plan = newPlan .x12 (ctxAt body list p w)) (hst : StepsTo k g0 gk) (hsp : SwitchPoint gk)
    (hsc : gk.switchCost = some ac) (hul : gk.unlatch = .ok ctx') :
    ∃ j, ctx'.written = w + (2 * (j + 1) + 1) ∧ ac = g0.extra + 12 * (2 * (j + 1) + 1) ∧ X12Seg body list p w k j := by
  obtain ⟨qk, hqk, hcK, hF, hex⟩ := steps_fresh (by omega) hg0 hst
  -- `write_unlatch` asserts a triple boundary and that no ASCII end was decided
  have hcan := PlanSwitch.unlatch_ok_iff.mp hul
  rw [hqk] at hcan
  obtain ⟨⟨hv, hae⟩, rfl⟩ := hcan
  rw [GPlan.switchCost, hqk] at hsc
  simp only [hv, ↓reduceIte, Option.some.injEq] at hsc
  obtain ⟨j, hk3⟩ : ∃ j, k = 3 * (j + 1) + 0 := by
    have := (hF.nat hae).1
    exact ⟨k / 3 - 1, by omega⟩
  obtain ⟨-, n2, n3, -, n5⟩ := hF.natAt hk3 (by decide) hae
  obtain rfl : k = 3 * (j + 1) := hk3
  refine ⟨j, congrArg (· + 1) n3, by omega, rfl, n5, fun hfew => ?_⟩
  have hqcl : qk.ctx.charsLeft = body.length - (p + 3 * (j + 1)) := charsLeft_eq hcK
  have := switchPoint_few gk qk hqk hv hae (hqcl ▸ hfew) hsp
  rwa [rest_eq hcK, hcK.2.1, n3] at this

theorem switchPlan_x12 : SwitchPlan .x12 := by
  intro body list p w k g0 gk ac ctx' hlt hk hg0 hst hsp hsc hul
  obtain ⟨j, h1, h2, h3, -⟩ := x12_switch_plan hlt (hk.resolve_right (by decide)) hg0 hst hsp hsc hul
  omega

theorem x12_end_plan {body list p w k} {g0 gk gE : GPlan} {r : StepResult} (hpk : p + k = body.length)
    (hg0 : g0.plan = newPlan .x12 (ctxAt body list p w)) (hst : StepsTo k g0 gk) (hstep : gk.step = .ok (some (gE, r))) :
    ∃ j t, k = 3 * j + t ∧ t < 3 ∧ (∀ x, x < 3 * j → isNativeX12 (body.getD (p + x) 0) = true) ∧
      ((t = 0 ∧ gE.cost = g0.extra + 24 * j) ∨
       (t ≠ 0 ∧ ∃ c0, gE.cost = g0.extra + (24 * j + c0 + 12 * asciiSize (body.drop (p + 3 * j))) ∧
          EndC list (w + 2 * j) (asciiSize (body.drop (p + 3 * j))) c0)) := by
  obtain ⟨qk, hqk, hcK, hF, hex⟩ := steps_fresh (by omega) hg0 hst
  have hcost := endStep_x12 gk gE qk r hqk
    (by rw [hasMore_iff hcK, decide_eq_false (Nat.not_lt.mpr (Nat.le_of_eq hpk.symm))]) hstep
  rw [hex] at hcost
  obtain ⟨j, t, rfl, ht⟩ := exists_groups 3 k (by decide)
  obtain ⟨hnat, hq⟩ := hF.atEnd ht hpk
  refine ⟨j, t, rfl, ht, hnat, ?_⟩
  rcases hq with ⟨rfl, hc⟩ | ⟨ht0, c0, hc, hE⟩
  · exact Or.inl ⟨rfl, by rw [hcost, hc]⟩
  · exact Or.inr ⟨ht0, c0, by rw [hcost, hc], hE⟩

theorem endPlan_x12 : EndPlan .x12 := by
  intro body list p w k g0 gk gE r hpk _ h0 hst hstep _
  obtain ⟨j, t, rfl, ht, -, ⟨rfl, hc⟩ | ⟨ht0, c0, hc, -⟩⟩ := x12_end_plan hpk h0 hst hstep
  · omega
  · have hsz := AsciiSize.asciiSize_ge (body.drop (p + 3 * j))
    rw [List.length_drop] at hsz
    omega

end DM.Lemmas.CoupleX12
