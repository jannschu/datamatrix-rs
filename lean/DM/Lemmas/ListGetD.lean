/-
`List.getD` through the list operations. The model reads lists with `getD i 0` (Rust's indexing where the bounds are
known); core Lean states its lemmas for `l[i]?`. Each lemma here is the `l[i]?` lemma read through
`List.getD_eq_getElem?_getD`, for any element type and any default.
Namespace: `DM.Lemmas`.
-/
namespace DM.Lemmas
variable {α β γ : Type _} {d : α}

theorem getD_of_lt (l : List α) (i : Nat) (h : i < l.length) : l.getD i d = l[i] := by
  rw [List.getD_eq_getElem?_getD, List.getElem?_eq_getElem h, Option.getD_some]

theorem getD_of_ge (l : List α) (i : Nat) (h : l.length ≤ i) : l.getD i d = d := by
  rw [List.getD_eq_getElem?_getD, List.getElem?_eq_none h, Option.getD_none]

theorem getD_append (l₁ l₂ : List α) (i : Nat) :
    (l₁ ++ l₂).getD i d = if i < l₁.length then l₁.getD i d else l₂.getD (i - l₁.length) d := by
  simp only [List.getD_eq_getElem?_getD, List.getElem?_append]
  split <;> rfl

theorem getD_take (l : List α) (n i : Nat) : (l.take n).getD i d = if i < n then l.getD i d else d := by
  simp only [List.getD_eq_getElem?_getD, List.getElem?_take]
  split <;> rfl

theorem getD_drop (l : List α) (n i : Nat) : (l.drop n).getD i d = l.getD (n + i) d := by
  simp only [List.getD_eq_getElem?_getD, List.getElem?_drop]

theorem getD_reverse (l : List α) (i : Nat) (h : i < l.length) :
    l.reverse.getD i d = l.getD (l.length - 1 - i) d := by
  simp only [List.getD_eq_getElem?_getD, List.getElem?_reverse h]

theorem getD_map_range (f : Nat → α) (n i : Nat) :
    ((List.range n).map f).getD i d = if i < n then f i else d := by
  split
  · rw [getD_of_lt _ _ (by simpa using ‹i < n›), List.getElem_map, List.getElem_range]
  · exact getD_of_ge _ _ (by simpa using Nat.le_of_not_lt ‹_›)

theorem getD_set (l : List α) (i j : Nat) (a : α) :
    (l.set i a).getD j d = if i = j ∧ j < l.length then a else l.getD j d := by
  simp only [List.getD_eq_getElem?_getD, List.getElem?_set]
  by_cases hij : i = j
  · subst hij
    by_cases hi : i < l.length <;> simp [hi]
  · simp [hij]

theorem getD_zipWith (f : α → β → γ) (a : List α) (b : List β) (i : Nat) (h : i < min a.length b.length)
    (da : α) (db : β) {d : γ} : (List.zipWith f a b).getD i d = f (a.getD i da) (b.getD i db) := by
  have h1 : i < a.length := Nat.lt_of_lt_of_le h (Nat.min_le_left _ _)
  have h2 : i < b.length := Nat.lt_of_lt_of_le h (Nat.min_le_right _ _)
  rw [getD_of_lt _ _ (by rw [List.length_zipWith]; exact h), getD_of_lt _ _ h1, getD_of_lt _ _ h2,
    List.getElem_zipWith]

theorem ext_getD (d : α) {l₁ l₂ : List α} (hlen : l₁.length = l₂.length)
    (h : ∀ i, i < l₁.length → l₁.getD i d = l₂.getD i d) : l₁ = l₂ :=
  List.ext_getElem hlen fun i h1 h2 => by rw [← getD_of_lt _ _ h1 (d := d), ← getD_of_lt _ _ h2 (d := d)]; exact h i h1

theorem map_getD_range (l : List α) (d : α) {k : Nat} (h : l.length = k) :
    (List.range k).map (fun i => l.getD i d) = l :=
  ext_getD d (by simp [h]) fun i hi => by rw [getD_map_range, if_pos (by simpa using hi)]

end DM.Lemmas
