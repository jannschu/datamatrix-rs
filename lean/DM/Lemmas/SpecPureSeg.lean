import DM.Lemmas.SpecPure
import DM.Lemmas.X12Gen
import DM.Lemmas.SpecAscii
/-
The pure plan of a mode whose encoder writes a latch, a segment and UNLATCH or not (C40, Text, X12; continues `SpecPure`,
same namespace): from the outcome of the mode encoder's call in the form it has under any plan (`SpecX12.TEndQ`, from the
first character) to the stream the run returns (`pure_seg_shape`), and the reference decoder's run on that stream
(`spec_run_seg`), given what it does on latch, segment and ending: the interface of `SpecMainSeg.step_seg`.
-/
namespace DM.Lemmas.SpecPure
open DM.Model DM.Lemmas DM.Lemmas.AsciiRT DM.Lemmas.EncRT DM.Lemmas.C40Gen DM.Lemmas.SpecStep DM.Lemmas.SpecAscii DM.Lemmas.Complete
open DM.Spec.Stream
open DM.Lemmas.SpecX12 (TEndQ)

theorem pure_seg_shape {Q : List Nat → List Nat → Prop} {list : List Sym} {pre body cw : List Nat} {latch : Nat} {sym : Sym}
    {s3 sE : Enc.St} {f k : Nat} (hend : TEndQ Q list body 0 pre latch s3) (hnm : s3.newMode = none)
    (hkey : s3.mode = .ascii → s3.plan = [(0, .ascii)]) (hm2 : Enc.mainLoop (f + 1) s3 k = .ok sE)
    (hsym : firstBigEnough list sE.cw.length = some sym) (hpad : addPadding sE.cw (sE.mode == .ascii) (dataCw sym) = some cw) :
    ∃ X p un L, Q X (body.take p) ∧ s3.pos = p ∧ p ≤ body.length ∧
      L = pre.length + 1 + X.length + (if un then 1 else 0) + (asciiEnc (body.drop p)).length ∧
      cw.length = dataCw sym ∧
      cw.take L = pre ++ latch :: X ++ (if un then [254] else []) ++ asciiEnc (body.drop p) ∧
      (un = false → L = dataCw sym ∧ (asciiEnc (body.drop p)).length ≤ 1) ∧ Pads.Padded cw L := by
  obtain ⟨X, p, un, hQ, _, hp, hcw3, hpos3, hin3, hli3, hctl, hexact⟩ := hend.out
  have hmode3 : (s3.mode = .ascii ∧ s3.plan = [(0, .ascii)]) ∨ (p = body.length ∧ un = false) := by
    rcases hctl with ⟨a1, a2, _⟩ | ⟨_, _, a3, _⟩ | a
    · exact Or.inl ⟨a1, a2⟩
    · -- a planned switch would leave its latch pending
      rcases a3 with ⟨b1, _⟩ | ⟨l, _, b2, _⟩
      · exact Or.inl ⟨b1, hkey b1⟩
      · rw [hnm] at b2; cases b2
    · exact Or.inr a
  have hE : sE.cw = s3.cw ++ asciiEnc (body.drop p) ∧ (un = true → sE.mode = .ascii) := by
    rcases hmode3 with ⟨hA, hP⟩ | ⟨hB, hu⟩
    · obtain ⟨e1, e2, _⟩ := mainLoop_ascii_rest _ s3 sE k hA hP hnm (by rw [hpos3, hin3]; exact hp) hm2
      exact ⟨by rw [e1, Enc.St.rest, hpos3, hin3], fun _ => e2⟩
    · rw [mainLoop_end _ _ _ (by simp [Enc.St.hasMore, hpos3, hin3, hB])] at hm2
      cases hm2
      exact ⟨by rw [hB, List.drop_length]; simp [asciiEnc], fun h => by rw [hu] at h; cases h⟩
  obtain ⟨e1c, e2c⟩ := hE
  have haszlen : (asciiEnc (body.drop p)).length = Enc.asciiSize (body.drop p) := asciiEnc_size _
  have hLlen : sE.cw.length = pre.length + 1 + X.length + (if un then 1 else 0) + (asciiEnc (body.drop p)).length := by
    rw [e1c, hcw3]
    cases un <;> simp <;> omega
  have hcap := SymbolList.fbe_some_ge list _ sym hsym
  have hfull : un = false → sE.cw.length = dataCw sym ∧ (asciiEnc (body.drop p)).length ≤ 1 := by
    intro hu
    obtain ⟨hasz1, S, hS, hScap⟩ := hexact hu
    have hl2 : sE.cw.length = s3.cw.length + Enc.asciiSize (body.drop p) := by rw [e1c, List.length_append, haszlen]
    rw [hl2, hS] at hsym
    obtain rfl := Option.some.inj hsym
    exact ⟨by rw [hl2]; exact hScap.symm, by omega⟩
  -- so `add_padding` starts the pad codewords right behind the encoder's codewords
  obtain ⟨holen, htake, hpd⟩ := pad_shape sE.cw cw (sE.mode == .ascii) (dataCw sym) hcap
    (by cases un with
        | true => left; rw [e2c rfl]; rfl
        | false => exact Or.inr (hfull rfl).1) hpad
  rw [hLlen] at htake hpd
  rw [e1c, hcw3] at htake
  exact ⟨X, p, un, _, hQ, hpos3, hp, rfl, holen, htake, fun hu => ⟨by rw [← hLlen]; exact (hfull hu).1, (hfull hu).2⟩, hpd⟩

theorem spec_run_seg {Q : List Nat → List Nat → Prop} (m : Mode) (latch : Nat)
    (Tail : Array Nat → Nat → List Nat → Nat → Mode → Prop)
    (t_unlatch : ∀ cw p, Tail cw p [254] 1 .ascii)
    (t_single : ∀ cw p c, c ≠ 254 → cw.size = p + 1 → Tail cw p [c] 0 .ascii)
    (t_exact : ∀ cw p, cw.size = p → Tail cw p [] 0 m)
    (hdec : ∀ {X chunk : List Nat}, Q X chunk → ∀ (cw : Array Nat) (sD : St) (E : List Nat) (kk : Nat) (m' : Mode),
      sD.mode = .ascii → Occurs cw sD.i (latch :: X ++ E) → Tail cw (sD.i + 1 + X.length) E kk m' →
      ∃ j cst, j ≤ 2 * (1 + X.length) ∧ Steps cw j sD (afterStretch sD (1 + X.length + kk) cst chunk m m'))
    {pre body cwl X : List Nat} {p : Nat} {un : Bool} {L : Nat} (hb : ByteList body)
    (hQ : Q X (body.take p)) (hp : p ≤ body.length)
    (hL : L = pre.length + 1 + X.length + (if un then 1 else 0) + (asciiEnc (body.drop p)).length)
    (htake : cwl.take L = pre ++ latch :: X ++ (if un then [254] else []) ++ asciiEnc (body.drop p))
    (hun : un = false → L = cwl.length ∧ (asciiEnc (body.drop p)).length ≤ 1) (hpd : Pads.Padded cwl L) :
    ∃ sF, run cwl.toArray (3 * cwl.length + 4) { i := pre.length } = .ok sF ∧
      sF.out = body.toArray ∧
      sF.trace = Array.replicate p m ++ Array.replicate (body.length - p) .ascii ∧
      sF.latches = #[(pre.length, m)] ∧ sF.ecis = #[] ∧
      sF.padAt = (if L = cwl.length then none else some L) := by
  have hlen := hpd.le
  have hrb : ByteList (body.drop p) := hb.drop _
  have hsplit : body.take p ++ body.drop p = body := List.take_append_drop _ _
  have htl : (body.take p).length = p := by rw [List.length_take]; omega
  have hdl : (body.drop p).length = body.length - p := List.length_drop
  have ho := occurs_of_take cwl pre (latch :: X ++ (if un then [254] else []) ++ asciiEnc (body.drop p))
    (by
      have : pre.length + (latch :: X ++ (if un then [254] else []) ++ asciiEnc (body.drop p)).length = L := by
        cases un <;> simp [hL] <;> omega
      rw [this, htake]; simp)
  have fin : ∀ (E : List Nat) (k : Nat), Tail cwl.toArray (pre.length + 1 + X.length) E k .ascii →
      Occurs cwl.toArray pre.length (latch :: X ++ E) →
      Occurs cwl.toArray (pre.length + 1 + X.length + k) (asciiEnc (body.drop p)) →
      L = pre.length + 1 + X.length + k + (asciiEnc (body.drop p)).length →
      ∃ sF, run cwl.toArray (3 * cwl.length + 4) { i := pre.length } = .ok sF ∧
        sF.out = body.toArray ∧
        sF.trace = Array.replicate p m ++ Array.replicate (body.length - p) .ascii ∧
        sF.latches = #[(pre.length, m)] ∧ sF.ecis = #[] ∧
        sF.padAt = (if L = cwl.length then none else some L) := by
    intro E k ht ho1 ho2 hL'
    obtain ⟨j, cst, hj, hst⟩ := hdec hQ cwl.toArray { i := pre.length } E k .ascii rfl ho1 ht
    refine ⟨_, hst.finish_ascii_rest rfl (body.drop p) hrb L
      (by simp only [afterStretch, hL']; omega) (by simpa [afterStretch, Nat.add_assoc] using ho2) hpd (by omega), ?_⟩
    simp [afterStretch, emit, hsplit, htl, hdl]
  have at_pos : ∀ {i j : Nat} {Y : List Nat}, Occurs cwl.toArray i Y → i = j → Occurs cwl.toArray j Y :=
    fun h e => e ▸ h
  cases un with
  | true =>
    simp only [↓reduceIte] at hL ho
    exact fin [254] 1 (t_unlatch _ _) ho.left (at_pos ho.right (by simp; omega)) hL
  | false =>
    obtain ⟨hfull, hle1⟩ := hun rfl
    simp only [Bool.false_eq_true, ↓reduceIte, Nat.add_zero, List.append_nil] at hL ho
    match hx : asciiEnc (body.drop p), hle1 with
    | [], _ =>
      have hnil := DM.Lemmas.AsciiSize.asciiSize_zero _ (by rw [← DM.Lemmas.EncRT.asciiEnc_size _, hx]; rfl)
      rw [hx] at hL ho
      simp only [List.length_nil, Nat.add_zero] at hL
      obtain ⟨j, cst, hj, hst⟩ := hdec hQ cwl.toArray { i := pre.length } [] 0 m rfl ho
        (t_exact _ _ (by simp only [List.size_toArray]; omega))
      refine ⟨_, hst.finish (step_end _ _ (by simp [afterStretch]; omega)) (by omega), ?_⟩
      rw [hnil, List.append_nil] at hsplit
      rw [hsplit] at htl
      simp [afterStretch, hsplit, htl, hfull]
    | [x], _ =>
      rw [hx] at hL ho
      have hx254 : x ≠ 254 := ((DM.Lemmas.EncRT.asciiSeg_enc _ hrb).1 x (by rw [hx]; simp)).1
      simp only [List.length_singleton] at hL
      exact fin [x] 0 (t_single _ _ x hx254 (by simp only [List.size_toArray]; omega)) ho
        (by rw [hx]; exact at_pos ho.right (by simp; omega)) (by rw [hx]; exact hL)

end DM.Lemmas.SpecPure
