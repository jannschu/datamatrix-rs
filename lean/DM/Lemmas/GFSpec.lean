import DM.Lemmas.GFLaws
/-
The table-driven multiplication of the crate is the carry-less multiplication modulo
x^8+x^5+x^3+x^2+1 of the specification, for all pairs of bytes.
Namespace: `DM.Lemmas`.
-/
namespace DM.Lemmas
open DM.Model DM.Spec

theorem succ_even_eq_xor {e : Nat} (he : e % 2 = 0) : e + 1 = e ^^^ 1 := by
  have h1 : (e ^^^ 1) / 2 = e / 2 := by rw [Nat.xor_div_two]; simp
  have h2 : (e ^^^ 1) % 2 = 1 := Nat.xor_mod_two_eq_one.mpr (by omega)
  omega

/-- Both multiplications are XOR-linear in the first factor and multiply by `x` with `xtime`, so
they agree bit by bit of the first factor. -/
theorem smulAux_eq_gmul : ∀ (f a b : Nat), a < 2 ^ f → a < 256 → b < 256 → smulAux f a b = gmul a b
  | 0, a, b, h, _, _ => by rw [show a = 0 by omega, gmul_zero_left]; rfl
  | f + 1, a, b, h, ha, hb => by
    have hx : xtime (a / 2) = 2 * (a / 2) := by unfold xtime; rw [if_neg (by omega)]; omega
    have step : gmul (a / 2) (xtime b) = gmul (2 * (a / 2)) b := by
      rw [← mul2_xtime b hb, ← gmul_assoc (by omega) (by omega) hb, gmul_comm (a / 2) 2,
        mul2_xtime _ (by omega), hx]
    rw [smulAux, smulAux_eq_gmul f (a / 2) (xtime b) (by rw [Nat.pow_succ] at h; omega) (by omega)
      (xtime_lt b hb), step]
    rcases Nat.mod_two_eq_zero_or_one a with h0 | h1
    · rw [if_neg (by omega), Nat.zero_xor]; congr 1; omega
    · have he : a = 2 * (a / 2) ^^^ 1 := by rw [← succ_even_eq_xor (by omega)]; omega
      have : gmul (2 * (a / 2) ^^^ 1) b = b ^^^ gmul (2 * (a / 2)) b := by
        rw [gmul_comm, gmul_xor hb (by omega) (by omega), gmul_comm b 1, gmul_one_left hb, gmul_comm b,
          Nat.xor_comm]
      rw [if_pos h1, ← this, ← he]

theorem gmul_eq_smul : ∀ a, a < 256 → ∀ b, b < 256 → gmul a b = smul a b :=
  fun a ha b hb => (smulAux_eq_gmul 8 a b ha ha hb).symm

theorem spow2_eq_alog : ∀ i, i < 255 → spow2 i = alog i := by
  intro i hi
  induction i with
  | zero => exact alog_zero.symm
  | succ i ih => rw [spow2, ih (by omega), alog_succ i (by omega)]

end DM.Lemmas
