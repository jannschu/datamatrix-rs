import DM.Lemmas.RSField
import DM.Lemmas.RSClean
/-
The value `chienRoots` of the Chien search on a non-empty word with non-zero last entry: no
repetition (`chienRoots_nodup`), and its members are exactly the non-zero bytes that are roots of
the word read as a polynomial (`mem_chienRoots_iff`), in the degree-one shortcut as in the general
search.
-/
namespace DM.Lemmas.ChienSpec
open DM.Model DM.Lemmas.RSTotal DM.Lemmas.RSTot

theorem testV_lt (c : List Nat) (i : Nat) : testV c i < 256 := by
  unfold testV
  apply RSSound.foldl_gadd_lt _ _ (by decide)
  intro x hx
  simp only [List.mem_map] at hx
  obtain ⟨j, _, rfl⟩ := hx
  exact gmul_lt' _ _

theorem chienRoots_nodup (c : List Nat) : (chienRoots c).Nodup := by
  obtain ⟨zero, rs, he, hz, hnd, hnz⟩ := chienRoots_spec c
  rw [he]
  rcases hz with rfl | rfl
  · exact hnd
  · exact List.nodup_cons.mpr ⟨fun h => (hnz 0 h).1 rfl, hnd⟩

theorem mem_chienRoots_iff (c : List Nat) (hc : Bytes c) (hne : c ≠ []) (hlast : c.getLast? ≠ some 0)
    (r : Nat) :
    r ∈ chienRoots c ↔ r < 256 ∧ r ≠ 0 ∧ evalH (toG c) (GF.ofNat r) = 0 := by
  rw [chienRoots, if_neg (by rw [List.isEmpty_iff]; exact hne), if_neg hlast, List.nil_append]
  split
  · -- degree one: the word is `[c0, c1]` with `c1 ≠ 0`, the polynomial `c0·y + c1`, its root `c1 / c0`
    rename_i hl2
    obtain ⟨c0, c1, rfl⟩ := List.length_eq_two.mp hl2
    have h0 : c0 < 256 := hc c0 (List.mem_cons_self ..)
    have h1 : c1 < 256 := hc c1 (List.mem_cons_of_mem _ (List.mem_cons_self ..))
    have hc1 : c1 ≠ 0 := fun h => hlast (by rw [h]; rfl)
    have hev : ∀ y : GF, evalH (toG [c0, c1]) y = 0 ↔ GF.ofNat c0 * y = GF.ofNat c1 := by
      intro y
      show (0 * y + GF.ofNat c0) * y + GF.ofNat c1 = 0 ↔ _
      rw [zero_mul, zero_add, add_eq_zero_iff_eq_neg, GF.neg_eq]
    rw [hev]
    show r ∈ (if c1 ≠ 0 ∧ c0 ≠ 0 then [gdivD c1 c0] else []) ↔ _
    split
    · rename_i h
      have hC0 : GF.ofNat c0 ≠ 0 := mt (GF.ofNat_eq_zero h0).mp h.2
      rw [List.mem_singleton]
      constructor
      · rintro rfl
        refine ⟨gdivD_lt _ _, gdivD_ne_zero h.1 h.2, ?_⟩
        rw [ofNat_gdivD h1 h0 h.2, mul_div_cancel₀ _ hC0]
      · rintro ⟨hr, _, he⟩
        apply ofNat_inj hr (gdivD_lt _ _)
        rw [ofNat_gdivD h1 h0 h.2, eq_div_iff hC0, mul_comm]
        exact he
    · rename_i h
      have hc0 : c0 = 0 := Decidable.byContradiction fun h' => h ⟨hc1, h'⟩
      refine ⟨fun hr => (nomatch hr), fun ⟨_, _, he⟩ => ?_⟩
      rw [hc0, ofNat_zero, zero_mul] at he
      exact absurd ((GF.ofNat_eq_zero h1).mp he.symm) hc1
  · -- the general search: `testV c i` is the value at `α^i = alog i`, and a non-zero byte is `alog (glog r)`
    have htest : ∀ i, i < 255 → (testV c i = 0 ↔ evalH (toG c) (GF.ofNat (alog i)) = 0) := by
      intro i hi
      rw [ofNat_alog i hi, ← ofNat_testV c hc i]
      exact (GF.ofNat_eq_zero (testV_lt c i)).symm
    simp only [List.mem_map, List.mem_filter, List.mem_range, beq_iff_eq]
    constructor
    · rintro ⟨i, ⟨hi, ht⟩, rfl⟩
      exact ⟨(alog_pos i hi).2, (alog_pos i hi).1, (htest i hi).mp ht⟩
    · rintro ⟨hr, hr0, hs⟩
      refine ⟨glog r, ⟨log_lt r hr, (htest _ (log_lt r hr)).mpr ?_⟩, alog_log r hr hr0⟩
      rw [alog_log r hr hr0]
      exact hs

end DM.Lemmas.ChienSpec
