import DM.Lemmas.EncState
import DM.Lemmas.AsciiSize
/-
What each function of the encoder model does, stated once (the state's primitives are in `EncState`): the end-of-data
handlers and one round of every loop as equations in normal form, every leaf an explicit state, an explicit error, a handler
or the next round behind `onSwitch`; and the one relation between a handler's argument and its result, `Ended`.
`asciiLoop_eq` is in `AsciiRT`, beside `asciiHead`; the walk through the loops for `Res` is in `EncPass`.
Namespaces: `EncStep`, `EncStep.Ended`, `CoupleEdi` (`handleEnd_assert_unreachable`).
-/
namespace DM.Lemmas.EncStep
open DM.Model DM.Model.Enc DM.Lemmas.EdiRT

/-- What `handle_end` (C40 / Text, EDIFACT), `try_ascii_end` and `write_length` do to the state they are
called with: they rewrite the codewords, and they may call `set_ascii_until_end`, after giving back
`back ≤ k` characters, with at most `n` characters then left. -/
inductive Ended (n k : Nat) (s : St) : St → Prop
  | wrote (cw : List Nat) : Ended n k s { s with cw := cw }
  | ascii (cw : List Nat) (back : Nat) (hk : back ≤ k) (hp : back ≤ s.pos) (hn : back + s.charsLeft ≤ n) :
      Ended n k s ({ s with cw := cw, pos := s.pos - back } : St).setAscii

namespace Ended
variable {n k : Nat} {s t : St}

theorem refl (s : St) : Ended n k s s := .wrote s.cw

theorem push (h : Ended n k s t) (c : Nat) : Ended n k s (t.push c) := by
  cases h with
  | wrote cw => exact .wrote _
  | ascii cw back hk hp hn => exact .ascii (cw ++ [c]) back hk hp hn

theorem writeThree (h : Ended n k s t) (a b c : Nat) : Ended n k s (writeThree t a b c) := (h.push _).push _

theorem withCw (h : Ended n k s t) (cw : List Nat) : Ended n k s { t with cw := cw } := by
  cases h with
  | wrote _ => exact .wrote cw
  | ascii _ back hk hp hn => exact .ascii cw back hk hp hn

theorem write4 (h : Ended n k s t) (sym : List Nat) : Ended n k s (write4 t sym) := by
  rw [write4_eq]; exact h.withCw _

theorem setAscii (h : Ended n k s t) (hn : s.charsLeft ≤ n) : Ended n k s t.setAscii := by
  cases h with
  | wrote cw => exact .ascii cw 0 (Nat.zero_le _) (Nat.zero_le _) (by omega)
  | ascii cw back hk hp hn => exact .ascii cw back hk hp hn

theorem mono {n' k' : Nat} (h : Ended n k s t) (hn : n ≤ n') (hk : k ≤ k') : Ended n' k' s t := by
  cases h with
  | wrote cw => exact .wrote cw
  | ascii cw back hk' hp hn' => exact .ascii cw back (by omega) hp (by omega)

theorem andThen {u : St} (h1 : Ended n k s t) (h2 : Ended n 0 t u) : Ended n k s u := by
  cases h2 with
  | wrote cw => exact h1.withCw cw
  | ascii cw back hk hp hn =>
    cases Nat.le_zero.mp hk
    cases h1 with
    | wrote cw1 => exact .ascii cw 0 (Nat.zero_le _) (Nat.zero_le _) hn
    | ascii cw1 b1 hk1 hp1 hn1 => exact .ascii cw b1 hk1 hp1 hn1

theorem input (h : Ended n k s t) : t.input = s.input := by cases h <;> rfl
theorem newMode (h : Ended n k s t) : t.newMode = s.newMode := by cases h <;> rfl
theorem pos_le (h : Ended n k s t) : t.pos ≤ s.pos := by
  cases h with
  | wrote => exact Nat.le_refl _
  | ascii => exact Nat.sub_le _ _
theorem le_pos (h : Ended n k s t) : s.pos ≤ t.pos + k := by
  cases h with
  | wrote => exact Nat.le_add_right _ _
  | ascii cw back hk hp hn => show s.pos ≤ s.pos - back + k; omega

theorem eq_setAscii (h : Ended n 0 s t) (hm : t.mode = .ascii) (hp : t.plan = [(0, .ascii)]) :
    ∃ cw, t = ({ s with cw := cw } : St).setAscii := by
  cases h with
  | wrote cw => exact ⟨cw, St_ext _ _ rfl rfl hm hp rfl rfl rfl⟩
  | ascii cw back hk _ _ => cases Nat.le_zero.mp hk; exact ⟨cw, rfl⟩

end Ended

theorem tryAsciiEnd_eq (s : St) (sym : List Nat) :
    edifactTryAsciiEnd s sym =
      if AsciiEndOK s.list s.cw.length (sym ++ s.rest) then
        if sym.length ≤ s.pos then .ok (some ({ s with pos := s.pos - sym.length } : St).setAscii)
        else .error (.panic "backup: subtract with overflow")
      else .ok none := by
  have hlen : (sym ++ s.rest).length = sym.length + s.charsLeft := by rw [List.length_append, rest_length]
  unfold edifactTryAsciiEnd St.backup
  simp only [asciiEndOK_iff, hlen, CoupleC40.st_sizeLeft]
  by_cases h4 : sym.length + s.charsLeft ≤ 4
  · by_cases h2 : asciiSize (sym ++ s.rest) ≤ 2
    · rw [if_pos h4, if_pos h2]
      cases CoupleC40.szLeft s.list (s.cw.length + asciiSize (sym ++ s.rest)) with
      | none => exact (if_neg (by rintro ⟨_, _, r, hr, _⟩; cases hr)).symm
      | some r =>
        dsimp only
        by_cases hsp : r + asciiSize (sym ++ s.rest) ≤ 2
        · rw [if_pos (show _ ∧ _ from ⟨hsp, Nat.le_add_left _ _⟩), if_pos (show _ ∧ _ ∧ _ from ⟨h4, h2, r, rfl, hsp⟩)]
          by_cases hp : sym.length ≤ s.pos
          · rw [if_pos hp, if_pos hp]
          · rw [if_neg hp, if_neg hp]
        · rw [if_neg (fun h : _ ∧ _ => hsp h.1), if_neg (by rintro ⟨_, _, r', hr, h⟩; cases hr; exact hsp h)]
    · rw [if_pos h4, if_neg h2, if_neg (fun h => h2 h.2.1)]
  · rw [if_neg h4, if_neg (fun h => h4 h.1)]

theorem tryAsciiEnd_res (s : St) (sym : List Nat) :
    Res (fun o => ∀ s', o = some s' → sym.length ≤ s.pos ∧ sym.length + s.charsLeft ≤ 4 ∧
        s' = ({ s with pos := s.pos - sym.length } : St).setAscii) (edifactTryAsciiEnd s sym) := by
  rw [tryAsciiEnd_eq]
  refine res_if (fun hok => res_if (fun hp => ?_) fun _ => res_panic) fun _ => nofun
  intro s' h; cases h
  have := hok.1
  rw [List.length_append, rest_length] at this
  exact ⟨hp, this, rfl⟩

/-- No leaf for the crate's `assert!(space_left > 2)`: with nothing buffered and nothing left, two or fewer
codewords of room are an ASCII end. -/
theorem edifactHandleEnd_eq (s : St) (sym : List Nat) :
    edifactHandleEnd s sym =
      if AsciiEndOK s.list s.cw.length (sym ++ s.rest) then
        if sym.length ≤ s.pos then .ok ({ s with pos := s.pos - sym.length } : St).setAscii
        else .error (.panic "backup: subtract with overflow")
      else if 3 < sym.length then .error (.panic "assert symbols.len() <= 3")
      else if s.hasMore then .ok (if sym = [] then s.push 124 else write4 s (sym ++ [31]))
      else match CoupleC40.szLeft s.list (s.cw.length + sym.length) with
        | none => .error .tooMuch
        | some r => .ok (
            if sym = [] then (if r > 0 then (s.push 124).setAscii else s)
            else if r > 0 ∨ sym.length = 3 then write4 s.setAscii (sym ++ [31])
            else write4 s sym) := by
  unfold edifactHandleEnd
  rw [tryAsciiEnd_eq]
  by_cases hok : AsciiEndOK s.list s.cw.length (sym ++ s.rest)
  · rw [if_pos hok, if_pos hok]
    by_cases hp : sym.length ≤ s.pos
    · rw [if_pos hp, if_pos hp]
    · rw [if_neg hp, if_neg hp]
  rw [if_neg hok, if_neg hok]
  dsimp only
  cases sym with
  | nil =>
    cases hm : s.hasMore with
    | true => simp
    | false =>
      have hr : s.rest = [] := List.eq_nil_of_length_eq_zero ((rest_length s).trans (noMore hm))
      rw [hr] at hok
      simp only [sizeLeftE_eq, List.length_nil, Bool.not_false, if_true, Bool.false_eq_true, if_false, List.isEmpty_nil]
      cases hf : CoupleC40.szLeft s.list (s.cw.length + 0) with
      | none => rfl
      | some r =>
        have h2 : ¬ r ≤ 2 := fun h2 => hok (asciiEndOK_iff.mpr ⟨Nat.zero_le _, Nat.zero_le _, r, hf, h2⟩)
        by_cases hpos : r > 0 <;> simp [hpos, h2]
  | cons a t =>
    simp only [List.isEmpty_cons, Bool.false_eq_true, if_false, reduceCtorEq]
    by_cases h3 : 3 < (a :: t).length
    · rw [if_pos h3, if_pos h3]
    rw [if_neg h3, if_neg h3]
    cases hm : s.hasMore with
    | true => rfl
    | false =>
      simp only [Bool.not_false, if_true, sizeLeftE_eq, Bool.false_eq_true, if_false]
      cases CoupleC40.szLeft s.list (s.cw.length + (a :: t).length) with
      | none => rfl
      | some r => dsimp only; split <;> rfl

theorem edifactHandleEnd_res (s : St) (sym : List Nat) : Res (Ended 4 sym.length s) (edifactHandleEnd s sym) := by
  have h0 : s.hasMore = false → s.charsLeft ≤ 4 := fun h => by rw [noMore h]; omega
  rw [edifactHandleEnd_eq]
  refine res_if (fun hok => res_if (fun hp => ?_) fun _ => res_panic) fun _ => res_ite res_panic (res_if (fun _ => ?_) fun hm => ?_)
  · have := hok.1
    rw [List.length_append, rest_length] at this
    exact .ascii s.cw _ (Nat.le_refl _) hp this
  · show Ended _ _ _ (if _ then _ else _)
    split
    · exact (Ended.refl s).push _
    · exact (Ended.refl s).write4 _
  · have hm' : s.hasMore = false := by simpa using hm
    split
    · nofun
    · show Ended _ _ _ (if _ then _ else _)
      split
      · split
        · exact ((Ended.refl s).push _).setAscii (h0 hm')
        · exact Ended.refl s
      · split
        · exact ((Ended.refl s).setAscii (h0 hm')).write4 _
        · exact (Ended.refl s).write4 _

/-- second stage of `handle_end`: a partial triple is completed with Shift 2 (and Upper Shift) and written;
`asc`: nothing was left when `handle_end` was called, ASCII until the end -/
def c40Pad (asc : Bool) (s : St) (buf : List Nat) : St :=
  if buf = [] then s else
    let t := writeThree s (buf.getD 0 0) (if buf.length = 1 then 1 else buf.getD 1 0) (if buf.length = 1 then 30 else 1)
    if asc then t.setAscii else t

/-- last stage of `handle_end`: the UNLATCH codeword; in front of two final digits it is `set_ascii_until_end` -/
def c40Unlatch (asc : Bool) (s : St) : R St :=
  if s.charsLeft > 0 then
    if s.charsLeft = 2 ∧ twoDigitsComing s.rest then
      match s.sizeLeftE 1 with
      | .error e => .error e
      | .ok spaceLeft => .ok (if spaceLeft ≥ 1 then s.setAscii.push 254 else s.setAscii)
    else .ok (s.push 254)
  else
    match s.sizeLeftE 0 with
    | .error e => .error e
    | .ok left => if left > 0 then .ok (if asc then (s.push 254).setAscii else s.push 254) else .ok s

theorem c40HandleEnd_late (s : St) (buf : List Nat) (hb : buf.length ≤ 2) (ms : Bool) :
    (let s1 :=
      if !buf.isEmpty then
        let buf := buf ++ [1]
        let buf := if buf.length = 2 then buf ++ [30] else buf
        let s := writeThree s (buf.getD 0 0) (buf.getD 1 0) (buf.getD 2 0)
        if !ms then s.setAscii else s
      else s
    if s1.charsLeft > 0 then
      if s1.charsLeft = 2 ∧ twoDigitsComing s1.rest then
        match s1.sizeLeftE 1 with
        | .error e => .error e
        | .ok spaceLeft =>
          let s := s1.setAscii
          .ok (if spaceLeft ≥ 1 then s.push 254 else s)
      else .ok (s1.push 254)
    else
      match s1.sizeLeftE 0 with
      | .error e => .error e
      | .ok left =>
        if left > 0 then
          let s := s1.push 254
          .ok (if !ms then s.setAscii else s)
        else .ok s1) = c40Unlatch (!ms) (c40Pad (!ms) s buf) := by
  have hp : (if !buf.isEmpty then
        let buf := buf ++ [1]
        let buf := if buf.length = 2 then buf ++ [30] else buf
        let s := writeThree s (buf.getD 0 0) (buf.getD 1 0) (buf.getD 2 0)
        if !ms then s.setAscii else s
      else s) = c40Pad (!ms) s buf := by
    match buf, hb with
    | [], _ => rfl
    | [a], _ => cases ms <;> rfl
    | [a, b], _ => cases ms <;> rfl
    | _ :: _ :: _ :: _, h => exact absurd h (by simp)
  dsimp only
  rw [hp]
  cases ms <;> rfl

/-- **`handle_end`** of C40 / Text: with data left (a planned switch, or two final digits) pad and unlatch; at the
end of the data three exact fits come first — two values and two codewords (one more triple, fill value 0), one
value and two codewords (UNLATCH, the character again in ASCII), one value and one codeword (the character again in
ASCII without UNLATCH) -/
theorem c40HandleEnd_eq (s : St) (lastCh : Nat) (buf : List Nat) :
    c40HandleEnd s lastCh buf =
      if buf.length > 2 then .error (.panic "assert buf.len() <= 2")
      else if s.hasMore then c40Unlatch false (c40Pad false s buf)
      else match s.sizeLeft buf.length with
        | none => .error .tooMuch
        | some sl =>
          if sl + buf.length = 2 ∧ buf.length = 2 then .ok (writeThree s (buf.getD 0 0) (buf.getD 1 0) 0)
          else if sl + buf.length = 2 ∧ buf.length = 1 then
            if 1 ≤ s.pos then .ok ({ s with cw := s.cw ++ [254], pos := s.pos - 1 } : St).setAscii
            else .error (.panic "backup: subtract with overflow")
          else if sl + buf.length = 1 ∧ buf.length = 1 ∧ asciiSize [lastCh] = 1 then
            if 1 ≤ s.pos then .ok ({ s with pos := s.pos - 1 } : St).setAscii
            else .error (.panic "backup: subtract with overflow")
          else c40Unlatch true (c40Pad true s buf) := by
  unfold c40HandleEnd
  by_cases h2 : buf.length > 2
  · rw [if_pos h2, if_pos h2]
  rw [if_neg h2, if_neg h2]
  have hb : buf.length ≤ 2 := Nat.le_of_not_lt h2
  cases hm : s.hasMore with
  | true =>
    rw [if_pos rfl]
    exact c40HandleEnd_late s buf hb true
  | false =>
    simp only [Bool.not_false, if_true, St.sizeLeftE, Bool.false_eq_true, if_false]
    cases hs : s.sizeLeft buf.length with
    | none => rfl
    | some sl =>
      dsimp only
      by_cases c1 : sl + buf.length = 2 ∧ buf.length = 2
      · rw [if_pos c1, if_pos c1]
      rw [if_neg c1, if_neg c1]
      by_cases c2 : sl + buf.length = 2 ∧ buf.length = 1
      · rw [if_pos c2, if_pos c2]
        unfold St.backup
        by_cases hp : 1 ≤ s.pos
        · have h1 : 1 ≤ (s.push 254).setAscii.pos := hp
          rw [if_pos hp, if_pos h1]; rfl
        · have h1 : ¬ 1 ≤ (s.push 254).setAscii.pos := hp
          rw [if_neg hp, if_neg h1]
      rw [if_neg c2, if_neg c2]
      by_cases c3 : sl + buf.length = 1 ∧ buf.length = 1 ∧ asciiSize [lastCh] = 1
      · rw [if_pos c3, if_pos c3]
        unfold St.backup
        by_cases hp : 1 ≤ s.pos
        · have h1 : 1 ≤ s.setAscii.pos := hp
          rw [if_pos hp, if_pos h1]; rfl
        · have h1 : ¬ 1 ≤ s.setAscii.pos := hp
          rw [if_neg hp, if_neg h1]
      rw [if_neg c3, if_neg c3]
      exact c40HandleEnd_late s buf hb false

theorem c40Pad_rest (asc : Bool) (s : St) (buf : List Nat) :
    (c40Pad asc s buf).charsLeft = s.charsLeft ∧ (c40Pad asc s buf).rest = s.rest := by
  unfold c40Pad
  split
  · exact ⟨rfl, rfl⟩
  · cases asc <;> exact ⟨rfl, rfl⟩

theorem c40Pad_ended (asc : Bool) (s : St) (buf : List Nat) (h : asc = true → s.charsLeft ≤ 2) :
    Ended 2 0 s (c40Pad asc s buf) := by
  unfold c40Pad
  split
  · exact Ended.refl s
  · cases asc
    · exact (Ended.refl s).writeThree _ _ _
    · exact ((Ended.refl s).writeThree _ _ _).setAscii (h rfl)

theorem c40Unlatch_res (asc : Bool) (s : St) :
    Res (fun s' => Ended 2 0 s s' ∧
        (s.charsLeft = 2 ∧ twoDigitsComing s.rest = true → s'.mode = .ascii ∧ s'.plan = [(0, .ascii)]))
      (c40Unlatch asc s) := by
  unfold c40Unlatch
  refine res_if (fun _ => res_if (fun h2 => ?_) fun hn => ?_) fun h0 => ?_
  · split
    · exact sizeLeftE_err ‹_›
    · have := (Ended.refl (n := 2) (k := 0) s).setAscii (Nat.le_of_eq h2.1)
      exact ⟨by split; exact this.push _; exact this, fun _ => by split <;> exact ⟨rfl, rfl⟩⟩
  · exact ⟨(Ended.refl s).push _, fun hc => (hn hc).elim⟩
  · split
    · exact sizeLeftE_err ‹_›
    · refine res_ite ⟨?_, fun hc => by omega⟩ ⟨Ended.refl s, fun hc => by omega⟩
      cases asc
      · exact (Ended.refl s).push _
      · exact ((Ended.refl s).push _).setAscii (by omega)

theorem c40HandleEnd_res (s : St) (lastCh : Nat) (buf : List Nat) :
    Res (fun s' => Ended 2 (if s.hasMore then 0 else min buf.length 1) s s' ∧
        (s.charsLeft = 2 ∧ twoDigitsComing s.rest = true → s'.mode = .ascii ∧ s'.plan = [(0, .ascii)]))
      (c40HandleEnd s lastCh buf) := by
  obtain ⟨hcl, hrest⟩ := c40Pad_rest (!s.hasMore) s buf
  rw [c40HandleEnd_eq]
  refine res_ite res_panic ?_
  cases hm : s.hasMore with
  | true =>
    rw [hm] at hcl hrest
    rw [if_pos rfl, if_pos rfl]
    refine (c40Unlatch_res false _).mono fun s' h => ⟨(c40Pad_ended false s buf nofun).andThen h.1, ?_⟩
    rw [← hcl, ← hrest]
    exact h.2
  | false =>
    have h0 : s.charsLeft = 0 := noMore hm
    have hno : ∀ {X : Prop}, s.charsLeft = 2 ∧ twoDigitsComing s.rest = true → X := fun hc => by omega
    rw [if_neg (by decide), if_neg (by decide)]
    split
    · nofun
    · refine res_ite ⟨(Ended.refl s).writeThree _ _ _, hno⟩ (res_if (fun c2 => ?_) fun _ => res_if (fun c3 => ?_) fun _ => ?_)
      · exact res_if (fun hp => ⟨.ascii (s.cw ++ [254]) 1 (by omega) hp (by omega), hno⟩) fun _ => res_panic
      · exact res_if (fun hp => ⟨.ascii s.cw 1 (by omega) hp (by omega), hno⟩) fun _ => res_panic
      · exact (c40Unlatch_res true _).mono fun s' h =>
          ⟨((c40Pad_ended true s buf fun _ => by omega).mono (Nat.le_refl _) (Nat.zero_le _)).andThen h.1, hno⟩


/-- the last step of `write_length`: the `written` codewords from `start` on are randomised -/
def b256Rand (start written : Nat) (cw : List Nat) : List Nat :=
  (List.range cw.length).map fun i =>
    if start ≤ i ∧ i < start + written then randomize255 (cw.getD i 0) (i + 1) else cw.getD i 0

theorem b256WriteLength_eq (s : St) (start : Nat) :
    b256WriteLength s start =
      match s.sizeLeft 0 with
      | none => .error .tooMuch
      | some sp =>
        if s.cw.length < start then .error (.panic "len - start")
        else if s.hasMore ∨ sp > 0 then
          if s.cw.length - start = 0 then .error (.panic "data_written - 1")
          else if s.cw.length - start - 1 ≤ 249 then
            .ok { s with cw := b256Rand start (s.cw.length - start) (s.cw.set start (s.cw.length - start - 1)) }
          else if s.cw.length - start - 1 ≤ 1555 then
            .ok { s with
              cw := b256Rand start (s.cw.length - start + 1)
                ((s.cw.set start ((s.cw.length - start - 1) / 250 + 249)).take (start + 1) ++
                  [(s.cw.length - start - 1) % 250] ++
                  (s.cw.set start ((s.cw.length - start - 1) / 250 + 249)).drop (start + 1)) }
          else .error (.panic "base256 data too long")
        else .ok { s with cw := b256Rand start (s.cw.length - start) s.cw } := by
  unfold b256WriteLength St.sizeLeftE
  cases s.sizeLeft 0 with
  | none => rfl
  | some sp =>
    dsimp only
    by_cases h1 : s.cw.length < start
    · rw [if_pos h1, if_pos h1]
    rw [if_neg h1, if_neg h1]
    by_cases h2 : s.hasMore = true ∨ sp > 0
    · rw [if_pos h2, if_pos h2]
      by_cases h3 : s.cw.length - start = 0
      · rw [if_pos h3, if_pos h3]
      rw [if_neg h3, if_neg h3]
      by_cases h4 : s.cw.length - start - 1 ≤ 249
      · rw [if_pos h4, if_pos h4]; rfl
      rw [if_neg h4, if_neg h4]
      by_cases h5 : s.cw.length - start - 1 ≤ 1555
      · rw [if_pos h5, if_pos h5]; rfl
      · rw [if_neg h5, if_neg h5]
    · rw [if_neg h2, if_neg h2]; rfl

theorem b256WriteLength_res (s : St) (start : Nat) :
    Res (fun s' => ∃ cw, s' = { s with cw := cw }) (b256WriteLength s start) := by
  rw [b256WriteLength_eq]
  split
  · nofun
  · exact res_ite res_panic (res_ite (res_ite res_panic (res_ite ⟨_, rfl⟩ (res_ite ⟨_, rfl⟩ res_panic))) ⟨_, rfl⟩)

/-- what `x12::encode` does behind its loop (`sw`: the loop ended with a planned switch) -/
def x12Tail (s : St) (sw : Bool) : R St :=
  if s.charsLeft ≤ 2 ∧ asciiSize s.rest = 1 then
    match CoupleC40.szLeft s.list (s.cw.length + 1) with
    | none => .error .tooMuch
    | some r => .ok (if r = 0 then s.setAscii else (if !sw then s.setAscii else s).push 254)
  else if s.hasMore then .ok ((if !sw then s.setAscii else s).push 254)
  else match CoupleC40.szLeft s.list (s.cw.length + 0) with
    | none => .error .tooMuch
    | some r => .ok (if r > 0 then (if !sw then s.setAscii else s).push 254 else s)

theorem x12Encode_eq (s : St) :
    x12Encode s =
      match x12Loop (s.charsLeft + 2) s with
      | .error e => .error e
      | .ok (t, sw) => x12Tail t sw := by
  unfold x12Encode
  cases x12Loop (s.charsLeft + 2) s with
  | error e => rfl
  | ok r =>
    obtain ⟨t, sw⟩ := r
    unfold x12Tail
    simp only [sizeLeftE_eq]
    by_cases h1 : t.charsLeft ≤ 2 ∧ asciiSize t.rest = 1
    · have hm : t.hasMore = true := by
        refine (hasMore_charsLeft t).mpr (Nat.pos_of_ne_zero fun h0 => ?_)
        have hr : t.rest = [] := List.eq_nil_of_length_eq_zero ((rest_length t).trans h0)
        rw [hr] at h1
        exact absurd h1.2 (by decide)
      rw [if_pos h1, if_pos h1]
      cases CoupleC40.szLeft t.list (t.cw.length + 1) with
      | none => rfl
      | some r => by_cases h0 : r = 0 <;> simp [h0, hm]
    · rw [if_neg h1, if_neg h1]
      cases hm : t.hasMore with
      | true => simp
      | false =>
        simp only [Bool.false_eq_true, if_false]
        cases CoupleC40.szLeft t.list (t.cw.length + 0) with
        | none => rfl
        | some r => by_cases h0 : r > 0 <;> simp [h0]

theorem x12Tail_ok {s s' : St} {sw : Bool} (h : x12Tail s sw = .ok s') :
    (s.charsLeft ≤ 2 ∧ asciiSize s.rest = 1 ∧ s.sizeLeft 1 = some 0 ∧ s' = s.setAscii) ∨
    s' = (if !sw then s.setAscii else s).push 254 ∨
    (s.hasMore = false ∧ s.sizeLeft 0 = some 0 ∧ s' = s) := by
  unfold x12Tail at h
  rw [CoupleC40.st_sizeLeft, CoupleC40.st_sizeLeft]
  split at h
  · next h1 =>
    cases hf : CoupleC40.szLeft s.list (s.cw.length + 1) with
    | none => rw [hf] at h; cases h
    | some r =>
      rw [hf] at h
      dsimp only at h
      split at h <;> cases h
      · next h0 => exact .inl ⟨h1.1, h1.2, congrArg some h0, rfl⟩
      · exact .inr (.inl rfl)
  · split at h
    · cases h; exact .inr (.inl rfl)
    · next hm =>
      cases hf : CoupleC40.szLeft s.list (s.cw.length + 0) with
      | none => rw [hf] at h; cases h
      | some r =>
        rw [hf] at h
        dsimp only at h
        split at h <;> cases h
        · exact .inr (.inl rfl)
        · next h0 => exact .inr (.inr ⟨by simpa using hm, congrArg some (by omega), rfl⟩)

theorem x12Encode_ok {s s' : St} (h : x12Encode s = .ok s') :
    ∃ t sw, x12Loop (s.charsLeft + 2) s = .ok (t, sw) ∧
      ((t.charsLeft ≤ 2 ∧ asciiSize t.rest = 1 ∧ t.sizeLeft 1 = some 0 ∧ s' = t.setAscii) ∨
       s' = (if !sw then t.setAscii else t).push 254 ∨ (t.hasMore = false ∧ t.sizeLeft 0 = some 0 ∧ s' = t)) := by
  rw [x12Encode_eq] at h
  cases hl : x12Loop (s.charsLeft + 2) s with
  | error e => rw [hl] at h; cases h
  | ok r => rw [hl] at h; exact ⟨r.1, r.2, rfl, x12Tail_ok h⟩


theorem c40Loop_eq (text : Bool) (f : Nat) (s : St) (buf : List Nat) (lastCh : Nat) :
    c40Loop text (f + 1) s buf lastCh =
      match s.rest with
      | [] => c40HandleEnd s lastCh buf
      | ch :: _ =>
        if buf = [] ∧ s.charsLeft = 2 ∧ twoDigitsComing s.rest = true then c40HandleEnd s lastCh buf
        else match toVals text buf ch with
          | .error e => .error e
          | .ok buf1 =>
            onSwitch (flushTriples 3 { s with pos := s.pos + 1 } buf1).1
              (fun s3 => c40HandleEnd s3 ch (flushTriples 3 { s with pos := s.pos + 1 } buf1).2)
              (fun s3 => c40Loop text f s3 (flushTriples 3 { s with pos := s.pos + 1 } buf1).2 ch) := by
  rw [c40Loop, eat_eq]
  cases hr : s.rest with
  | nil => rfl
  | cons ch t =>
    have hlen : s.charsLeft = t.length + 1 := by rw [← rest_length, hr]; rfl
    have ht : ({ s with pos := s.pos + 1 } : St).rest = t := by
      have : s.rest.drop 1 = t := by rw [hr]; rfl
      rw [← this]; simp [St.rest]
    have hbk : ({ s with pos := s.pos + 1 } : St).backup 1 = .ok s := by
      unfold St.backup; rw [if_pos (Nat.le_add_left 1 s.pos)]; rfl
    dsimp only
    rw [ht, hlen]
    -- the test of the model (`buf` empty, a digit, exactly one more digit behind it) is the test on `s.rest`
    rcases t with _ | ⟨d, _ | ⟨e, u⟩⟩
    · rw [if_neg (by simp), if_neg (by simp)]; rfl
    · by_cases hc : buf = [] ∧ (isDigit ch && isDigit d) = true
      · rw [if_pos (by simpa [Bool.and_assoc] using hc), if_pos ⟨hc.1, rfl, hc.2⟩, hbk]
      · rw [if_neg (by simpa [Bool.and_assoc] using hc), if_neg (fun h => hc ⟨h.1, h.2.2⟩)]; rfl
    · rw [if_neg (by simp), if_neg (by simp)]; rfl

theorem edifactLoop_eq (f : Nat) (s : St) (sym : List Nat) :
    edifactLoop (f + 1) s sym =
      if sym = [] ∧ s.hasMore = true ∧ AsciiEndOK s.list s.cw.length s.rest then .ok s.setAscii
      else match s.rest with
        | [] => edifactHandleEnd s sym
        | ch :: _ =>
          if (sym ++ [ch]).length = 4 then
            onSwitch (write4 { s with pos := s.pos + 1 } (sym ++ [ch])) (fun s3 => edifactHandleEnd s3 [])
              (fun s3 => edifactLoop f s3 [])
          else
            onSwitch { s with pos := s.pos + 1 } (fun s3 => edifactHandleEnd s3 (sym ++ [ch]))
              (fun s3 => edifactLoop f s3 (sym ++ [ch])) := by
  have hcont : (match s.eat with
      | none => edifactHandleEnd s sym
      | some (ch, s1) =>
        let sym1 := sym ++ [ch]
        let (s2, sym2) := if sym1.length = 4 then (write4 s1 sym1, []) else (s1, sym1)
        match s2.maybeSwitch with
        | .error e => .error e
        | .ok (true, s3) => edifactHandleEnd s3 sym2
        | .ok (false, s3) => edifactLoop f s3 sym2) =
      (match s.rest with
        | [] => edifactHandleEnd s sym
        | ch :: _ =>
          if (sym ++ [ch]).length = 4 then
            onSwitch (write4 { s with pos := s.pos + 1 } (sym ++ [ch])) (fun s3 => edifactHandleEnd s3 [])
              (fun s3 => edifactLoop f s3 [])
          else
            onSwitch { s with pos := s.pos + 1 } (fun s3 => edifactHandleEnd s3 (sym ++ [ch]))
              (fun s3 => edifactLoop f s3 (sym ++ [ch]))) := by
    rw [eat_eq]
    cases s.rest with
    | nil => rfl
    | cons ch t =>
      dsimp only
      by_cases h4 : (sym ++ [ch]).length = 4
      · rw [if_pos h4, if_pos h4]; rfl
      · rw [if_neg h4, if_neg h4]; rfl
  rw [edifactLoop]
  dsimp only
  by_cases he : sym.isEmpty = true ∧ s.hasMore = true
  · obtain rfl : sym = [] := by simpa using he.1
    rw [if_pos he, tryAsciiEnd_eq, List.nil_append]
    by_cases hok : AsciiEndOK s.list s.cw.length s.rest
    · rw [if_pos hok, if_pos (show ([] : List Nat).length ≤ s.pos from Nat.zero_le _), if_pos ⟨rfl, he.2, hok⟩]; rfl
    · rw [if_neg hok, if_neg (fun h => hok h.2.2)]; exact hcont
  · rw [if_neg he, if_neg (fun h => he ⟨by simp [h.1], h.2.1⟩)]; exact hcont

/-- no leaf for the `unwrap`s of `eat()`: three characters are left -/
theorem x12Loop_eq (f : Nat) (s : St) :
    x12Loop (f + 1) s =
      match s.rest with
      | a :: b :: c :: _ =>
        match x12Enc a, x12Enc b, x12Enc c with
        | .ok v1, .ok v2, .ok v3 =>
          onSwitch (writeThree { s with pos := s.pos + 3 } v1 v2 v3) (fun s1 => .ok (s1, true)) (x12Loop f)
        | .error e, _, _ => .error e
        | _, .error e, _ => .error e
        | _, _, .error e => .error e
      | _ => .ok (s, false) := by
  rw [x12Loop, ← rest_length]
  rcases hr : s.rest with _ | ⟨a, _ | ⟨b, _ | ⟨c, t⟩⟩⟩
  · rfl
  · rfl
  · rfl
  · rw [if_pos (by simp)]; rfl

/-- how `b256Loop` returns: `write_length`, and `set_ascii_until_end` if no character is left -/
def b256Finish (start : Nat) (s : St) : R St :=
  match b256WriteLength s start with
  | .error e => .error e
  | .ok s' => .ok (if s.hasMore then s' else s'.setAscii)

theorem b256Finish_ok {start : Nat} {s s' : St} (h : b256Finish start s = .ok s') :
    ∃ s1, b256WriteLength s start = .ok s1 ∧ s' = if s.hasMore then s1 else s1.setAscii := by
  unfold b256Finish at h
  split at h
  · cases h
  · cases h; exact ⟨_, ‹_›, rfl⟩

theorem b256Finish_res (start : Nat) (s : St) :
    Res (fun s' => ∃ cw, s' = if s.hasMore then { s with cw := cw } else ({ s with cw := cw } : St).setAscii)
      (b256Finish start s) := by
  unfold b256Finish
  cases hw : b256WriteLength s start with
  | error e => exact (b256WriteLength_res s start).err hw
  | ok s1 =>
    obtain ⟨cw, rfl⟩ := (b256WriteLength_res s start).ok hw
    exact ⟨cw, rfl⟩

theorem b256Loop_eq (start f : Nat) (s : St) :
    b256Loop start (f + 1) s =
      match s.rest with
      | [] => b256Finish start s
      | [ch] => b256Finish start { s with pos := s.pos + 1, cw := s.cw ++ [ch] }
      | ch :: _ => onSwitch { s with pos := s.pos + 1, cw := s.cw ++ [ch] } (b256Finish start) (b256Loop start f) := by
  have hfin : ∀ t : St, (match b256WriteLength t start with
      | .error e => .error e
      | .ok s => .ok (if !s.hasMore then s.setAscii else s) : R St) = b256Finish start t := fun t => by
    unfold b256Finish
    have hr := b256WriteLength_res t start
    cases hw : b256WriteLength t start with
    | error e => rfl
    | ok s2 =>
      obtain ⟨cw, rfl⟩ := hr.ok hw
      show Except.ok (if !t.hasMore then _ else _) = Except.ok (if t.hasMore then _ else _)
      cases t.hasMore <;> rfl
  rw [b256Loop, eat_eq]
  rcases hr : s.rest with _ | ⟨ch, _ | ⟨c2, t⟩⟩
  · have hm : s.hasMore = false := (rest_eq_nil hr).2
    simp only [hm, Bool.not_false, if_true, b256Finish, Bool.false_eq_true, if_false]
    rfl
  · obtain ⟨hlt, -, ht⟩ := rest_eq_cons hr
    have hm : ({ s with pos := s.pos + 1, cw := s.cw ++ [ch] } : St).hasMore = false := by
      have := congrArg List.length ht
      simp only [List.length_drop, List.length_nil] at this
      simp only [St.hasMore, decide_eq_false_iff_not]; omega
    show (if !({ s with pos := s.pos + 1, cw := s.cw ++ [ch] } : St).hasMore then _ else _) = _
    unfold b256Finish
    simp only [hm, Bool.not_false, if_true, Bool.false_eq_true, if_false]
    rfl
  · obtain ⟨hlt, -, ht⟩ := rest_eq_cons hr
    have hm : ({ s with pos := s.pos + 1, cw := s.cw ++ [ch] } : St).hasMore = true := by
      have := congrArg List.length ht
      simp only [List.length_drop, List.length_cons] at this
      simp only [St.hasMore, decide_eq_true_eq]; omega
    show (if !({ s with pos := s.pos + 1, cw := s.cw ++ [ch] } : St).hasMore then _ else _) = _
    rw [hm, if_neg (by simp)]
    show onSwitch _ (fun t => match b256WriteLength t start with
      | .error e => .error e
      | .ok s => .ok (if !s.hasMore then s.setAscii else s)) (b256Loop start f) = onSwitch _ (b256Finish start) _
    rw [funext hfin]; rfl

/-- the state in which `b256Loop` closes the field after `n` more characters, the head of the plan being `(at_, m)` -/
def b256Exit (s : St) (n at_ : Nat) (m : EMode) (rest : List (Nat × EMode)) : St :=
  if 0 < at_ then
    { s with pos := s.pos + n, cw := s.cw ++ s.rest.take n, mode := m, plan := rest,
             newMode := match m.latch with | some l => some l | none => s.newMode }
  else { s with pos := s.pos + n, cw := s.cw ++ s.rest.take n }

theorem b256Loop_run_eq (start : Nat) {at_ : Nat} {m : EMode} {rest : List (Nat × EMode)} : ∀ (k : Nat) (s : St),
    s.plan = (at_, m) :: rest → at_ + (k + 1) = s.charsLeft → (0 < at_ → m ≠ s.mode) →
    ∀ f, b256Loop start (f + (k + 1)) s = b256Finish start (b256Exit s (k + 1) at_ m rest) := by
  intro k
  induction k with
  | zero =>
    intro s hp hat hm f
    have hl := rest_length s
    rw [Nat.zero_add, b256Loop_eq]
    rcases hr : s.rest with _ | ⟨ch, _ | ⟨c2, t⟩⟩
    · rw [hr] at hl; simp at hl; omega
    · rw [hr] at hl
      have h0 : ¬ 0 < at_ := by simp at hl; omega
      simp only [b256Exit, if_neg h0, hr, List.take_succ_cons, List.take_zero]
    · rw [hr] at hl
      have h0 : 0 < at_ := by simp at hl; omega
      have hcl : ({ s with pos := s.pos + 1, cw := s.cw ++ [ch] } : St).charsLeft = at_ := by
        simp only [St.charsLeft] at hat ⊢; omega
      dsimp only
      rw [onSwitch_eq (s := { s with pos := s.pos + 1, cw := s.cw ++ [ch] }) _ _ hp, hcl, if_neg (Nat.lt_irrefl _),
        if_pos ⟨h0, rfl⟩, if_neg (hm h0)]
      simp only [b256Exit, if_pos h0, hr, List.take_succ_cons, List.take_zero]
      rfl
  | succ k ih =>
    intro s hp hat hm f
    have hl := rest_length s
    rcases hr : s.rest with _ | ⟨ch, _ | ⟨c2, t⟩⟩
    · rw [hr] at hl; simp at hl; omega
    · rw [hr] at hl; simp at hl; omega
    · obtain ⟨hlt, -, ht⟩ := rest_eq_cons hr
      have hcl : ({ s with pos := s.pos + 1, cw := s.cw ++ [ch] } : St).charsLeft = s.charsLeft - 1 := by
        simp only [St.charsLeft]; omega
      have hr1 : ({ s with pos := s.pos + 1, cw := s.cw ++ [ch] } : St).rest = c2 :: t := ht
      rw [show f + (k + 1 + 1) = f + (k + 1) + 1 from rfl, b256Loop_eq, hr]
      dsimp only
      rw [onSwitch_eq (s := { s with pos := s.pos + 1, cw := s.cw ++ [ch] }) _ _ hp, if_neg (by rw [hcl]; omega),
        if_neg (by rw [hcl]; omega), ih { s with pos := s.pos + 1, cw := s.cw ++ [ch] } hp (by rw [hcl]; omega) hm]
      simp only [b256Exit, hr1, hr, List.take_succ_cons, List.append_assoc, List.singleton_append, Nat.add_assoc,
        Nat.add_comm 1]


theorem tryAscii_err (s : St) (sym : List Nat) (e : EErr) (h : edifactTryAsciiEnd s sym = .error e) :
    e = .panic "backup: subtract with overflow" := by
  rw [EncStep.tryAsciiEnd_eq] at h
  split at h
  · split at h
    · cases h
    · cases h
      rfl
  · cases h


end DM.Lemmas.EncStep

namespace DM.Lemmas.CoupleEdi
open DM.Model DM.Model.Enc

/-- the assertion `space_left > 2` of `handle_end` never fires — on any state, with any symbol buffer: the normal form
`EncStep.edifactHandleEnd_eq` has no such leaf -/
theorem handleEnd_assert_unreachable (s : St) (sym : List Nat) :
    edifactHandleEnd s sym ≠ .error (.panic "assert space_left > 2") := by
  intro h
  rw [EncStep.edifactHandleEnd_eq] at h
  split at h
  · split at h <;> simp at h
  · split at h
    · simp at h
    · split at h
      · cases h
      · split at h <;> cases h


end DM.Lemmas.CoupleEdi
