import DM.Lemmas.DecRun
/-
The decoder only ever appends to its list of ECI spans: spans recorded earlier are carried along unchanged
(`mainLoop_frame`, `decRun_frame`). So what the main loop does can be stated for the empty list of spans.
Namespace: `EciFrame`.
-/
namespace DM.Lemmas.EciFrame
open DM.Model DM.Model.Dec DM.Gen DM.Lemmas DM.Lemmas.DecRun

def addEcis (E : List (Nat × Nat)) (st : DSt) : DSt := { st with ecis := E ++ st.ecis }

def liftE {α : Type} (E : List (Nat × Nat)) : R (DSt × α) → R (DSt × α)
  | .error e => .error e
  | .ok (st, m) => .ok (addEcis E st, m)

@[simp] theorem liftE_error {α : Type} (E : List (Nat × Nat)) (e : DErr) : liftE (α := α) E (.error e) = .error e := rfl
@[simp] theorem liftE_ok {α : Type} (E : List (Nat × Nat)) (st : DSt) (m : α) : liftE E (.ok (st, m)) = .ok (addEcis E st, m) := rfl

theorem decodeAscii_frame (E : List (Nat × Nat)) (rest : List Nat) : ∀ (eaten : Nat) (out : List Nat)
    (ecis : List (Nat × Nat)) (upper : Bool) (skip : Nat),
    decodeAscii rest eaten out (E ++ ecis) upper skip = liftE E (decodeAscii rest eaten out ecis upper skip) := by
  induction rest with
  | nil =>
    intro eaten out ecis upper skip
    rw [decodeAscii, decodeAscii, apply_ite (liftE E), apply_ite (liftE E)]
    rfl
  | cons ch t ih =>
    intro eaten out ecis upper skip
    cases skip with
    | succ k => rw [decodeAscii_skip1, decodeAscii_skip1]; exact ih ..
    | zero =>
      rw [decodeAscii_cons, decodeAscii_cons]
      cases asciiAct upper ch with
      | emit bs u => exact ih ..
      | latch m => rfl
      | pad => simp only [asciiThen]; cases checkPads t (eaten + 1) <;> rfl
      | eci =>
        simp only [asciiThen]
        cases readEci t with
        | error e => rfl
        | ok p => simp only [Except.bind, List.append_assoc]; exact ih ..
      | err e => rfl

def liftS (E : List (Nat × Nat)) : R DSt → R DSt
  | .error e => .error e
  | .ok st => .ok (addEcis E st)

theorem modeStep_frame (E : List (Nat × Nat)) (m : DMode) (st : DSt) :
    modeStep m (addEcis E st) = liftE E (modeStep m st) := by
  have back : ∀ r, backTo (addEcis E st) r = liftE E (backTo st r) := fun r => by cases r <;> rfl
  cases m
  · exact decodeAscii_frame E st.rest st.eaten st.out st.ecis false 0
  all_goals exact back _

theorem mainLoop_frame (E : List (Nat × Nat)) : ∀ (f : Nat) (m : DMode) (st : DSt),
    mainLoop f m (addEcis E st) = liftS E (mainLoop f m st) := by
  intro f
  induction f with
  | zero => intro m st; rfl
  | succ f ih =>
    intro m st
    rw [mainLoop_succ, mainLoop_succ, modeStep_frame, show (addEcis E st).rest = st.rest from rfl]
    split
    · rfl
    · cases modeStep m st with
      | error e => rfl
      | ok p => exact ih p.2 p.1

theorem decRun_frame (E : List (Nat × Nat)) (m : DMode) (st : DSt) :
    decRun m (addEcis E st) = liftS E (decRun m st) := mainLoop_frame E _ m st

theorem decRun_spans {m : DMode} {rest out rest' out' : List Nat} {e e' : Nat}
    (h : decRun m { rest := rest, eaten := e, out := out, ecis := [] } =
      .ok { rest := rest', eaten := e', out := out', ecis := [] }) (E : List (Nat × Nat)) :
    decRun m { rest := rest, eaten := e, out := out, ecis := E } =
      .ok { rest := rest', eaten := e', out := out', ecis := E } := by
  have := decRun_frame E m { rest := rest, eaten := e, out := out, ecis := [] }
  rw [h] at this
  simpa [addEcis, liftS] using this

end DM.Lemmas.EciFrame
