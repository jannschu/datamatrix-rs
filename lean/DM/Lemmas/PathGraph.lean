import DM.Lemmas.PathMicro
import DM.Lemmas.PathCheck
import DM.Lemmas.Blocks
/-
Facts about the edge graph of `DM.Model.Path`: an abstract view (`has g e`), removal of an
edge, parity of the degree of a node, the number of edges, the scan `edgeLeft`, and the
graph of a bitmap (`bitsToEdgeGraph_spec`, `even_degree`, `g0_HintInv`, `g0_edgeLeft`).
Namespace: `PathP`.
-/
namespace DM.Lemmas.PathP
open DM.Model.Path

def WF (g : Graph) : Prop :=
  g.leftE.size = (g.width + 1) * (g.height + 1) ∧ g.topE.size = (g.width + 1) * (g.height + 1)

def has (g : Graph) (e : Edge) : Bool := if e.1 then g.left e.2.1 e.2.2 else g.top e.2.1 e.2.2

def pedge (p : Pos) : Edge :=
  (match p.dir with | .up | .down => true | .left | .right => false, p.i, p.j)

theorem hasEdge_eq (g : Graph) (p : Pos) : g.hasEdge p = has g (pedge p) := by
  unfold Graph.hasEdge has pedge
  cases p.dir <;> rfl

theorem idx_inj (g : Graph) {i j a b : Int} (h1 : g.hasCell i j = true) (h2 : g.hasCell a b = true) :
    g.idx i j = g.idx a b ↔ (i = a ∧ j = b) := by
  simp only [Graph.hasCell, Bool.and_eq_true, decide_eq_true_eq] at h1 h2
  constructor
  · intro h
    unfold Graph.idx at h
    have := block_inj (n := g.width + 1) (by omega) (by omega) h
    omega
  · rintro ⟨rfl, rfl⟩; rfl

theorem idx_lt (g : Graph) {i j : Int} (h1 : g.hasCell i j = true) :
    g.idx i j < (g.width + 1) * (g.height + 1) := by
  simp only [Graph.hasCell, Bool.and_eq_true, decide_eq_true_eq] at h1
  rw [Nat.mul_comm]
  exact block_lt (by omega) (by omega)

theorem getD_setIfInBounds_false (a : Array Bool) (k m : Nat) :
    (a.setIfInBounds k false).getD m false = (a.getD m false && !(decide (k = m))) := by
  simp only [Array.getD_eq_getD_getElem?, Array.getElem?_setIfInBounds]
  by_cases h : k = m
  · subst h
    by_cases h2 : k < a.size <;> simp [h2]
  · simp [h]

theorem removeEdge_eq (g : Graph) (p : Pos) :
    g.removeEdge p =
      { g with
        leftE := if g.hasCell p.i p.j && (pedge p).1 then g.leftE.setIfInBounds (g.idx p.i p.j) false
          else g.leftE
        topE := if g.hasCell p.i p.j && !(pedge p).1 then g.topE.setIfInBounds (g.idx p.i p.j) false
          else g.topE } := by
  unfold Graph.removeEdge pedge
  cases g.hasCell p.i p.j <;> cases p.dir <;> rfl

@[simp] theorem removeEdge_width (g : Graph) (p : Pos) : (g.removeEdge p).width = g.width := by
  rw [removeEdge_eq]
@[simp] theorem removeEdge_height (g : Graph) (p : Pos) : (g.removeEdge p).height = g.height := by
  rw [removeEdge_eq]
@[simp] theorem removeEdge_hint (g : Graph) (p : Pos) : (g.removeEdge p).hint = g.hint := by
  rw [removeEdge_eq]

theorem removeEdge_WF (g : Graph) (p : Pos) (h : WF g) : WF (g.removeEdge p) := by
  rw [removeEdge_eq]
  unfold WF at h ⊢
  dsimp only
  split <;> split <;> simpa only [Array.size_setIfInBounds] using h

theorem getD_clear (g : Graph) (arr : Array Bool) (c : Bool) {a b i j : Int}
    (hij : g.hasCell i j = true) :
    (if g.hasCell a b && c then arr.setIfInBounds (g.idx a b) false else arr).getD (g.idx i j) false =
      (arr.getD (g.idx i j) false && !(c && decide (a = i) && decide (b = j))) := by
  by_cases hc : (g.hasCell a b && c) = true
  · rw [if_pos hc, getD_setIfInBounds_false]
    simp only [Bool.and_eq_true] at hc
    rw [hc.2, Bool.true_and, ← Bool.decide_and, decide_eq_decide.mpr (idx_inj g hc.1 hij)]
  · rw [if_neg hc]
    -- nothing was cleared, or a cell outside the grid, hence not `(i, j)`
    have : (c && decide (a = i) && decide (b = j)) = false := by
      rw [Bool.eq_false_iff]
      intro h
      simp only [Bool.and_eq_true, decide_eq_true_eq] at h
      obtain ⟨⟨h1, rfl⟩, rfl⟩ := h
      exact hc (by rw [hij, h1]; rfl)
    rw [this, Bool.not_false, Bool.and_true]

theorem getD_clear_false (arr : Array Bool) (c : Bool) (k m : Nat) (h : arr.getD m false = false) :
    (if c then arr.setIfInBounds k false else arr).getD m false = false := by
  split
  · rw [getD_setIfInBounds_false, h, Bool.false_and]
  · exact h

theorem left_removeEdge (g : Graph) (p : Pos) (i j : Int) :
    (g.removeEdge p).left i j =
      (g.left i j && !((pedge p).1 && decide (p.i = i) && decide (p.j = j))) := by
  rw [removeEdge_eq]
  show (g.hasCell i j && (if _ then _ else _ : Array Bool).getD (g.idx i j) false) =
    (g.hasCell i j && _ && _)
  cases hij : g.hasCell i j
  · rfl
  · rw [getD_clear g _ _ hij]; rfl

theorem top_removeEdge (g : Graph) (p : Pos) (i j : Int) :
    (g.removeEdge p).top i j =
      (g.top i j && !(!(pedge p).1 && decide (p.i = i) && decide (p.j = j))) := by
  rw [removeEdge_eq]
  show (g.hasCell i j && (if _ then _ else _ : Array Bool).getD (g.idx i j) false) =
    (g.hasCell i j && _ && _)
  cases hij : g.hasCell i j
  · rfl
  · rw [getD_clear g _ _ hij]; rfl

theorem has_removeEdge (g : Graph) (p : Pos) (e : Edge) :
    has (g.removeEdge p) e = (has g e && !(e == pedge p)) := by
  obtain ⟨v, i, j⟩ := e
  have hb : (((v, i, j) : Edge) == pedge p) =
      (decide (v = (pedge p).1) && decide (p.i = i) && decide (p.j = j)) := by
    rw [Bool.eq_iff_iff]
    simp only [beq_iff_eq, Bool.and_eq_true, decide_eq_true_eq]
    unfold pedge
    constructor
    · intro h; simp only [Prod.mk.injEq] at h; exact ⟨⟨h.1, h.2.1.symm⟩, h.2.2.symm⟩
    · rintro ⟨⟨h1, h2⟩, h3⟩; simp only [Prod.mk.injEq]; exact ⟨h1, h2.symm, h3.symm⟩
  rw [hb]
  unfold has
  cases v
  · simp only [Bool.false_eq_true, if_false]
    rw [top_removeEdge]
    cases (pedge p).1 <;> simp
  · simp only [if_true]
    rw [left_removeEdge]
    cases (pedge p).1 <;> simp

/-- parity of the number of edges at a node -/
def par (g : Graph) (n : Node) : Bool :=
  has g (false, n.1, n.2) ^^ has g (false, n.1, n.2 - 1) ^^ has g (true, n.1, n.2) ^^ has g (true, n.1 - 1, n.2)

theorem bxor4 (a b c d : Bool) : ((a ^^ b ^^ c ^^ d) = true) → a = true ∨ b = true ∨ c = true ∨ d = true := by
  cases a <;> cases b <;> cases c <;> cases d <;> simp

theorem par_endNode (g : Graph) (p : Pos) :
    par g p.endNode = (has g (pedge p) ^^ has g (pedge p.straight) ^^ has g (pedge p.turnLeft)
      ^^ has g (pedge p.turnRight)) := by
  obtain ⟨i, j, d⟩ := p
  cases d <;>
    simp only [par, Pos.endNode, pedge, Pos.straight, Pos.turnLeft, Pos.turnRight, Int.add_sub_cancel] <;>
    generalize has g (false, i, j) = x1 <;> generalize has g (false, i, j - 1) = x2 <;>
    generalize has g (true, i, j) = x3 <;> generalize has g (true, i - 1, j) = x4
  · cases x1 <;> cases x2 <;> cases x3 <;> cases x4 <;> rfl
  · generalize has g (false, i + 1, j) = y1 
    generalize has g (false, i + 1, j - 1) = y2
    generalize has g (true, i + 1, j) = y3
    cases y1 <;> cases y2 <;> cases x3 <;> cases y3 <;> rfl
  · generalize has g (false, i, j + 1) = y1 
    generalize has g (true, i, j + 1) = y3
    generalize has g (true, i - 1, j + 1) = y4
    cases y1 <;> cases x1 <;> cases y3 <;> cases y4 <;> rfl

theorem cand_start (p np : Pos) (h : np ∈ [p.straight, p.turnLeft, p.turnRight]) :
    np.startNode = p.endNode := by
  obtain ⟨i, j, d⟩ := p
  simp only [List.mem_cons, List.mem_nil_iff, or_false] at h
  rcases h with rfl | rfl | rfl <;> cases d <;>
    simp [Pos.startNode, Pos.endNode, Pos.flip, Dir.flip, Pos.straight, Pos.turnLeft, Pos.turnRight] <;> omega

theorem start_ne_end (p : Pos) : p.endNode ≠ p.startNode := by
  obtain ⟨i, j, d⟩ := p
  cases d <;> simp [Pos.startNode, Pos.endNode, Pos.flip, Dir.flip] <;> omega

theorem edgeOf_pos (p : Pos) : edgeOf p.startNode p.endNode = pedge p := by
  obtain ⟨i, j, d⟩ := p
  cases d <;> simp [edgeOf, pedge, Pos.startNode, Pos.endNode, Pos.flip, Dir.flip] <;>
    (try (rw [if_neg (by omega)]; simp)) <;> omega

theorem adj_pos (p : Pos) : adj p.startNode p.endNode := by
  obtain ⟨i, j, d⟩ := p
  cases d <;> simp [adj, Pos.startNode, Pos.endNode, Pos.flip, Dir.flip]

theorem canStep_some (g : Graph) (p np : Pos) (h : g.canStep p = some np) :
    has g (pedge np) = true ∧ np.startNode = p.endNode := by
  unfold Graph.canStep at h
  have hm := List.mem_of_mem_head? h
  rw [List.mem_filter] at hm
  exact ⟨by rw [← hasEdge_eq]; exact hm.2, cand_start p np hm.1⟩

theorem follow_fst (g : Graph) (p : Pos) : (g.follow p).1 = g.canStep p := rfl

theorem canStep_of_odd (g : Graph) (p : Pos) (hne : has g (pedge p) = false)
    (hpar : par g p.endNode = true) : ∃ np, g.canStep p = some np := by
  rw [par_endNode, hne, Bool.false_xor] at hpar
  unfold Graph.canStep
  cases hh : ([p.straight, p.turnLeft, p.turnRight].filter g.hasEdge).head? with
  | some np => exact ⟨np, rfl⟩
  | none =>
    exfalso
    rw [List.head?_eq_none_iff, List.filter_eq_nil_iff] at hh
    have h1 := hh p.straight (by simp)
    have h2 := hh p.turnLeft (by simp)
    have h3 := hh p.turnRight (by simp)
    rw [hasEdge_eq] at h1 h2 h3
    simp_all

theorem beq_dec {α : Type} [BEq α] [LawfulBEq α] [DecidableEq α] (a b : α) :
    (a == b) = decide (a = b) := by
  rw [Bool.eq_iff_iff]; simp

/-- an edge is one of the four edges at a node iff the node is one of its two ends -/
theorem at_node (p : Pos) (n : Node) :
    ((((false, n.1, n.2) : Edge) == pedge p) ^^ (((false, n.1, n.2 - 1) : Edge) == pedge p) ^^
      (((true, n.1, n.2) : Edge) == pedge p) ^^ (((true, n.1 - 1, n.2) : Edge) == pedge p)) =
    ((n == p.startNode) ^^ (n == p.endNode)) := by
  obtain ⟨a, b⟩ := n
  obtain ⟨i, j, d⟩ := p
  cases d <;>
    simp only [pedge, Pos.startNode, Pos.endNode, Pos.flip, Dir.flip, beq_dec, Prod.mk.injEq,
      Bool.false_eq_true, Bool.true_eq_false, false_and, true_and, decide_false, Bool.false_xor,
      Bool.xor_false, Int.sub_eq_iff_eq_add]
  · exact Bool.xor_comm _ _
  · exact Bool.xor_comm _ _

theorem has_removeEdge_xor (g : Graph) (p : Pos) (h : has g (pedge p) = true) (e : Edge) :
    has (g.removeEdge p) e = (has g e ^^ (e == pedge p)) := by
  rw [has_removeEdge]
  cases he : e == pedge p
  · rw [Bool.not_false, Bool.and_true, Bool.xor_false]
  · rw [eq_of_beq he, h]; rfl

theorem xor_pairs (x m y k : Bool) : ((x ^^ m) ^^ (y ^^ k)) = ((x ^^ y) ^^ (m ^^ k)) := by
  cases x <;> cases m <;> cases y <;> cases k <;> rfl

theorem xor4_pairs (x1 m1 x2 m2 x3 m3 x4 m4 : Bool) :
    ((x1 ^^ m1) ^^ (x2 ^^ m2) ^^ (x3 ^^ m3) ^^ (x4 ^^ m4)) =
      ((x1 ^^ x2 ^^ x3 ^^ x4) ^^ (m1 ^^ m2 ^^ m3 ^^ m4)) := by
  rw [xor_pairs x1 m1 x2 m2, xor_pairs (x1 ^^ x2) (m1 ^^ m2) x3 m3,
    xor_pairs (x1 ^^ x2 ^^ x3) (m1 ^^ m2 ^^ m3) x4 m4]

theorem par_removeEdge (g : Graph) (p : Pos) (h : has g (pedge p) = true) (n : Node) :
    par (g.removeEdge p) n = (par g n ^^ (n == p.startNode) ^^ (n == p.endNode)) := by
  rw [Bool.xor_assoc, ← at_node p n]
  simp only [par, has_removeEdge_xor g p h]
  exact xor4_pairs _ _ _ _ _ _ _ _

def cnt (g : Graph) : Nat := g.leftE.toList.count true + g.topE.toList.count true

theorem count_clear (a : Array Bool) (k : Nat) (h : a.getD k false = true) :
    (a.setIfInBounds k false).toList.count true + 1 = a.toList.count true := by
  have hk : k < a.toList.length := by
    by_cases hk : k < a.size
    · exact hk
    · simp [Array.getD_eq_getD_getElem?, Array.getElem?_eq_none (Nat.le_of_not_lt hk)] at h
  have hv : a.toList[k] = true := by
    simpa [Array.getD_eq_getD_getElem?, Array.getElem?_eq_getElem (by simpa using hk)] using h
  rw [Array.toList_setIfInBounds, List.count_set hk, hv]
  have : 0 < a.toList.count true := List.count_pos_iff.mpr (hv ▸ List.getElem_mem hk)
  show List.count true a.toList - 1 + 0 + 1 = _
  omega

theorem cnt_removeEdge (g : Graph) (p : Pos) (h : has g (pedge p) = true) :
    cnt (g.removeEdge p) + 1 = cnt g := by
  rw [removeEdge_eq]
  unfold cnt
  replace h : (if (pedge p).1 then g.left p.i p.j else g.top p.i p.j) = true := h
  cases hv : (pedge p).1 <;> rw [hv] at h <;> obtain ⟨hc, hval⟩ := Bool.and_eq_true_iff.mp h <;>
    simp only [hc, Bool.and_self, Bool.not_false, Bool.not_true, Bool.and_false, if_true,
      Bool.false_eq_true, if_false]
  · have := count_clear g.topE _ hval; omega
  · have := count_clear g.leftE _ hval; omega

theorem cnt_le (g : Graph) (h : WF g) : cnt g ≤ 2 * ((g.width + 1) * (g.height + 1)) := by
  unfold cnt
  have h1 := List.count_le_length (a := true) (l := g.leftE.toList)
  have h2 := List.count_le_length (a := true) (l := g.topE.toList)
  simp only [Array.length_toList] at h1 h2
  rw [h.1] at h1; rw [h.2] at h2
  omega

def InBoxG (g : Graph) : Prop :=
  ∀ i j, (has g (true, i, j) = true → 0 ≤ i ∧ i < g.height ∧ 0 ≤ j ∧ j ≤ g.width) ∧
         (has g (false, i, j) = true → 0 ≤ i ∧ i ≤ g.height ∧ 0 ≤ j ∧ j < g.width)

theorem has_of_removeEdge (g : Graph) (p : Pos) (e : Edge) (h : has (g.removeEdge p) e = true) :
    has g e = true := by
  rw [has_removeEdge] at h
  simp only [Bool.and_eq_true] at h
  exact h.1

theorem removeEdge_InBoxG (g : Graph) (p : Pos) (h : InBoxG g) : InBoxG (g.removeEdge p) := by
  intro i j
  simp only [removeEdge_width, removeEdge_height]
  exact ⟨fun hh => (h i j).1 (has_of_removeEdge g p _ hh), fun hh => (h i j).2 (has_of_removeEdge g p _ hh)⟩

theorem inBox_of_has (g : Graph) (h : InBoxG g) (p : Pos) (hp : has g (pedge p) = true) :
    inBoxN g.width g.height p.startNode ∧ inBoxN g.width g.height p.endNode := by
  obtain ⟨i, j, d⟩ := p
  cases d <;> simp only [pedge] at hp <;>
    simp only [inBoxN, Pos.startNode, Pos.endNode, Pos.flip, Dir.flip]
  · have := (h i j).1 hp; omega
  · have := (h i j).1 hp; omega
  · have := (h i j).2 hp; omega
  · have := (h i j).2 hp; omega

def cellEdge (g : Graph) (m : Nat) : Bool := g.leftE.getD m false || g.topE.getD m false

def HintInv (g : Graph) : Prop := ∀ m, m < g.hint → cellEdge g m = false

theorem go_spec (g : Graph) (n : Nat) : ∀ f idx,
    match Graph.edgeLeft.go g n f idx with
    | some k => idx ≤ k ∧ k < n ∧ cellEdge g k = true ∧ ∀ m, idx ≤ m → m < k → cellEdge g m = false
    | none => n < f + idx → ∀ m, idx ≤ m → m < n → cellEdge g m = false := by
  intro f
  induction f with
  | zero => intro idx hf m h1 h2; omega
  | succ f ih =>
    intro idx
    unfold Graph.edgeLeft.go
    by_cases hn : idx ≥ n
    · rw [if_pos hn]; intro _ m h1 h2; omega
    rw [if_neg hn]
    by_cases hc : (g.leftE.getD idx false || g.topE.getD idx false) = true
    · rw [if_pos hc]
      exact ⟨Nat.le_refl _, by omega, hc, fun m h1 h2 => by omega⟩
    rw [if_neg hc]
    have hc' : ∀ m, idx ≤ m → ¬ idx + 1 ≤ m → cellEdge g m = false := fun m h1 h2 => by
      rw [show m = idx by omega]; simpa [cellEdge] using hc
    have := ih (idx + 1)
    split at this
    · obtain ⟨h1, h2, h3, h4⟩ := this
      exact ⟨by omega, h2, h3, fun m hm1 hm2 => if h : idx + 1 ≤ m then h4 m h hm2 else hc' m hm1 h⟩
    · exact fun hf m hm1 hm2 => if h : idx + 1 ≤ m then this (by omega) m h hm2 else hc' m hm1 h

theorem edgeLeft_some (g : Graph) (hwf : WF g) (hh : HintInv g) (p : Pos) (g' : Graph)
    (h : g.edgeLeft = (some p, g')) :
    has g (pedge p) = true ∧ (∃ k, g' = { g with hint := k } ∧ HintInv { g with hint := k }) := by
  unfold Graph.edgeLeft at h
  simp only [] at h
  split at h
  · rename_i k hk
    have hs := go_spec g g.leftE.size (g.leftE.size + 1 - g.hint) g.hint
    rw [hk] at hs
    obtain ⟨h1, h2, h3, h4⟩ := hs
    simp only [Prod.mk.injEq, Option.some.injEq] at h
    obtain ⟨rfl, rfl⟩ := h
    refine ⟨?_, k, rfl, fun m hm => if hm2 : m < g.hint then hh m hm2 else h4 m (by omega) hm⟩
    -- `k` is the number of the cell `(k / (width + 1), k % (width + 1))` of the grid
    have hr : k % (g.width + 1) < g.width + 1 := Nat.mod_lt _ (by omega)
    have hq : k / (g.width + 1) < g.height + 1 := by
      rw [Nat.div_lt_iff_lt_mul (by omega), Nat.mul_comm, ← hwf.1]; exact h2
    have hidx : g.idx ((k / (g.width + 1) : Nat) : Int) ((k % (g.width + 1) : Nat) : Int) = k := by
      simp only [Graph.idx, Int.toNat_natCast]; rw [Nat.mul_comm]; exact Nat.div_add_mod k _
    have hcell : g.hasCell ((k / (g.width + 1) : Nat) : Int) ((k % (g.width + 1) : Nat) : Int) = true := by
      simp only [Graph.hasCell, Bool.and_eq_true, decide_eq_true_eq]
      generalize k / (g.width + 1) = q at hq
      generalize k % (g.width + 1) = r at hr
      omega
    cases ht : g.topE.getD k false
    · have hl : g.leftE.getD k false = true := by simpa [cellEdge, ht] using h3
      simp only [pedge, Bool.false_eq_true, if_false, has, Graph.left, hcell, hidx, Bool.true_and, if_true, hl]
    · simp only [pedge, ht, if_true, has, Graph.top, hcell, hidx, Bool.true_and, Bool.false_eq_true, if_false]
  · simp at h

theorem edgeLeft_none (g : Graph) (hwf : WF g) (hh : HintInv g) (g' : Graph)
    (h : g.edgeLeft = (none, g')) : ∀ e, has g e = false := by
  unfold Graph.edgeLeft at h
  simp only [] at h
  split at h
  · simp at h
  · rename_i hk
    have hn := go_spec g g.leftE.size (g.leftE.size + 1 - g.hint) g.hint
    rw [hk] at hn
    replace hn := hn (by omega)
    have hall : ∀ m, cellEdge g m = false := by
      intro m
      by_cases hm : m < g.hint
      · exact hh m hm
      · by_cases hm2 : m < g.leftE.size
        · exact hn m (by omega) hm2
        · have h1 : g.leftE.size ≤ m := by omega
          have h2 : g.topE.size ≤ m := by rw [hwf.2, ← hwf.1]; exact h1
          simp [cellEdge, Array.getD_eq_getD_getElem?, Array.getElem?_eq_none h1, Array.getElem?_eq_none h2]
    intro e
    obtain ⟨v, i, j⟩ := e
    have := hall (g.idx i j)
    simp only [cellEdge, Bool.or_eq_false_iff] at this
    cases v <;> simp [has, Graph.left, Graph.top, this.1, this.2]

theorem removeEdge_HintInv (g : Graph) (p : Pos) (h : HintInv g) : HintInv (g.removeEdge p) := by
  intro m hm
  have := h m (by rwa [removeEdge_hint] at hm)
  simp only [cellEdge, Bool.or_eq_false_iff] at this ⊢
  rw [removeEdge_eq]
  exact ⟨getD_clear_false _ _ _ _ this.1, getD_clear_false _ _ _ _ this.2⟩

open DM.Lemmas in
theorem darkAt_bmGet (bits : List Bool) (w h a b : Nat) :
    darkAt bits.toArray w h a b = bmGet bits w h (b : Int) (a : Int) := by
  unfold darkAt bmGet
  by_cases h1 : a < h <;> by_cases h2 : b < w
  · have : (0 : Int) ≤ b ∧ (b : Int) < w ∧ (0 : Int) ≤ a ∧ (a : Int) < h := by omega
    simp [h1, h2, this, List.getD_eq_getElem?_getD, Array.getD_eq_getD_getElem?]
  · have : ¬ ((0 : Int) ≤ b ∧ (b : Int) < w ∧ (0 : Int) ≤ a ∧ (a : Int) < h) := by omega
    simp [h2]
  · simp [h1]
  · simp [h1]

theorem cells_getD (w h : Nat) (F : Nat → Nat → Bool) {a b : Nat} (ha : a ≤ h) (hb : b ≤ w) :
    (Array.ofFn (n := (w + 1) * (h + 1)) fun k => F (k.val / (w + 1)) (k.val % (w + 1))).getD
      (a * (w + 1) + b) false = F a b := by
  have hlt : a * (w + 1) + b < (w + 1) * (h + 1) := by
    rw [Nat.mul_comm (w + 1)]
    exact block_lt (Nat.lt_succ_of_le ha) (Nat.lt_succ_of_le hb)
  simp [Array.getD_eq_getD_getElem?, hlt, div_mod_block a (show b < w + 1 by omega)]

/-- `f (-1) = false`: the module before the first one of a row or column is light -/
theorem pred_guard (f : Int → Bool) (hneg : f (-1) = false) (n : Nat) :
    (decide (0 < n) && f ((n - 1 : Nat) : Int)) = f ((n : Int) - 1) := by
  cases n with
  | zero => exact hneg.symm
  | succ n => rw [show ((n + 1 : Nat) : Int) - 1 = ((n + 1 - 1 : Nat) : Int) by omega]; simp

theorem g0_hasCell (bits : Array Bool) (w h : Nat) (i j : Int) :
    (bitsToEdgeGraph bits w h).hasCell i j = true ↔ 0 ≤ i ∧ i ≤ h ∧ 0 ≤ j ∧ j ≤ w := by
  simp [Graph.hasCell, bitsToEdgeGraph, and_assoc]

open DM.Lemmas in
/-- `i` row, `j` column; all integers, no edge outside the grid -/
theorem g0_left (bits : List Bool) (w h : Nat) (i j : Int) :
    (bitsToEdgeGraph bits.toArray w h).left i j = (bmGet bits w h (j - 1) i != bmGet bits w h j i) := by
  unfold Graph.left
  cases hc : (bitsToEdgeGraph bits.toArray w h).hasCell i j
  · have : ¬ (0 ≤ i ∧ i ≤ h ∧ 0 ≤ j ∧ j ≤ w) := fun hh => by
      rw [(g0_hasCell bits.toArray w h i j).mpr hh] at hc; cases hc
    rw [bmGet_neg bits w h (j - 1) i (by omega), bmGet_neg bits w h j i (by omega)]
    rfl
  · obtain ⟨h1, h2, h3, h4⟩ := (g0_hasCell bits.toArray w h i j).mp hc
    obtain ⟨a, rfl⟩ := Int.eq_ofNat_of_zero_le h1
    obtain ⟨b, rfl⟩ := Int.eq_ofNat_of_zero_le h3
    refine (cells_getD w h (fun i j => (decide (0 < j) && darkAt bits.toArray w h i (j - 1)) !=
      darkAt bits.toArray w h i j) (by omega) (by omega)).trans ?_
    simp only [Int.toNat_natCast, darkAt_bmGet]
    rw [pred_guard (fun x => bmGet bits w h x a) (bmGet_neg _ _ _ _ _ (by omega))]

open DM.Lemmas in
theorem g0_top (bits : List Bool) (w h : Nat) (i j : Int) :
    (bitsToEdgeGraph bits.toArray w h).top i j = (bmGet bits w h j (i - 1) != bmGet bits w h j i) := by
  unfold Graph.top
  cases hc : (bitsToEdgeGraph bits.toArray w h).hasCell i j
  · have : ¬ (0 ≤ i ∧ i ≤ h ∧ 0 ≤ j ∧ j ≤ w) := fun hh => by
      rw [(g0_hasCell bits.toArray w h i j).mpr hh] at hc; cases hc
    rw [bmGet_neg bits w h j (i - 1) (by omega), bmGet_neg bits w h j i (by omega)]
    rfl
  · obtain ⟨h1, h2, h3, h4⟩ := (g0_hasCell bits.toArray w h i j).mp hc
    obtain ⟨a, rfl⟩ := Int.eq_ofNat_of_zero_le h1
    obtain ⟨b, rfl⟩ := Int.eq_ofNat_of_zero_le h3
    refine (cells_getD w h (fun i j => (decide (0 < i) && darkAt bits.toArray w h (i - 1) j) !=
      darkAt bits.toArray w h i j) (by omega) (by omega)).trans ?_
    simp only [Int.toNat_natCast, darkAt_bmGet]
    rw [pred_guard (fun y => bmGet bits w h b y) (bmGet_neg _ _ _ _ _ (by omega))]

open DM.Lemmas in
theorem bitsToEdgeGraph_spec (bits : List Bool) (w h x y : Nat) :
    (bitsToEdgeGraph bits.toArray w h).left y x = vBoundary bits w h x y ∧
    (bitsToEdgeGraph bits.toArray w h).top y x = hBoundary bits w h x y :=
  ⟨g0_left bits w h y x, g0_top bits w h y x⟩

theorem even_degree (bits : List Bool) (w h : Nat) (n : Node) :
    par (bitsToEdgeGraph bits.toArray w h) n = false := by
  simp only [par, has, if_true, Bool.false_eq_true, if_false, g0_left, g0_top]
  generalize DM.Lemmas.bmGet bits w h n.2 n.1 = a
  generalize DM.Lemmas.bmGet bits w h n.2 (n.1 - 1) = b
  generalize DM.Lemmas.bmGet bits w h (n.2 - 1) n.1 = c
  generalize DM.Lemmas.bmGet bits w h (n.2 - 1) (n.1 - 1) = d
  cases a <;> cases b <;> cases c <;> cases d <;> rfl

theorem g0_WF (bits : Array Bool) (w h : Nat) : WF (bitsToEdgeGraph bits w h) := by
  simp [WF, bitsToEdgeGraph]

theorem g0_hint_le (bits : Array Bool) (w h : Nat) {i j : Nat} (hd : darkAt bits w h i j = true) :
    (bitsToEdgeGraph bits w h).hint ≤ i * (w + 1) + j := by
  simp only [darkAt, Bool.and_eq_true, decide_eq_true_eq] at hd
  obtain ⟨⟨hi, hj⟩, hb⟩ := hd
  have hlt : i * w + j < w * h := by rw [Nat.mul_comm w]; exact block_lt hi hj
  show (match (List.range (w * h)).find? (fun idx => bits.getD idx false) with
    | some idx => idx / w * (w + 1) + idx % w | none => _) ≤ _
  cases hf : (List.range (w * h)).find? (fun idx => bits.getD idx false) with
  | none =>
    have := List.find?_eq_none.mp hf (i * w + j) (List.mem_range.mpr hlt)
    simp [hb] at this
  | some idx =>
    obtain ⟨-, -, hmin⟩ := List.find?_range_eq_some.mp hf
    have hle : idx ≤ i * w + j := Nat.le_of_not_lt fun hgt => by simpa [hb] using hmin _ hgt
    -- row-major order of modules is the order of their cells
    have hq : idx / w ≤ i := (div_mod_block i hj).1 ▸ Nat.div_le_div_right hle
    have hr : idx % w < w := Nat.mod_lt _ (by omega)
    have hdm := Nat.div_add_mod idx w
    rw [Nat.mul_comm] at hdm
    show idx / w * (w + 1) + idx % w ≤ _
    rcases Nat.lt_or_eq_of_le hq with hq | hq
    · have := Nat.mul_le_mul_right (w + 1) hq
      rw [Nat.succ_mul] at this
      omega
    · rw [hq] at hdm ⊢
      rw [Nat.mul_succ]; omega

theorem g0_HintInv (bits : List Bool) (w h : Nat) : HintInv (bitsToEdgeGraph bits.toArray w h) := by
  intro m hm
  by_cases hmn : m < (w + 1) * (h + 1)
  · obtain ⟨a, b, ha, hb, rfl⟩ := exists_block (Nat.mul_comm _ _ ▸ hmn)
    have dark_false : ∀ i j, i * (w + 1) + j ≤ a * (w + 1) + b → darkAt bits.toArray w h i j = false := by
      intro i j hij
      cases hd : darkAt bits.toArray w h i j
      · rfl
      · have := g0_hint_le bits.toArray w h hd; omega
    have h1 : (decide (0 < b) && darkAt bits.toArray w h a (b - 1)) = false := by
      cases b with
      | zero => rfl
      | succ b => rw [Nat.add_sub_cancel, dark_false a b (by omega), Bool.and_false]
    have h2 : (decide (0 < a) && darkAt bits.toArray w h (a - 1) b) = false := by
      cases a with
      | zero => rfl
      | succ a => rw [Nat.add_sub_cancel, dark_false a b (by rw [Nat.succ_mul]; omega), Bool.and_false]
    refine Bool.or_eq_false_iff.mpr ⟨?_, ?_⟩
    · exact (cells_getD w h (fun i j => (decide (0 < j) && darkAt bits.toArray w h i (j - 1)) !=
        darkAt bits.toArray w h i j) (by omega) (by omega)).trans (by rw [h1, dark_false a b (Nat.le_refl _)]; rfl)
    · exact (cells_getD w h (fun i j => (decide (0 < i) && darkAt bits.toArray w h (i - 1) j) !=
        darkAt bits.toArray w h i j) (by omega) (by omega)).trans (by rw [h2, dark_false a b (Nat.le_refl _)]; rfl)
  · have hs := g0_WF bits.toArray w h
    simp [cellEdge, Array.getD_eq_getD_getElem?, Array.getElem?_eq_none (hs.1 ▸ Nat.le_of_not_lt hmn),
      Array.getElem?_eq_none (hs.2 ▸ Nat.le_of_not_lt hmn)]

theorem g0_InBoxG (bits : List Bool) (w h : Nat) : InBoxG (bitsToEdgeGraph bits.toArray w h) := by
  intro i j
  show (_ → 0 ≤ i ∧ i < (h : Int) ∧ 0 ≤ j ∧ j ≤ (w : Int)) ∧
    (_ → 0 ≤ i ∧ i ≤ (h : Int) ∧ 0 ≤ j ∧ j < (w : Int))
  constructor
  · intro hl
    have := bmGet_bne bits w h _ _ _ _ ((g0_left bits w h i j).symm.trans hl)
    omega
  · intro hl
    have := bmGet_bne bits w h _ _ _ _ ((g0_top bits w h i j).symm.trans hl)
    omega

theorem g0_hint (bits : List Bool) (w h : Nat) (hw : 0 < w) (hh : 0 < h) (htl : bits.head? = some true) :
    (bitsToEdgeGraph bits.toArray w h).hint = 0 := by
  have hd : darkAt bits.toArray w h 0 0 = true := by
    cases bits with
    | nil => simp at htl
    | cons b r => simp at htl; simp [darkAt, htl, hw, hh]
  have := g0_hint_le bits.toArray w h hd
  omega

theorem g0_top00 (bits : List Bool) (w h : Nat) (hw : 0 < w) (hh : 0 < h) (htl : bits.head? = some true) :
    (bitsToEdgeGraph bits.toArray w h).top 0 0 = true := by
  rw [g0_top]
  cases bits with
  | nil => simp at htl
  | cons b r =>
    simp at htl
    subst htl
    simp [DM.Lemmas.bmGet, hw, hh]

theorem g0_edgeLeft (bits : List Bool) (w h : Nat) (hw : 0 < w) (hh : 0 < h) (htl : bits.head? = some true) :
    (bitsToEdgeGraph bits.toArray w h).edgeLeft =
      (some { i := 0, j := 0, dir := .right }, { bitsToEdgeGraph bits.toArray w h with hint := 0 }) := by
  have hhint := g0_hint bits w h hw hh htl
  have ht0 : (bitsToEdgeGraph bits.toArray w h).topE.getD 0 false = true := by
    simpa [Graph.top, Graph.hasCell, Graph.idx] using g0_top00 bits w h hw hh htl
  have hsz : 0 < (bitsToEdgeGraph bits.toArray w h).leftE.size := by
    rw [(g0_WF _ w h).1]
    exact Nat.mul_pos (by omega) (by omega)
  unfold Graph.edgeLeft
  simp only [hhint]
  have hgo : Graph.edgeLeft.go (bitsToEdgeGraph bits.toArray w h) (bitsToEdgeGraph bits.toArray w h).leftE.size
      ((bitsToEdgeGraph bits.toArray w h).leftE.size + 1 - 0) 0 = some 0 := by
    rw [show (bitsToEdgeGraph bits.toArray w h).leftE.size + 1 - 0
        = (bitsToEdgeGraph bits.toArray w h).leftE.size + 1 from rfl]
    unfold Graph.edgeLeft.go
    rw [if_neg (by omega)]
    simp [ht0]
  rw [hgo]
  simp [ht0]

end DM.Lemmas.PathP
