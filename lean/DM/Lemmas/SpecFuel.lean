import DM.Lemmas.SpecStep
/-
The reference decoder's fuel: every `step` decreases `2 · (codewords left) + [mode ≠ ASCII]`, so
`run` with the fuel `decode` gives it (`3 · size + 4`) always ends with a finished run. A result
of `DM.Spec.Stream.decode` is therefore never the state of a run that was cut short (`run` returns
its current state silently when the fuel is used up). The declarations continue the namespace `SpecStep`.
-/
namespace DM.Lemmas.SpecStep
open DM.Spec.Stream

def mu (cw : Array Nat) (s : St) : Nat := 2 * (cw.size - s.i) + (if s.mode = .ascii then 0 else 1)

theorem map_ok {α β : Type} {f : α → β} {x : Except String α} {b : β} (h : f <$> x = .ok b) : ∃ a, x = .ok a ∧ f a = b := by
  cases x with
  | error e => cases h
  | ok a => exact ⟨a, rfl, by injection h⟩

theorem fin_pure {cw : Array Nat} {s s1 a : St} (h : (pure (some a) : Except String (Option St)) = .ok (some s1))
    (hlt : mu cw a < mu cw s) : mu cw s1 < mu cw s := by
  have : some a = some s1 := by injection h
  injection this with this
  rw [← this]; exact hlt

theorem fin_ite {cw : Array Nat} {s s1 a : St} {p : Prop} [Decidable p] {r : Except String (Option St)}
    (h : (if p then .ok (some a) else r) = .ok (some s1)) (ha : mu cw a < mu cw s)
    (hr : r = .ok (some s1) → mu cw s1 < mu cw s) : mu cw s1 < mu cw s := by
  split at h
  · exact fin_pure h ha
  · exact hr h

theorem mu_adv {cw : Array Nat} {s a : St} (hi : s.i < a.i) (hn : s.i < cw.size) : mu cw a < mu cw s := by
  have h : cw.size - a.i < cw.size - s.i := Nat.sub_lt_sub_left hn hi
  have e : (if a.mode = .ascii then 0 else 1) ≤ 1 := by split <;> decide
  unfold mu
  omega

theorem mu_back {cw : Array Nat} {s a : St} (hi : a.i = s.i) (hs : s.mode ≠ .ascii) (ha : a.mode = .ascii) :
    mu cw a < mu cw s := by
  unfold mu
  rw [hi, if_pos ha, if_neg hs]
  omega

theorem bind_ok {α β : Type} {x : Except String α} {f : α → Except String β} {b : β} (h : x >>= f = .ok b) :
    ∃ a, x = .ok a ∧ f a = .ok b := by
  cases x with
  | error e => cases h
  | ok a => exact ⟨a, rfl, h⟩

/-! Mode by mode, from the equation of `step` for the mode: every leaf that is a state has moved on, or stays and falls
back to ASCII mode. -/

theorem step_measure_ascii (cw : Array Nat) (s s1 : St) (hm : s.mode = .ascii) (hn : ¬ cw.size ≤ s.i)
    (h : step cw s = .ok (some s1)) : mu cw s1 < mu cw s := by
  have hlt : s.i < cw.size := Nat.lt_of_not_le hn
  have h1 : s.i < s.i + 1 := Nat.lt_succ_self _
  rw [step_ascii_eq cw s hm hlt] at h
  generalize cw[s.i]! = c at h
  refine fin_ite h (mu_adv h1 hlt) fun h => ?_
  by_cases c2 : c = 129
  · rw [if_pos c2] at h
    obtain ⟨_, _, h⟩ := bind_ok h
    exact fin_pure h (mu_adv hlt hlt)
  rw [if_neg c2] at h
  -- a digit pair, the latches 230 and 231
  refine fin_ite h (mu_adv h1 hlt) fun h => ?_
  refine fin_ite h (mu_adv h1 hlt) fun h => ?_
  refine fin_ite h (mu_adv h1 hlt) fun h => ?_
  by_cases c6 : c = 235
  · rw [if_pos c6] at h
    split at h
    · exact fin_ite h (mu_adv (Nat.lt_add_right 1 h1) hlt) fun h => nomatch h
    · cases h
  rw [if_neg c6] at h
  -- the latches 238, 239, 240; then an ECI
  refine fin_ite h (mu_adv h1 hlt) fun h => ?_
  refine fin_ite h (mu_adv h1 hlt) fun h => ?_
  refine fin_ite h (mu_adv h1 hlt) fun h => ?_
  split at h
  · obtain ⟨_, _, h⟩ := bind_ok h
    exact fin_pure h (mu_adv (Nat.lt_add_right _ h1) hlt)
  · cases h

theorem step_measure_edifact (cw : Array Nat) (s s1 : St) (hm : s.mode = .edifact) (hn : ¬ cw.size ≤ s.i)
    (h : step cw s = .ok (some s1)) : mu cw s1 < mu cw s := by
  have hlt : s.i < cw.size := Nat.lt_of_not_le hn
  have hna : s.mode ≠ .ascii := by rw [hm]; decide
  by_cases h3 : s.i + 2 < cw.size
  · rw [step_edifact cw s hm h3] at h
    refine fin_pure h (mu_adv ?_ hlt)
    unfold ediGroup
    repeat' split
    all_goals simp only [emit_i]; omega
  · rw [step_edifact_short cw s hm hlt (by omega)] at h
    exact fin_pure h (mu_back rfl hna rfl)

/-- the first leaves of the C40 / Text and the X12 arm are the same: the end-of-symbol rule and UNLATCH -/
theorem measure_tri {cw : Array Nat} {s s1 : St} {c : Nat} {rest : Except String (Option St)} (hna : s.mode ≠ .ascii)
    (hlt : s.i < cw.size) (hrest : rest = .ok (some s1) → mu cw s1 < mu cw s)
    (h : (if cw.size - s.i = 1 then
        if c = 254 then .ok (some { s with i := s.i + 1, mode := .ascii }) else .ok (some { s with mode := .ascii })
      else if c = 254 then .ok (some { s with i := s.i + 1, mode := .ascii }) else rest) = .ok (some s1)) :
    mu cw s1 < mu cw s := by
  have h1 : s.i < s.i + 1 := Nat.lt_succ_self _
  split at h
  · exact fin_ite h (mu_adv h1 hlt) fun h => fin_pure h (mu_back rfl hna rfl)
  · exact fin_ite h (mu_adv h1 hlt) hrest

theorem step_measure_x12 (cw : Array Nat) (s s1 : St) (hm : s.mode = .x12) (hn : ¬ cw.size ≤ s.i)
    (h : step cw s = .ok (some s1)) : mu cw s1 < mu cw s := by
  have hlt : s.i < cw.size := Nat.lt_of_not_le hn
  rw [step_x12_eq cw s hm hlt] at h
  refine measure_tri (by rw [hm]; decide) hlt (fun h => ?_) h
  split at h
  · cases h
  split at h
  · cases h
  obtain ⟨_, _, h⟩ := bind_ok h
  obtain ⟨_, _, h⟩ := bind_ok h
  obtain ⟨_, _, h⟩ := bind_ok h
  exact fin_pure h (mu_adv (by simp only []; omega) hlt)

theorem step_measure_c40 (cw : Array Nat) (s s1 : St) (hm : s.mode = .c40 ∨ s.mode = .text) (hn : ¬ cw.size ≤ s.i)
    (h : step cw s = .ok (some s1)) : mu cw s1 < mu cw s := by
  have hlt : s.i < cw.size := Nat.lt_of_not_le hn
  rw [step_c40_eq cw s hm hlt] at h
  refine measure_tri (by rcases hm with h | h <;> rw [h] <;> decide) hlt (fun h => ?_) h
  split at h
  · cases h
  split at h
  · cases h
  obtain ⟨_, _, h⟩ := bind_ok h
  exact fin_pure h (mu_adv (by simp only []; omega) hlt)

theorem step_measure_b256 (cw : Array Nat) (s s1 : St) (hm : s.mode = .base256) (hn : ¬ cw.size ≤ s.i)
    (h : step cw s = .ok (some s1)) : mu cw s1 < mu cw s := by
  have hlt : s.i < cw.size := Nat.lt_of_not_le hn
  have read : ∀ len start, s.i < start → b256Read cw s len start = .ok (some s1) → mu cw s1 < mu cw s := by
    intro len start hst h
    unfold b256Read at h
    split at h
    · cases h
    · exact fin_pure h (mu_adv (by simp only []; omega) hlt)
  rw [step_b256_eq cw s hm hlt] at h
  split at h
  · exact read _ _ (by omega) h
  split at h
  · exact read _ _ (by omega) h
  split at h
  · exact read _ _ (by omega) h
  · cases h

theorem step_measure (cw : Array Nat) (s s1 : St) (h : step cw s = .ok (some s1)) : mu cw s1 < mu cw s := by
  by_cases hn : cw.size ≤ s.i
  · rw [step_end cw s hn] at h; cases h
  cases hm : s.mode with
  | ascii => exact step_measure_ascii cw s s1 hm hn h
  | c40 => exact step_measure_c40 cw s s1 (Or.inl hm) hn h
  | text => exact step_measure_c40 cw s s1 (Or.inr hm) hn h
  | x12 => exact step_measure_x12 cw s s1 hm hn h
  | edifact => exact step_measure_edifact cw s s1 hm hn h
  | base256 => exact step_measure_b256 cw s s1 hm hn h

theorem run_finished (cw : Array Nat) : ∀ (f : Nat) (s s' : St), mu cw s < f → run cw f s = .ok s' → step cw s' = .ok none := by
  intro f
  induction f with
  | zero => intro s s' hf _; omega
  | succ f ih =>
    intro s s' hf h
    rw [run] at h
    cases hs : step cw s with
    | error e => rw [hs] at h; cases h
    | ok o =>
      rw [hs] at h
      cases o with
      | none =>
        have : s = s' := by injection h
        rw [← this]; exact hs
      | some s1 =>
        have := step_measure cw s s1 hs
        exact ih s1 s' (by omega) h

theorem decode_finished (cwl : List Nat) (d : Decoded) (h : decode cwl = .ok d) :
    ∃ s i0, i0 ≤ 1 ∧ run cwl.toArray (3 * cwl.length + 4) { i := i0 } = .ok s ∧ step cwl.toArray s = .ok none ∧
      d.body = s.out.toList ∧ d.trace = s.trace.toList ∧ d.latches = s.latches.toList ∧ d.ecis = s.ecis.toList ∧
      d.padAt = s.padAt := by
  rw [decode_eq] at h
  obtain ⟨s, hs, hd⟩ := map_ok h
  simp only [List.size_toArray] at hs
  refine ⟨s, _, ?_, hs, run_finished _ _ _ _ ?_ hs, ?_⟩
  · split <;> (try split) <;> omega
  · simp only [mu, List.size_toArray, ↓reduceIte]; omega
  · subst hd; exact ⟨rfl, rfl, rfl, rfl, rfl⟩

end DM.Lemmas.SpecStep
