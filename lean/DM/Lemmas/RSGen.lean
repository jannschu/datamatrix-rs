import DM.Lemmas.RSBridge
/-
The generator polynomials of the Reed–Solomon code are the products Π_{i=1..k} (x + 2^i):
`prodLin k` computes the product with the table arithmetic, and it vanishes at 2^1 … 2^k.
Namespace: `DM.Lemmas`.
-/
namespace DM.Lemmas
open DM.Model

/-- `p(x)·(x + a)`, coefficients highest first -/
def mulLin (p : List Nat) (a : Nat) : List Nat :=
  List.zipWith (fun e c => gadd e (gmul a c)) (p ++ [0]) (0 :: p)

def prodLin : Nat → List Nat
  | 0 => [1]
  | k + 1 => mulLin (prodLin k) (alog (k + 1))

theorem mulLin_bytes {p : List Nat} (hp : Bytes p) (a : Nat) : Bytes (mulLin p a) :=
  bytes_zipWith _ _ _ fun e he _ _ =>
    xor_lt_256 (hp.append (Bytes.replicate_zero 1) e he) (gmul_lt' _ _)

theorem evalH_mulLin {p : List Nat} (hp : Bytes p) {a : Nat} (ha : a < 256) (x : GF) :
    evalH (toG (mulLin p a)) x = evalH (toG p) x * (x + GF.ofNat a) := by
  have h : toG (mulLin p a)
      = List.zipWith (fun e g => e + GF.ofNat a * g) (toG p ++ [0]) (0 :: toG p) := by
    unfold mulLin toG
    rw [map_zipWith_of GF.ofNat _ GF.ofNat GF.ofNat (fun e g => e + GF.ofNat a * g),
      List.map_append]
    · rfl
    · intro e _ c hc
      rw [GF.ofNat_xor, GF.ofNat_gmul ha ((Bytes.cons (by omega) hp) c hc)]
  rw [h, evalH_zipWith _ _ _ _ (by simp), evalH_append, evalH_cons, evalH_cons, evalH_nil]
  simp only [List.length_cons, List.length_nil]
  ring

theorem mulLin_cons (b : Nat) (t : List Nat) (a : Nat) :
    mulLin (b :: t) a
      = b :: List.zipWith (fun e c => gadd e (gmul a c)) (t ++ [0]) (b :: t) := by
  unfold mulLin
  rw [List.cons_append, List.zipWith_cons_cons]
  congr 1
  show b ^^^ gmul a 0 = b
  unfold gmul
  rw [if_pos (Or.inr rfl)]
  exact Nat.xor_zero b

theorem prodLin_monic (k : Nat) : ∃ t, prodLin k = 1 :: t ∧ t.length = k := by
  induction k with
  | zero => exact ⟨[], rfl, rfl⟩
  | succ k ih =>
    obtain ⟨t, ht, hl⟩ := ih
    refine ⟨_, by rw [show prodLin (k + 1) = mulLin (prodLin k) (alog (k + 1)) from rfl, ht,
      mulLin_cons], ?_⟩
    rw [List.length_zipWith, List.length_append, List.length_singleton, List.length_cons, hl,
      Nat.min_self]

theorem prodLin_bytes (k : Nat) : Bytes (prodLin k) := by
  induction k with
  | zero => exact Bytes.one
  | succ k ih => exact mulLin_bytes ih _

theorem prodLin_root (k i : Nat) (hi : i < k) (hk : k < 255) :
    evalN (prodLin k) (alog (i + 1)) = 0 := by
  have hx : alog (i + 1) < 256 := (alog_pos _ (by omega)).2
  rw [← GF.ofNat_eq_zero (evalN_lt _ _ (prodLin_bytes k) hx), ofNat_evalN _ _ (prodLin_bytes k) hx]
  clear hx
  induction k with
  | zero => exact absurd hi (Nat.not_lt_zero _)
  | succ k ih =>
    rw [show prodLin (k + 1) = mulLin (prodLin k) (alog (k + 1)) from rfl,
      evalH_mulLin (prodLin_bytes k) (alog_pos _ hk).2]
    rcases Nat.lt_succ_iff_lt_or_eq.mp hi with h | h
    · rw [ih h (Nat.lt_of_succ_lt hk), zero_mul]
    · rw [h, GF.add_self, mul_zero]

end DM.Lemmas
