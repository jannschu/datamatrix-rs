import DM.Lemmas.PlanRunC40
import DM.Lemmas.CoupleC40Enc
/-!
# Planner / encoder coupling for C40 and Text

`SwitchSeg .c40` and `EndSeg .c40` of `Couple.lean` are false as stated (`switchSeg_c40_false`,
`endSeg_c40_false` at the end of this file; for Text their docstrings give examples, no theorem).  Proved here, generically in the flag `text`, from the encoder side
(`CoupleC40Enc.lean`) and the planner side (`PlanRunC40.lean`):

* `switchSegC40'` : `SwitchSegC40' text` -- `SwitchSeg` with the two extra hypotheses `digitSplit = false`,
  `digitTail = false` (the encoder's two-digit special cases), exact conclusions, plus `w + 2 ≤ ctx'.written`;
* `switchSegC40Tail` : the `digitTail` case with `m' = .ascii`, `rest = [(0, .ascii)]`: the planned state is reached with
  `cw.length ∈ {written - 1, written}`;
* `endSegC40'` : `EndSegC40' text` -- `EndSeg` with the count inequality replaced by "fits the symbol the
  planner predicts" and `w ≤ s'.cw.length`.

The first two are readings of `switch_run`, the third of `end_run`.
-/
namespace DM.Lemmas.CoupleC40
open DM.Model DM.Model.Plan DM.Model.Enc DM.Lemmas.AsciiRT DM.Lemmas.PlanInv DM.Lemmas.Couple

theorem encAt_mk {body : List Nat} {list : List Sym} {s : St} {p w : Nat} {m : EMode} {plan : List (Nat × EMode)}
    (h : EncAt body list s p w m plan) : ∃ cw, cw.length = w ∧ s = ⟨body, p, m, plan, none, cw, list⟩ := by
  obtain ⟨input, pos, mode, plan', newMode, cw, slist⟩ := s
  obtain ⟨rfl, rfl, rfl, e4, rfl, rfl, rfl⟩ := h
  exact ⟨cw, e4, rfl⟩

/-- planner and encoder up to the planned switch at `p + k`: the encoder is in `handle_end` with the buffer flushed,
one codeword short of what is accounted for (the UNLATCH) -/
theorem switch_run (text : Bool) (body : List Nat) (hb : ByteList body) (list : List Sym) (p w k : Nat) (g0 gk : GPlan)
    (ac : Nat) (ctx' : Ctx) (m' : EMode) (rest : List (Nat × EMode)) (cw : List Nat) (hlt : p + k < body.length)
    (hk : 1 ≤ k) (h0 : g0.plan = newPlan (cmode text) (ctxAt body list p w)) (hst : StepsTo k g0 gk)
    (hsp : SwitchPoint gk) (hsc : gk.switchCost = some ac) (hun : gk.unlatch = .ok ctx') (hne : m' ≠ cmode text)
    (hns : digitSplit text body p k = false) (hcw : cw.length = w) :
    ac = g0.extra + 12 * (ctx'.written - w) ∧
    ∃ cw2, cw2.length + 1 = ctx'.written ∧ w + 2 ≤ cw2.length ∧
      encodeMode ⟨body, p, cmode text, (body.length - (p + k), m') :: rest, none, cw, list⟩ =
        c40HandleEnd ⟨body, p + k, m', rest, m'.latch, cw2, list⟩ (body.getD (p + k - 1) 0) [] := by
  obtain ⟨hw, hac, hN⟩ := plan_switch text body list p w k g0 gk ac ctx' hlt hk h0 hst hsp hsc hun
  obtain ⟨cw2, c2, r2⟩ := enc_to_switch text body hb list p k m' rest cw hk hlt hne hns
  refine ⟨hac, cw2, ?_, ?_, r2⟩
  · rw [c2, hcw, hw]
    split <;> rfl
  · rw [c2, hcw]
    split <;> omega

def SwitchSegC40' (text : Bool) : Prop :=
  ∀ (body : List Nat) (list : List Sym) (p w k : Nat) (g0 gk : GPlan) (ac : Nat) (ctx' : Ctx) (m' : EMode)
    (rest : List (Nat × EMode)) (s : St),
    ByteList body → p + k < body.length → 1 ≤ k →
    g0.plan = newPlan (cmode text) (ctxAt body list p w) →
    StepsTo k g0 gk → SwitchPoint gk → gk.switchCost = some ac → gk.unlatch = .ok ctx' → m' ≠ cmode text →
    EncAt body list s p w (cmode text) ((body.length - (p + k), m') :: rest) →
    digitSplit text body p k = false → digitTail body p k = false →
    ac = g0.extra + 12 * (ctx'.written - w) ∧ w ≤ ctx'.written ∧ w + 2 ≤ ctx'.written ∧
    ((∃ s', encodeMode s = .ok s' ∧ s'.input = body ∧ s'.list = list ∧ s'.pos = p + k ∧
        s'.cw.length = ctx'.written ∧ s'.mode = m' ∧ s'.plan = rest ∧ s'.newMode = m'.latch) ∨
     (encodeMode s = .error .tooMuch ∧ firstBigEnough list ctx'.written = none))

theorem switchSegC40' (text : Bool) : SwitchSegC40' text := by
  intro body list p w k g0 gk ac ctx' m' rest s hb hlt hk h0 hst hsp hsc hun hne henc hns hnt
  obtain ⟨cw, hcw, rfl⟩ := encAt_mk henc
  obtain ⟨hac, cw2, hlen, hprog, hr⟩ :=
    switch_run text body hb list p w k g0 gk ac ctx' m' rest cw hlt hk h0 hst hsp hsc hun hne hns hcw
  rw [handleEnd_nil hlt, if_neg (of_decide_eq_false hnt)] at hr
  exact ⟨hac, by omega, by omega, Or.inl ⟨_, hr, rfl, rfl, rfl, by simpa using hlen, rfl, rfl, rfl⟩⟩

theorem switchSeg_c40' : SwitchSegC40' false := switchSegC40' false
theorem switchSeg_text' : SwitchSegC40' true := switchSegC40' true

/-- the encoder reaches the planned state, possibly one codeword cheaper (it omits the UNLATCH when the symbol has
exactly one codeword left) -/
def SwitchSegC40Tail (text : Bool) : Prop :=
  ∀ (body : List Nat) (list : List Sym) (p w k : Nat) (g0 gk : GPlan) (ac : Nat) (ctx' : Ctx) (s : St),
    ByteList body → p + k < body.length → 1 ≤ k →
    g0.plan = newPlan (cmode text) (ctxAt body list p w) →
    StepsTo k g0 gk → SwitchPoint gk → gk.switchCost = some ac → gk.unlatch = .ok ctx' →
    EncAt body list s p w (cmode text) [(body.length - (p + k), .ascii), (0, .ascii)] →
    digitTail body p k = true →
    ac = g0.extra + 12 * (ctx'.written - w) ∧ w ≤ ctx'.written ∧ w + 2 ≤ ctx'.written ∧
    ((∃ s', encodeMode s = .ok s' ∧ s'.input = body ∧ s'.list = list ∧ s'.pos = p + k ∧
        s'.cw.length ≤ ctx'.written ∧ ctx'.written ≤ s'.cw.length + 1 ∧ w + 2 ≤ s'.cw.length ∧
        s'.mode = .ascii ∧ s'.plan = [(0, .ascii)] ∧ s'.newMode = none) ∨
     (encodeMode s = .error .tooMuch ∧ firstBigEnough list ctx'.written = none))

theorem switchSegC40Tail (text : Bool) : SwitchSegC40Tail text := by
  intro body list p w k g0 gk ac ctx' s hb hlt hk h0 hst hsp hsc hun henc ht
  obtain ⟨cw, hcw, rfl⟩ := encAt_mk henc
  have ht := of_decide_eq_true ht
  have hns : digitSplit text body p k = false :=
    decide_eq_false fun h => by have := h.2.1; omega
  obtain ⟨hac, cw2, hlen, hprog, hr⟩ := switch_run text body hb list p w k g0 gk ac ctx' .ascii [(0, .ascii)] cw hlt hk
    h0 hst hsp hsc hun (by cases text <;> simp [cmode]) hns hcw
  rw [handleEnd_nil hlt, if_pos ht, hlen] at hr
  refine ⟨hac, by omega, by omega, ?_⟩
  cases hsz : szLeft list ctx'.written with
  | none => rw [hsz] at hr; exact Or.inr ⟨hr, szLeft_eq_none_iff.mp hsz⟩
  | some sp =>
    rw [hsz] at hr
    have hl : cw2.length ≤ (if sp ≥ 1 then cw2 ++ [254] else cw2).length ∧
        (if sp ≥ 1 then cw2 ++ [254] else cw2).length ≤ cw2.length + 1 := by split <;> simp
    exact Or.inl ⟨_, hr, rfl, rfl, rfl, by simp only []; omega, by simp only []; omega, by simp only []; omega,
      rfl, rfl, rfl⟩

theorem switchSeg_c40_tail : SwitchSegC40Tail false := switchSegC40Tail false
theorem switchSeg_text_tail : SwitchSegC40Tail true := switchSegC40Tail true

def EndSegC40' (text : Bool) : Prop :=
  ∀ (body : List Nat) (list : List Sym) (p w k : Nat) (g0 gk gE : GPlan) (r : StepResult) (s : St),
    ByteList body → p + k = body.length → 1 ≤ k →
    g0.plan = newPlan (cmode text) (ctxAt body list p w) →
    StepsTo k g0 gk → gk.step = .ok (some (gE, r)) → r.end = true →
    EncAt body list s p w (cmode text) [(0, cmode text)] →
    g0.extra ≤ gE.cost ∧
    ((∃ s', encodeMode s = .ok s' ∧ s'.input = body ∧ s'.list = list ∧ s'.pos ≤ body.length ∧ s'.newMode = none ∧
        (s'.hasMore = true → s'.mode = .ascii ∧ s'.plan = [(0, .ascii)]) ∧ w ≤ s'.cw.length ∧
        ∀ sym, firstBigEnough list (w + ceil12 (gE.cost - g0.extra) / 12) = some sym →
          s'.cw.length + asciiSize s'.rest ≤ dataCw sym) ∨
     (encodeMode s = .error .tooMuch ∧ firstBigEnough list (w + ceil12 (gE.cost - g0.extra) / 12) = none))

theorem end_run (text : Bool) (body : List Nat) (hb : ByteList body) (list : List Sym) (p w k : Nat) (g0 gk gE : GPlan)
    (r : StepResult) (cw : List Nat) (hpk : p + k = body.length) (hk : 1 ≤ k)
    (h0 : g0.plan = newPlan (cmode text) (ctxAt body list p w)) (hst : StepsTo k g0 gk)
    (hstep : gk.step = .ok (some (gE, r))) (hcw : cw.length = w) :
    ∃ X, gE.cost = g0.extra + 12 * X ∧
      CoupleSeg.Within list (w + X) (encodeMode ⟨body, p, cmode text, [(0, cmode text)], none, cw, list⟩)
        (CoupleSeg.Tail body list w (w + X)) := by
  have hpl := plan_end text body list p w k g0 gk gE r hpk hk h0 hst hstep
  by_cases hde : ∃ j0, k = j0 + 2 ∧ DigitExit text body p j0
  · -- the encoder leaves at the two final digits, whatever the planner chose there
    obtain ⟨j0, rfl, x1, x2, x3⟩ := hde
    obtain ⟨cw1, buf1, c1, b1, r1⟩ := enc_run text body hb 0 (cmode text) [] list p cw j0 (by omega) (Or.inl rfl)
      (fun j hj hx => by have := hx.1; omega)
    obtain rfl : buf1 = [] := List.length_eq_zero_iff.mp (b1.trans x3)
    rw [r1, loop_digit_exit x1 x2]
    suffices hX : ∃ X, gE.cost = g0.extra + 12 * X ∧ cw1.length + 1 ≤ w + X by
      obtain ⟨X, hX1, hX2⟩ := hX
      exact ⟨X, hX1, endOK_digits x1 x2 (by omega) hX2⟩
    rcases hpl with hp | ⟨j0', _, X, y1, _, _, _, y5, y6⟩
    · refine ⟨_, hp, ?_⟩
      obtain ⟨h3, h2⟩ := DigitExit.two_more ⟨x1, x2, x3⟩
      have := endExtra_ge list (w + 2 * (NV text body p j0 / 3)) 2 (body.getD (body.length - 1) 0) (Nat.le_refl 2)
      rw [h3, h2, c1, hcw]
      omega
    · obtain rfl : j0' = j0 := by omega
      exact ⟨_, y6, by omega⟩
  · -- the encoder reads all characters; the planner cannot have chosen the two-digit end
    obtain ⟨cw1, buf1, c1, b1, r1⟩ := enc_run text body hb 0 (cmode text) [] list p cw k (Nat.le_of_eq hpk) (Or.inl rfl)
      (fun j hj hx => hde ⟨j, by have := hx.1; omega, hx⟩)
    rw [r1, hpk, loop_at_end, if_neg (by omega)]
    have hE := handleEnd_end body (cmode text) cw1 list (body.getD (p + k - 1) 0) buf1
      (by rw [b1]; exact Nat.le_of_lt_succ (Nat.mod_lt _ (by decide))) (by omega) (by rw [hpk])
    rcases hpl with hp | ⟨j0', _, _, y1, y2, _⟩
    · refine ⟨_, hp, ?_⟩
      rw [c1, b1, hcw, hpk, Nat.add_assoc] at hE
      exact hE.imp fun _ _ ht => ht.weaken (Nat.le_add_right _ _)
    · exact absurd ⟨j0', y1, y2⟩ hde

theorem endSegC40' (text : Bool) : EndSegC40' text := by
  intro body list p w k g0 gk gE r s hb hpk hk h0 hst hstep _ henc
  obtain ⟨cw, hcw, rfl⟩ := encAt_mk henc
  obtain ⟨X, hX, hok⟩ := end_run text body hb list p w k g0 gk gE r cw hpk hk h0 hst hstep hcw
  have hc : ceil12 (gE.cost - g0.extra) / 12 = X := by
    rw [hX, Nat.add_sub_cancel_left, PlanStep.ceil12_mul, Nat.mul_div_cancel_left X (by decide)]
  rw [hc]
  exact ⟨hX ▸ Nat.le_add_right _ _, hok⟩

theorem endSeg_c40' : EndSegC40' false := endSegC40' false
theorem endSeg_text' : EndSegC40' true := endSegC40' true

/-- evaluate one step (used only to name the stepped plans in the counterexamples) -/
def stepOf (g : GPlan) : GPlan × StepResult :=
  match g.step with
  | .ok (some x) => x
  | _ => (g, ⟨true, true⟩)

def cxS : St := ⟨[32], 0, .c40, [(0, .c40)], none, [], [0]⟩
def cxG0 : GPlan := { extra := 0, switches := [], plan := newPlan .c40 (ctxAt [32] [0] 0 0) }

/-- `EndSeg .c40` as stated in `Couple.lean` is false: for the one-character message `[32]` in C40 with the
10x10 symbol only (3 data codewords) the encoder writes the padded triple and UNLATCH (3 codewords, which
fit), while `cost()` prices 2 codewords (UNLATCH + the ASCII size of the character).  Other shapes of the
same defect: `[200, 65]` in Text (5 codewords against a cost of 48: the trailing UNLATCH is not priced);
`[48, 48]` with `w = 60` and the full list (sizes 62, 63 adjacent): 62 against 61. -/
theorem endSeg_c40_false : ¬ EndSeg .c40 := fun h =>
  CoupleSeg.Within.not_of_ok (s' := ⟨[32], 1, .ascii, [(0, .ascii)], none, [19, 7, 254], [0]⟩) rfl (by decide)
    (h [32] [0] 0 0 1 cxG0 (stepOf cxG0).1 (stepOf (stepOf cxG0).1).1 (stepOf (stepOf cxG0).1).2 cxS
      (by intro b hb; simp at hb; omega) rfl (Or.inl (Nat.le_refl 1)) rfl ⟨_, _, rfl, rfl, rfl⟩ rfl rfl
      ⟨rfl, rfl, rfl, rfl, rfl, rfl, rfl⟩).2

def cxS2 : St := ⟨[48, 48], 0, .c40, [(1, .ascii), (0, .ascii)], none, [], [0]⟩
def cxH0 : GPlan := { extra := 0, switches := [], plan := newPlan .c40 (ctxAt [48, 48] [0] 0 0) }

/-- `SwitchSeg .c40` as stated is false (the `digitSplit` case): message `[48, 48]`, C40 from position 0, switch to
ASCII planned after the first digit.  The encoder's "one digit left" branch backs up, writes UNLATCH and
sets ASCII until the end at position 0 instead of 1.  (The `digitTail` case: `[65, 48, 48]` in Text, `w = 0`,
`k = 1`, `m' = .ascii`, list `symbolList (List.range 30)`: 2 codewords written against 3 planned.) -/
theorem switchSeg_c40_false : ¬ SwitchSeg .c40 := fun h =>
  CoupleSeg.Within.not_of_ok (s' := ⟨[48, 48], 0, .ascii, [(0, .ascii)], none, [254], [0]⟩) rfl (by decide)
    (h [48, 48] [0] 0 0 1 cxH0 (stepOf cxH0).1 36 ⟨[48, 48], 1, 3, [0]⟩ .ascii [(0, .ascii)] cxS2
      (by intro b hb; simp at hb; omega) (by decide) (Or.inl (Nat.le_refl 1)) rfl ⟨_, _, rfl, rfl, rfl⟩
      (Or.inr ⟨_, _, rfl, rfl, rfl⟩) rfl rfl (by decide) ⟨rfl, rfl, rfl, rfl, rfl, rfl, rfl⟩).2.2

end DM.Lemmas.CoupleC40
