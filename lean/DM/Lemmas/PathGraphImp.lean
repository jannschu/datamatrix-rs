import DM.Model.Path
import DM.Lemmas.Blocks
/-
`bitsToEdgeGraphImp` (the loops of `bits_to_edge_graph` in `placement/path.rs`, written down line by line) is
equal to the closed form `bitsToEdgeGraph`, for every `bits`, `width`, `height` (no side condition).
Nothing executes `bitsToEdgeGraphImp`: the driver's request `pathm` (`DM/Drv/C17.lean`) runs the model `path`,
which builds its graph with the closed form, and the check compares the segments it prints with those of
`Bitmap::path()` of the crate on every bitmap of the sweep. So the closed form is tied to the crate by that
comparison, and the transcription only by reading it beside the Rust loops.

Steps: the two nested `for` loops are a nested `List.foldl` of `stepCell` (`imp_eq_loop`); each of
the two arrays only ever gets `true` written, so entry `k` is in the end the disjunction over all
modules of "this module writes `k`" (`runLoop_or`, order independent); for a given `k`
at most two modules can write it, which gives the closed form (`any_writes`); the hint is the
first dark module of the row-major scan (`runLoop_hint`, `flat_findSome`).
Namespaces: `PathP.GraphImp`, `PathP` (`bitsToEdgeGraphImp_eq`).
-/
namespace DM.Lemmas.PathP.GraphImp
open DM.Model.Path

abbrev St := Array Bool × Array Bool × Option Nat

def stepCell (bits : Array Bool) (width height i j : Nat) (s : St) : St :=
  if bits.getD (i * width + j) false then
    let cell := i * (width + 1) + j
    let l1 := if (j == 0 || !bits.getD (i * width + j - 1) false) then s.1.setIfInBounds cell true else s.1
    let l2 := if (j == width - 1 || !bits.getD (i * width + j + 1) false) then l1.setIfInBounds (cell + 1) true else l1
    let t1 := if (i == 0 || !bits.getD (i * width + j - width) false) then s.2.1.setIfInBounds cell true else s.2.1
    let t2 := if (i == height - 1 || !bits.getD (i * width + j + width) false) then t1.setIfInBounds (cell + (width + 1)) true else t1
    (l2, t2, if s.2.2.isNone then some cell else s.2.2)
  else s

theorem foldl_proj_or {σ α : Type} (f : σ → α → σ) (proj : σ → Array Bool) (P : α → Nat → Bool) :
    ∀ (L : List α), (∀ s, ∀ x ∈ L, (proj (f s x)).size = (proj s).size ∧ ∀ k, k < (proj s).size →
        (proj (f s x)).getD k false = ((proj s).getD k false || P x k)) →
      ∀ s, (proj (L.foldl f s)).size = (proj s).size ∧ ∀ k, k < (proj s).size →
        (proj (L.foldl f s)).getD k false = ((proj s).getD k false || L.any (fun x => P x k)) := by
  intro L
  induction L with
  | nil => intro _ s; simp
  | cons x L ih =>
    intro hstep s
    obtain ⟨h1, h2⟩ := ih (fun s y hy => hstep s y (List.mem_cons_of_mem _ hy)) (f s x)
    obtain ⟨h3, h4⟩ := hstep s x List.mem_cons_self
    refine ⟨by rw [List.foldl_cons, h1, h3], ?_⟩
    intro k hk
    rw [List.foldl_cons, h2 k (by rw [h3]; exact hk), h4 k hk, List.any_cons, Bool.or_assoc]

theorem condSet_size (a : Array Bool) (c : Bool) (cell : Nat) :
    (if c then a.setIfInBounds cell true else a).size = a.size := by
  split <;> simp

theorem condSet_getD (a : Array Bool) (c : Bool) (cell k : Nat) (hk : k < a.size) :
    (if c then a.setIfInBounds cell true else a).getD k false = (a.getD k false || (k == cell && c)) := by
  cases c
  · simp
  · simp only [if_true, Bool.and_true, Array.getD_eq_getD_getElem?, Array.getElem?_setIfInBounds]
    by_cases h : cell = k
    · subst h; simp [hk]
    · have : ¬ k = cell := fun e => h e.symm
      simp [h, this]

def runLoop (bits : Array Bool) (width height : Nat) (s : St) : St :=
  (List.range' 0 height).foldl (fun s i => (List.range' 0 width).foldl (fun s j => stepCell bits width height i j s) s) s

theorem runLoop_or (bits : Array Bool) (width height : Nat) (proj : St → Array Bool)
    (P : Nat → Nat → Nat → Bool)
    (hstep : ∀ i j, i < height → j < width → ∀ s,
      (proj (stepCell bits width height i j s)).size = (proj s).size ∧ ∀ k, k < (proj s).size →
        (proj (stepCell bits width height i j s)).getD k false = ((proj s).getD k false || P i j k))
    (s : St) (n : Nat) (hs : proj s = Array.replicate n false) :
    proj (runLoop bits width height s) = Array.ofFn (n := n) fun k =>
      (List.range' 0 height).any fun i => (List.range' 0 width).any fun j => P i j k.val := by
  have inner := fun i (hi : i < height) => foldl_proj_or (fun s j => stepCell bits width height i j s) proj
    (fun j k => P i j k) (List.range' 0 width)
    fun s j hj => hstep i j hi (by simpa using hj) s
  obtain ⟨h1, h2⟩ := foldl_proj_or
    (fun s i => (List.range' 0 width).foldl (fun s j => stepCell bits width height i j s) s)
    proj (fun i k => (List.range' 0 width).any fun j => P i j k) (List.range' 0 height)
    (fun s i hi => inner i (by simpa using hi) s) s
  rw [hs, Array.size_replicate] at h1 h2
  apply Array.ext
  · rw [Array.size_ofFn]; exact h1
  · intro k hk _
    rw [Array.getElem_eq_getD false, Array.getElem_ofFn]
    have hk : k < n := by rw [← h1]; exact hk
    rw [show (proj (runLoop bits width height s)).getD k false = _ from h2 k hk]
    simp [Array.getD, hk]

theorem getD_eq_darkAt (bits : Array Bool) {w h i j : Nat} (hi : i < h) (hj : j < w) :
    bits.getD (i * w + j) false = darkAt bits w h i j := by
  simp [darkAt, hi, hj]

theorem test_left (bits : Array Bool) {w h i j : Nat} (hi : i < h) (hj : j < w) :
    (j == 0 || !bits.getD (i * w + j - 1) false) = !(decide (0 < j) && darkAt bits w h i (j - 1)) := by
  cases j with
  | zero => rfl
  | succ j => simp [← getD_eq_darkAt bits hi (show j < w by omega)]

theorem test_right (bits : Array Bool) {w h i j : Nat} (hi : i < h) (hj : j < w) :
    (j == w - 1 || !bits.getD (i * w + j + 1) false) = !darkAt bits w h i (j + 1) := by
  by_cases hjw : j + 1 < w
  · have : ¬ j = w - 1 := by omega
    simp [← getD_eq_darkAt bits hi hjw, this, Nat.add_assoc]
  · rw [beq_iff_eq.mpr (show j = w - 1 by omega), Bool.true_or]
    simp [darkAt, hjw]

theorem test_top (bits : Array Bool) {w h i j : Nat} (hi : i < h) (hj : j < w) :
    (i == 0 || !bits.getD (i * w + j - w) false) = !(decide (0 < i) && darkAt bits w h (i - 1) j) := by
  cases i with
  | zero => rfl
  | succ i =>
    have : (i + 1) * w + j - w = i * w + j := by rw [Nat.succ_mul]; omega
    simp [← getD_eq_darkAt bits (show i < h by omega) hj, this]

theorem test_bottom (bits : Array Bool) {w h i j : Nat} (hi : i < h) (hj : j < w) :
    (i == h - 1 || !bits.getD (i * w + j + w) false) = !darkAt bits w h (i + 1) j := by
  have e : i * w + j + w = (i + 1) * w + j := by rw [Nat.succ_mul]; omega
  by_cases hih : i + 1 < h
  · have : ¬ i = h - 1 := by omega
    simp [← getD_eq_darkAt bits hih hj, this, e]
  · rw [beq_iff_eq.mpr (show i = h - 1 by omega), Bool.true_or]
    simp [darkAt, hih]

/-- Module `(i, j)` writes entry `k` of an edge array: the entry of its own cell if the module before it
(`Dp`, in direction `(di, dj)`) is light, the entry of the next cell if the module after it is light. -/
def writes (w : Nat) (D Dp : Nat → Nat → Bool) (di dj i j k : Nat) : Bool :=
  D i j && ((k == i * (w + 1) + j && !Dp i j) ||
    (k == (i + di) * (w + 1) + (j + dj) && !D (i + di) (j + dj)))

theorem any_writes (w h : Nat) (D Dp : Nat → Nat → Bool) (di dj : Nat) (hdj : dj ≤ 1)
    (hD : ∀ i j, D i j = true → i < h ∧ j < w)
    (hsucc : ∀ i j, Dp (i + di) (j + dj) = D i j)
    (hpred : ∀ a b, Dp a b = true → di ≤ a ∧ dj ≤ b)
    (k : Nat) :
    ((List.range' 0 h).any fun i => (List.range' 0 w).any fun j => writes w D Dp di dj i j k) =
      (Dp (k / (w + 1)) (k % (w + 1)) != D (k / (w + 1)) (k % (w + 1))) := by
  have hb : k % (w + 1) < w + 1 := Nat.mod_lt _ (by omega)
  conv => lhs; rw [← Nat.div_add_mod k (w + 1), Nat.mul_comm]
  generalize k / (w + 1) = a
  generalize k % (w + 1) = b at hb
  rw [Bool.eq_iff_iff]
  simp only [List.any_eq_true, List.mem_range'_1, Nat.zero_le, true_and, Nat.zero_add, writes,
    Bool.and_eq_true, Bool.or_eq_true, beq_iff_eq, Bool.not_eq_true', bne_iff_ne, ne_eq]
  constructor
  · rintro ⟨i, hi, j, hj, hd, ⟨hc, hp⟩ | ⟨hc, hn⟩⟩
    · obtain ⟨rfl, rfl⟩ := block_inj (by omega) (by omega) hc
      rw [hp, hd]; nofun
    · obtain ⟨rfl, rfl⟩ := block_inj (by omega) (by omega) hc
      rw [hsucc, hd, hn]; nofun
  · intro hne
    cases hd : D a b
    · have hp : Dp a b = true := by simpa [hd] using hne
      obtain ⟨h1, h2⟩ := hpred a b hp
      obtain ⟨i, rfl⟩ : ∃ i, a = i + di := ⟨a - di, by omega⟩
      obtain ⟨j, rfl⟩ : ∃ j, b = j + dj := ⟨b - dj, by omega⟩
      rw [hsucc] at hp
      exact ⟨i, (hD i j hp).1, j, (hD i j hp).2, hp, Or.inr ⟨rfl, hd⟩⟩
    · have hp : Dp a b = false := by simpa [hd] using hne
      exact ⟨a, (hD a b hd).1, b, (hD a b hd).2, hd, Or.inl ⟨rfl, hp⟩⟩

theorem darkAt_lt (bits : Array Bool) {w h i j : Nat} (hd : darkAt bits w h i j = true) : i < h ∧ j < w := by
  simp only [darkAt, Bool.and_eq_true, decide_eq_true_eq] at hd
  exact hd.1

theorem stepCell_l (bits : Array Bool) {w h i j : Nat} (hi : i < h) (hj : j < w) (s : St) :
    (stepCell bits w h i j s).1.size = s.1.size ∧ ∀ k, k < s.1.size →
      (stepCell bits w h i j s).1.getD k false = (s.1.getD k false ||
        writes w (darkAt bits w h) (fun i j => decide (0 < j) && darkAt bits w h i (j - 1)) 0 1 i j k) := by
  unfold stepCell writes
  rw [← getD_eq_darkAt bits hi hj]
  cases hd : bits.getD (i * w + j) false
  · exact ⟨rfl, fun k _ => by rw [Bool.false_and, Bool.or_false]; rfl⟩
  · refine ⟨by simp only [if_true, condSet_size], fun k hk => ?_⟩
    simp only [if_true]
    rw [condSet_getD _ _ _ _ (by rw [condSet_size]; exact hk), condSet_getD _ _ _ _ hk, Bool.or_assoc,
      Bool.true_and, test_left bits hi hj, test_right bits hi hj]
    rfl

theorem stepCell_t (bits : Array Bool) {w h i j : Nat} (hi : i < h) (hj : j < w) (s : St) :
    (stepCell bits w h i j s).2.1.size = s.2.1.size ∧ ∀ k, k < s.2.1.size →
      (stepCell bits w h i j s).2.1.getD k false = (s.2.1.getD k false ||
        writes w (darkAt bits w h) (fun i j => decide (0 < i) && darkAt bits w h (i - 1) j) 1 0 i j k) := by
  unfold stepCell writes
  rw [← getD_eq_darkAt bits hi hj]
  cases hd : bits.getD (i * w + j) false
  · exact ⟨rfl, fun k _ => by rw [Bool.false_and, Bool.or_false]; rfl⟩
  · refine ⟨by simp only [if_true, condSet_size], fun k hk => ?_⟩
    simp only [if_true]
    rw [condSet_getD _ _ _ _ (by rw [condSet_size]; exact hk), condSet_getD _ _ _ _ hk, Bool.or_assoc,
      Bool.true_and, test_top bits hi hj, test_bottom bits hi hj,
      show i * (w + 1) + j + (w + 1) = (i + 1) * (w + 1) + (j + 0) by rw [Nat.succ_mul]; omega]
    rfl

theorem foldl_hint_findSome {σ α : Type} (f : σ → α → σ) (hint : σ → Option Nat) (R : α → Option Nat)
    (hstep : ∀ s x, hint (f s x) = (hint s).or (R x)) :
    ∀ (L : List α) (s : σ), hint (L.foldl f s) = (hint s).or (L.findSome? R) := by
  intro L
  induction L with
  | nil => intro s; simp
  | cons x L ih =>
    intro s
    rw [List.foldl_cons, ih, hstep, List.findSome?_cons]
    cases hint s <;> cases R x <;> simp

theorem stepCell_hint (bits : Array Bool) (width height i j : Nat) (s : St) :
    (stepCell bits width height i j s).2.2 =
      s.2.2.or (if bits.getD (i * width + j) false then some (i * (width + 1) + j) else none) := by
  unfold stepCell
  by_cases hd : bits.getD (i * width + j) false = true
  · simp only [hd, if_true]
    cases s.2.2 <;> simp
  · simp [hd]

theorem runLoop_hint (bits : Array Bool) (width height : Nat) (s : St) :
    (runLoop bits width height s).2.2 =
      s.2.2.or ((List.range' 0 height).findSome? fun i => (List.range' 0 width).findSome? fun j =>
        if bits.getD (i * width + j) false then some (i * (width + 1) + j) else none) := by
  have inner := fun i => foldl_hint_findSome (fun s j => stepCell bits width height i j s) (fun s => s.2.2)
    (fun j => if bits.getD (i * width + j) false then some (i * (width + 1) + j) else none)
    (fun s j => stepCell_hint bits width height i j s) (List.range' 0 width)
  exact foldl_hint_findSome (fun s i => (List.range' 0 width).foldl (fun s j => stepCell bits width height i j s) s)
    (fun s => s.2.2) _ (fun s i => inner i s) (List.range' 0 height) s

theorem row_findSome (d : Nat → Bool) (w h : Nat) (L : List Nat) (hL : ∀ x ∈ L, x < w) :
    (L.findSome? fun j => if d (h * w + j) then some (h * (w + 1) + j) else none) =
      ((L.map (fun x => w * h + x)).find? d).map (fun idx => idx / w * (w + 1) + idx % w) := by
  rw [Nat.mul_comm w h]
  induction L with
  | nil => simp
  | cons x L ih =>
    have hx : x < w := hL x (by simp)
    have ih' := ih (fun y hy => hL y (by simp [hy]))
    rw [List.findSome?_cons, List.map_cons, List.find?_cons]
    by_cases hd : d (h * w + x) = true
    · simp only [hd, if_true, Option.map_some]
      rw [(div_mod_block h hx).1, (div_mod_block h hx).2]
    · simp only [Bool.not_eq_true] at hd
      simp only [hd]
      exact ih'

theorem flat_findSome (d : Nat → Bool) (w h : Nat) :
    ((List.range' 0 h).findSome? fun i => (List.range' 0 w).findSome? fun j =>
        if d (i * w + j) then some (i * (w + 1) + j) else none) =
      ((List.range (w * h)).find? d).map (fun idx => idx / w * (w + 1) + idx % w) := by
  induction h with
  | zero => simp
  | succ h ih =>
    rw [List.range'_1_concat, List.findSome?_append, ih, Nat.mul_succ, List.range_add, List.find?_append,
      Option.map_or, Nat.zero_add]
    congr 1
    rw [List.findSome?_cons, List.findSome?_nil]
    rw [← row_findSome d w h (List.range w) (fun x hx => List.mem_range.mp hx), List.range_eq_range']
    cases (List.findSome? (fun j => if d (h * w + j) = true then some (h * (w + 1) + j) else none) (List.range' 0 w)) <;> rfl

theorem forIn_range_yield {σ : Type} (n : Nat) (f : Nat → σ → Id (ForInStep σ)) (g : Nat → σ → σ)
    (h : ∀ j s, f j s = pure (ForInStep.yield (g j s))) (s : σ) :
    forIn (m := Id) [:n] s f = pure ((List.range' 0 n).foldl (fun s j => g j s) s) := by
  rw [Std.Legacy.Range.forIn_eq_forIn_range', ← List.forIn_pure_yield_eq_foldl]
  simp only [Std.Legacy.Range.size, Nat.sub_zero, Nat.add_sub_cancel, Nat.div_one]
  congr 1
  funext j s
  exact h j s

theorem imp_eq_loop (bits : Array Bool) (width height : Nat) :
    bitsToEdgeGraphImp bits width height =
      let n := (width + 1) * (height + 1)
      let s := runLoop bits width height (Array.replicate n false, Array.replicate n false, none)
      { leftE := s.1, topE := s.2.1, width := width, height := height, hint := s.2.2.getD n } := by
  unfold bitsToEdgeGraphImp
  show (let s := Id.run (forIn [:height] (_, _, none) _)
    Graph.mk s.1 s.2.1 width height (s.2.2.getD _)) = _
  rw [forIn_range_yield height _
    fun i s => (List.range' 0 width).foldl (fun s j => stepCell bits width height i j s) s]
  · rfl
  intro i s
  show ForInStep.yield <$> forIn (m := Id) [:width] s _ = _
  rw [forIn_range_yield width _ fun j s => stepCell bits width height i j s]
  · rfl
  -- the loop body and `stepCell` are decision trees over the same tests, with equal leaves
  intro j ⟨l, t, hint⟩
  simp only [stepCell]
  generalize bits.getD (i * width + j) false = c
  generalize (j == 0 || !bits.getD (i * width + j - 1) false) = c0
  generalize (i == 0 || !bits.getD (i * width + j - width) false) = c1
  generalize (j == width - 1 || !bits.getD (i * width + j + 1) false) = c2
  generalize (i == height - 1 || !bits.getD (i * width + j + width) false) = c3
  generalize hint.isNone = c4
  cases c
  · rfl
  · cases c0 <;> cases c1 <;> cases c2 <;> cases c3 <;> cases c4 <;> rfl

end DM.Lemmas.PathP.GraphImp

namespace DM.Lemmas.PathP
open DM.Model.Path GraphImp

theorem bitsToEdgeGraphImp_eq (bits : Array Bool) (width height : Nat) :
    bitsToEdgeGraphImp bits width height = bitsToEdgeGraph bits width height := by
  rw [imp_eq_loop]
  unfold bitsToEdgeGraph
  simp only
  congr 1
  · rw [runLoop_or bits width height (·.1) _ (fun i j hi hj => stepCell_l bits hi hj) _ _ rfl]
    congr 1
    funext k
    exact any_writes width height _ _ 0 1 (by omega) (fun i j => darkAt_lt bits) (fun i j => by simp)
      (fun a b hp => by simp only [Bool.and_eq_true, decide_eq_true_eq] at hp; omega) k
  · rw [runLoop_or bits width height (·.2.1) _ (fun i j hi hj => stepCell_t bits hi hj) _ _ rfl]
    congr 1
    funext k
    exact any_writes width height _ _ 1 0 (by omega) (fun i j => darkAt_lt bits) (fun i j => by simp)
      (fun a b hp => by simp only [Bool.and_eq_true, decide_eq_true_eq] at hp; omega) k
  · rw [runLoop_hint, Option.none_or, flat_findSome (fun x => bits.getD x false) width height]
    cases List.find? (fun idx => bits.getD idx false) (List.range (width * height)) <;> rfl

end DM.Lemmas.PathP
