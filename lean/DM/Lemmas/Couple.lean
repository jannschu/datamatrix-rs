import DM.Model.Planner
import DM.Lemmas.PlanInv
import DM.Lemmas.DecTotal
/-!
# Planner / encoder coupling: shared vocabulary

The per-mode plans of `Model/Planner.lean` *price* a stretch of the message, the mode encoders of
`Model/Encode.lean` *write* it.  This file fixes the shape of the statements that relate the two, so that
they can be proved one mode at a time (`Lemmas/Couple<Mode>.lean`) and composed along the switch list
of the plan the optimiser returns (`Lemmas/CoupleMain.lean`).

A live plan of the optimiser is created in some mode `m` at a position `p` of the message with `w`
codewords accounted for (prefix codewords, everything earlier segments wrote, and the latch of `m`),
is stepped once per character, and either dies, reaches the end of the data, or — at a moment where
`iteratePlans` calls `add_switches` on it (`SwitchPoint`) — fathers a plan in another mode.  The
segment of the returned switch list that belongs to it is exactly the characters it was stepped over.

* `SwitchSeg m`: a segment of mode `m` that ends with a planned switch.  The price charged (`switchCost`) is exactly
  twelve times the codewords `write_unlatch` accounts for; the mode encoder, started with the next planned switch at the
  head of its plan, consumes exactly the segment, writes exactly those codewords, and leaves in the planned mode with its
  latch pending — or stops with `tooMuch`, and then no listed symbol holds what has been accounted for.
* `EndSeg m`: the segment that runs to the end of the data.  The mode encoder leaves a state from
  which at most an ASCII tail remains (`set_ascii_until_end`), and codewords written plus the ASCII
  size of that tail are at most the planner's final cost (rounded up to whole codewords).

As stated, `EndSeg` holds for ASCII and Base 256 only: the other encoders append an UNLATCH at the end of the data that
the planner does not price (`not_endSeg_x12`, `endSeg_edifact_false`, `endSeg_c40_false`).  `SwitchSeg` fails for C40
(`switchSeg_c40_false`): `c40::handle_end` overrides a switch planned in front of two final digits.  (For Text the docstrings
of the two C40 theorems give examples; there is no theorem.)  Those modes prove the forms
`CoupleSeg.EndSegS m 1`, `CoupleC40.EndSegC40'`, `CoupleC40.SwitchSegC40'`.
-/
namespace DM.Lemmas.Couple
open DM.Model DM.Model.Plan DM.Model.Enc

/-- `k` successful steps, none of which reports the end of the data (each reads one character) -/
def StepsTo : Nat → GPlan → GPlan → Prop
  | 0, g, g' => g = g'
  | k + 1, g, g' => ∃ g1 r, g.step = .ok (some (g1, r)) ∧ r.end = false ∧ StepsTo k g1 g'

/-- the encoder state in which a mode encoder is entered by the main loop (latch already written) -/
def EncAt (body : List Nat) (list : List Sym) (s : St) (p w : Nat) (m : EMode) (plan : List (Nat × EMode)) : Prop :=
  s.input = body ∧ s.list = list ∧ s.pos = p ∧ s.cw.length = w ∧ s.mode = m ∧ s.plan = plan ∧ s.newMode = none

/-- **Segment that ends with a planned switch** (see the header). `k ≥ 1` for every mode but ASCII:
a fresh non-start plan is stepped once in the iteration that creates it. -/
def SwitchSeg (m : EMode) : Prop :=
  ∀ (body : List Nat) (list : List Sym) (p w k : Nat) (g0 gk : GPlan) (ac : Nat) (ctx' : Ctx) (m' : EMode)
    (rest : List (Nat × EMode)) (s : St),
    ByteList body → p + k < body.length → (1 ≤ k ∨ m = .ascii) →
    g0.plan = newPlan m (ctxAt body list p w) →
    StepsTo k g0 gk → SwitchPoint gk → gk.switchCost = some ac → gk.unlatch = .ok ctx' → m' ≠ m →
    EncAt body list s p w m ((body.length - (p + k), m') :: rest) →
    ac = g0.extra + 12 * (ctx'.written - w) ∧ w ≤ ctx'.written ∧
    ((∃ s', encodeMode s = .ok s' ∧ s'.input = body ∧ s'.list = list ∧ s'.pos = p + k ∧
        s'.cw.length = ctx'.written ∧ s'.mode = m' ∧ s'.plan = rest ∧ s'.newMode = m'.latch) ∨
     (encodeMode s = .error .tooMuch ∧ firstBigEnough list ctx'.written = none))

/-- **Segment that runs to the end of the data.**  `gE` is the plan after the step that reports the end;
`gE.cost - g0.extra` is what the planner charges for this segment. -/
def EndSeg (m : EMode) : Prop :=
  ∀ (body : List Nat) (list : List Sym) (p w k : Nat) (g0 gk gE : GPlan) (r : StepResult) (s : St),
    ByteList body → p + k = body.length → (1 ≤ k ∨ m = .ascii) →
    g0.plan = newPlan m (ctxAt body list p w) →
    StepsTo k g0 gk → gk.step = .ok (some (gE, r)) → r.end = true →
    EncAt body list s p w m [(0, m)] →
    g0.extra ≤ gE.cost ∧
    ((∃ s', encodeMode s = .ok s' ∧ s'.input = body ∧ s'.list = list ∧ s'.pos ≤ body.length ∧ s'.newMode = none ∧
        (s'.hasMore = true → s'.mode = .ascii ∧ s'.plan = [(0, .ascii)]) ∧
        12 * (s'.cw.length + asciiSize s'.rest) ≤ 12 * w + ceil12 (gE.cost - g0.extra)) ∨
     (encodeMode s = .error .tooMuch ∧ firstBigEnough list (w + ceil12 (gE.cost - g0.extra) / 12) = none))

end DM.Lemmas.Couple
