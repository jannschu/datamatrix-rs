import DM.Lemmas.PlanRun
import DM.Lemmas.PlanSwitch
import DM.Lemmas.AsciiSize
/-!
The decision of the plan's end-of-data look-ahead (`ediInit`) is that of `try_ascii_end`, `EdiRT.AsciiEndOK`, on the symbol
list, the codewords accounted for and the unread rest (`asciiEndOK_iff`: both test the room behind the ASCII codewords).
`PS` describes the plan after `t` steps (`PN`: no ASCII end decided at any earlier group boundary, `NoFire`; `PA`: ASCII
end decided at the boundary `4 j`). The two exits: `edi_switch_plan` (`EdiSeg`) and `edi_end_plan` (`EdiEnd`, with its price).
Namespace: `CoupleEdi`.
-/
namespace DM.Lemmas.CoupleEdi
open DM.Model DM.Model.Plan DM.Model.Enc DM.Lemmas.Couple DM.Lemmas.PlanInv DM.Lemmas.CoupleSeg
open DM.Lemmas.PlanStep

structure PN (body : List Nat) (list : List Sym) (p w t : Nat) (q : EdiP) : Prop where
  wr : q.ctx.written = w + 3 * (t / 4)
  sym : q.written = t % 4
  ae : q.asciiEnd = none
  cost : q.cost = 9 * t

/-- the EDIFACT plan that decided for an ASCII end at the group boundary `4 * j`, `u` characters later -/
structure PA (body : List Nat) (list : List Sym) (p w j u : Nat) (q : EdiP) : Prop where
  wr : q.ctx.written = w + 3 * j
  sym : q.written = 0
  ae : q.asciiEnd = some (asciiSize (body.drop (p + 4 * j)) * (12 / (body.length - (p + 4 * j))))
  cost : q.cost = 36 * j + u * (asciiSize (body.drop (p + 4 * j)) * (12 / (body.length - (p + 4 * j))))

theorem sizeLeft_eq (c : Ctx) (n : Nat) :
    c.sizeLeft n = match firstBigEnough c.list (c.written + n) with
      | some s => some (dataCw s - (c.written + n))
      | none => none := rfl

theorem ediInit_fire {body list p w t} (q : EdiP) (hx : CtxAt body list (p + t) q.ctx) (h : PN body list p w t q) (h0 : t % 4 = 0) (hlt : p + t < body.length)
    (hae : EdiRT.AsciiEndOK list (w + 3 * (t / 4)) (body.drop (p + t))) :
    ediInit q = .ok (some { q with asciiEnd := some (asciiSize (body.drop (p + t)) * (12 / (body.length - (p + t)))) }) := by
  obtain ⟨h4, h2, r, hr, h3⟩ := EdiRT.asciiEndOK_iff.mp hae
  rw [List.length_drop] at h4
  have hcl : q.ctx.charsLeft = body.length - (p + t) := charsLeft_eq hx
  have hrest : q.ctx.rest = body.drop (p + t) := rest_eq hx
  rw [ediInit_eq q (hcl ▸ Nat.sub_pos_of_lt hlt),
    if_pos ⟨by rw [h.sym]; exact h0, by rw [hcl]; exact h4, h.ae, by rw [hrest]; exact h2⟩, hrest, hcl,
    CoupleC40.ctx_sizeLeft, hx.2.1, h.wr, hr]
  simp only [Option.map_some, h3, ↓reduceIte]

theorem ediInit_nofire {body list p w t} (q : EdiP) (hx : CtxAt body list (p + t) q.ctx) (h : PN body list p w t q) (hlt : p + t < body.length)
    (hae : t % 4 = 0 → ¬ EdiRT.AsciiEndOK list (w + 3 * (t / 4)) (body.drop (p + t))) :
    ediInit q = .ok none ∨ ediInit q = .ok (some q) := by
  have hcl : q.ctx.charsLeft = body.length - (p + t) := charsLeft_eq hx
  have hrest : q.ctx.rest = body.drop (p + t) := rest_eq hx
  rw [ediInit_eq q (hcl ▸ Nat.sub_pos_of_lt hlt)]
  by_cases hc : q.written = 0 ∧ q.ctx.charsLeft ≤ 4 ∧ q.asciiEnd = none ∧ asciiSize q.ctx.rest ≤ 2
  · rw [if_pos hc, hrest, CoupleC40.ctx_sizeLeft, hx.2.1, h.wr]
    have hae := hae (by rw [← h.sym]; exact hc.1)
    have h4 : (body.drop (p + t)).length ≤ 4 := by simp only [List.length_drop]; rw [← hcl]; exact hc.2.1
    have h2 : asciiSize (body.drop (p + t)) ≤ 2 := hrest ▸ hc.2.2.2
    cases hr : CoupleC40.szLeft list (w + 3 * (t / 4) + asciiSize (body.drop (p + t))) with
    | none => exact Or.inl rfl
    | some r =>
      have h3 : ¬ r + asciiSize (body.drop (p + t)) ≤ 2 := fun h3 => hae (EdiRT.asciiEndOK_iff.mpr ⟨h4, h2, r, hr, h3⟩)
      simp only [Option.map_some, h3, ↓reduceIte]
      exact Or.inr trivial
  · rw [if_neg hc]
    exact Or.inr rfl

theorem ediStep_fire {body list p w j} (q : EdiP) (hx : CtxAt body list (p + 4 * j) q.ctx) (h : PN body list p w (4 * j) q) (hlt : p + 4 * j < body.length)
    (hae : EdiRT.AsciiEndOK list (w + 3 * j) (body.drop (p + 4 * j))) :
    ∃ q1, ediStep q = .ok (some (q1, { «end» := false, unbeatable := true })) ∧ PA body list p w j 1 q1 := by
  have hj : 4 * j / 4 = j := by omega
  have hi := ediInit_fire q hx h (by omega) hlt (by rw [hj]; exact hae)
  have hm : q.ctx.hasMore = true := by rw [hasMore_iff hx, decide_eq_true hlt]
  refine ⟨_, ediStep_portion q _ _ hm hi rfl, ?_, ?_, rfl, ?_⟩
  · show q.ctx.written = _
    rw [h.wr, hj]
  · show q.written = 0
    rw [h.sym]
    omega
  · show q.cost + _ = _
    rw [h.cost]
    omega

/-- the fourth value of a group adds its three codewords -/
theorem written_succ (w t : Nat) :
    w + 3 * (t / 4) + (if (t % 4 + 1) % 4 = 0 then 3 else 0) = w + 3 * ((t + 1) / 4) := by
  split <;> omega

theorem ediStep_nofire {body list p w t} (q : EdiP) (hx : CtxAt body list (p + t) q.ctx) (h : PN body list p w t q) (hlt : p + t < body.length)
    (hae : t % 4 = 0 → ¬ EdiRT.AsciiEndOK list (w + 3 * (t / 4)) (body.drop (p + t))) :
    ediStep q = .ok none ∨
    ∃ q1, ediStep q = .ok (some (q1, { «end» := false, unbeatable := false })) ∧ PN body list p w (t + 1) q1 := by
  have hm : q.ctx.hasMore = true := by rw [hasMore_iff hx, decide_eq_true hlt]
  rcases ediInit_nofire q hx h hlt hae with hi | hi
  · exact .inl (ediStep_dead q hm hi)
  · rw [ediStep_value q q hm hi h.ae]
    cases ediEncodable q.ctx.peek with
    | false => exact Or.inl rfl
    | true =>
      have h1 := h.sym
      have h2 := h.wr
      refine Or.inr ⟨_, rfl, ?_, ?_, rfl, ?_⟩
      · show q.ctx.written + (if (q.written + 1) % 4 = 0 then 3 else 0) = _
        rw [h1, h2]
        exact written_succ w t
      · show (q.written + 1) % 4 = _
        rw [h1, Nat.mod_add_mod]
      · show q.cost + 9 = _
        rw [h.cost]
        omega

theorem ediStep_ascii {body list p w j u} (q : EdiP) (hx : CtxAt body list (p + 4 * j + u) q.ctx) (h : PA body list p w j u q) (hlt : p + 4 * j + u < body.length) :
    ∃ q1, ediStep q = .ok (some (q1, { «end» := false, unbeatable := true })) ∧ PA body list p w j (u + 1) q1 := by
  have hi : ediInit q = .ok (some q) := by
    unfold ediInit
    rw [if_neg (by rw [h.ae]; simp)]
  have hm : q.ctx.hasMore = true := by rw [hasMore_iff hx, decide_eq_true hlt]
  refine ⟨_, ediStep_portion q q _ hm hi h.ae, h.wr, h.sym, h.ae, ?_⟩
  · show q.cost + _ = _
    rw [h.cost, Nat.add_mul, Nat.one_mul]
    omega

def NoFire (body : List Nat) (list : List Sym) (p w n : Nat) : Prop :=
  ∀ j, 4 * j < n → ¬ EdiRT.AsciiEndOK list (w + 3 * j) (body.drop (p + 4 * j))

inductive PS (body : List Nat) (list : List Sym) (p w t : Nat) (q : EdiP) : Prop where
  | normal (h : PN body list p w t q) (nf : NoFire body list p w t)
  | ascii (j u : Nat) (ht : t = 4 * j + u) (hu : 1 ≤ u) (h : PA body list p w j u q) (nf : NoFire body list p w (4 * j))
      (fire : EdiRT.AsciiEndOK list (w + 3 * j) (body.drop (p + 4 * j)))

theorem gstep_some (g g1 : GPlan) (r : StepResult) (q : EdiP) (hp : g.plan = .edifact q) (h : g.step = .ok (some (g1, r))) :
    ∃ q1, ediStep q = .ok (some (q1, r)) ∧ g1.plan = .edifact q1 ∧ g1.extra = g.extra :=
  let ⟨e, _, q1, h1, h2⟩ := hp ▸ gstep_cases h
  ⟨q1, h1, h2, e⟩

theorem ps_step {body list p w t} (q q1 : EdiP) (r : StepResult) (hx : CtxAt body list (p + t) q.ctx)
    (hlt : p + t < body.length) (hps : PS body list p w t q)
    (hs : ediStep q = .ok (some (q1, r))) : PS body list p w (t + 1) q1 := by
  cases hps with
  | normal h nf =>
    by_cases hf : t % 4 = 0 ∧ EdiRT.AsciiEndOK list (w + 3 * (t / 4)) (body.drop (p + t))
    · obtain ⟨h0, hf⟩ := hf
      obtain ⟨j, rfl⟩ : ∃ j, t = 4 * j := ⟨t / 4, (Nat.mul_div_cancel' (Nat.dvd_of_mod_eq_zero h0)).symm⟩
      rw [Nat.mul_div_cancel_left j (by decide : 0 < 4)] at hf
      obtain ⟨q1', hs', hpa⟩ := ediStep_fire q hx h hlt hf
      rw [hs] at hs'
      cases hs'
      exact .ascii j 1 rfl (Nat.le_refl _) hpa nf hf
    · have hae : t % 4 = 0 → ¬ EdiRT.AsciiEndOK list (w + 3 * (t / 4)) (body.drop (p + t)) := by
        exact fun h0 hb => hf ⟨h0, hb⟩
      rcases ediStep_nofire q hx h hlt hae with hn | ⟨q1', hs', hpn⟩
      · rw [hs] at hn; cases hn
      · rw [hs] at hs'
        cases hs'
        refine .normal hpn ?_
        intro j hj
        by_cases hjt : 4 * j < t
        · exact nf j hjt
        · obtain rfl : t = 4 * j := Nat.le_antisymm (Nat.le_of_not_lt hjt) (Nat.le_of_lt_succ hj)
          have := hae (Nat.mul_mod_right 4 j)
          rwa [Nat.mul_div_cancel_left j (by decide : 0 < 4)] at this
  | ascii j u ht hu h nf fire =>
    subst ht
    rw [← Nat.add_assoc] at hx hlt
    obtain ⟨q1', hs', hpa⟩ := ediStep_ascii q hx h hlt
    rw [hs] at hs'
    cases hs'
    exact .ascii j (u + 1) rfl (Nat.le_succ_of_le hu) hpa nf fire

theorem steps_fresh {body list p w k} (g0 gk : GPlan) (hp : p ≤ body.length)
    (h0 : g0.plan = newPlan .edifact (ctxAt body list p w)) (hst : StepsTo k g0 gk) :
    ∃ qk, gk.plan = .edifact qk ∧ gk.extra = g0.extra ∧ CtxAt body list (p + k) qk.ctx ∧ PS body list p w k qk := by
  have h := fresh_inv (I := fun t pl => ∃ q, pl = .edifact q ∧ PS body list p w t q) ?_ hp h0
    ⟨_, rfl, .normal ⟨rfl, rfl, rfl, rfl⟩ (fun j hj => absurd hj (Nat.not_lt_zero _))⟩ hst
  · obtain ⟨⟨qk, hqk, hps⟩, hc, hex⟩ := h
    have hx := hc.1
    rw [hqk] at hx
    exact ⟨qk, hqk, hex, hx, hps⟩
  · intro t g g1 r hc hlt ⟨q, e1, e3⟩ h1 _
    obtain ⟨q1, f1, f2, _⟩ := gstep_some g g1 r q e1 h1
    have hx := hc.1
    rw [e1] at hx
    exact ⟨q1, f2, ps_step q q1 r hx hlt e3 f1⟩

/-- nine twelfths of a codeword per value: `u < 4` values after `j` whole groups round up to `3 * j + u` codewords -/
theorem ceil12_9 {j u : Nat} (hu : u < 4) : ceil12 (9 * (4 * j + u)) = 12 * (3 * j + u) := by
  have h9 : ceil12 (9 * u) = 12 * u := by
    match u, hu with
    | 0, _ | 1, _ | 2, _ | 3, _ => rfl
  rw [show 9 * (4 * j + u) = 12 * (3 * j) + 9 * u by omega, ceil12_add, h9]
  omega

/-- the price of leaving EDIFACT after `j` groups and `u < 4` values: the partial group is completed by the UNLATCH
value -/
theorem ediSwitchCost_eq {q : EdiP} {j u : Nat} (hu : u < 4) (hw : q.written = u) (hc : q.cost = 9 * (4 * j + u)) :
    ediSwitchCost q = 12 * (3 * j + min (u + 1) 3) := by
  unfold ediSwitchCost
  by_cases h3 : u = 3
  · rw [hw, if_pos h3, hc, ceil12_9 hu, h3]
    rfl
  · rw [hw, if_neg h3, hc, show 9 * (4 * j + u) + 9 = 9 * (4 * j + (u + 1)) by omega, ceil12_9 (by omega),
      Nat.min_eq_left (by omega)]

theorem switchPoint_nofire {body list p w j} (gk : GPlan) (qk : EdiP) (hx : CtxAt body list (p + 4 * j) qk.ctx)
    (h : PN body list p w (4 * j) qk)
    (hqk : gk.plan = .edifact qk) (hlt : p + 4 * j < body.length) (hsp : SwitchPoint gk) :
    ¬ EdiRT.AsciiEndOK list (w + 3 * j) (body.drop (p + 4 * j)) := by
  intro hb
  obtain ⟨q1, hs, _⟩ := ediStep_fire qk hx h hlt hb
  rcases hsp with hn | ⟨g', r, hs', hu, _⟩
  · have := gstep_none hn
    rw [hqk] at this
    simp only [] at this
    rw [hs] at this
    cases this
  · obtain ⟨q1', hs1, _, _⟩ := gstep_some gk g' r qk hqk hs'
    rw [hs] at hs1
    cases hs1
    cases hu

/-- an EDIFACT segment of `k` characters that ends with a switch, as data: `j` groups of four and `u < 4` characters, and
at no group boundary up to its end did the look-ahead decide for an ASCII end -/
def EdiSeg (body : List Nat) (list : List Sym) (p w k j u : Nat) : Prop :=
  k = 4 * j + u ∧ u < 4 ∧ ∀ j', 4 * j' ≤ k → ¬ EdiRT.AsciiEndOK list (w + 3 * j') (body.drop (p + 4 * j'))

theorem edi_switch_plan {body list p w k} {g0 gk : GPlan} {ac : Nat} {ctx' : Ctx} (hpk : p + k < body.length)
    (h0 : g0.plan = newPlan .edifact (ctxAt body list p w)) (hst : StepsTo k g0 gk) (hsp : SwitchPoint gk)
    (hsc : gk.switchCost = some ac) (hul : gk.unlatch = .ok ctx') :
    ∃ j u, ctx'.written = w + (3 * j + min (u + 1) 3) ∧ ac = g0.extra + 12 * (3 * j + min (u + 1) 3) ∧
      EdiSeg body list p w k j u := by
  obtain ⟨qk, hqk, hex, hx, hps⟩ := steps_fresh g0 gk (by omega) h0 hst
  -- `write_unlatch` asserts that no ASCII end was decided
  have hcan := PlanSwitch.unlatch_ok_iff.mp hul
  rw [hqk] at hcan
  obtain ⟨hae, rfl⟩ : qk.asciiEnd = none ∧ ctx' = _ := hcan
  cases hps with
  | ascii j u ht hu h nf fire => cases h.ae.symm.trans hae
  | normal h nf =>
    obtain ⟨j, u, rfl, hu⟩ := exists_groups 4 k (by decide)
    have hsym := h.sym
    have hwr := h.wr
    rw [(div_mod_block' j hu).2] at hsym
    rw [(div_mod_block' j hu).1] at hwr
    rw [GPlan.switchCost, hqk, Option.some.injEq, hex, ediSwitchCost_eq hu hsym h.cost] at hsc
    refine ⟨j, u, ?_, hsc.symm.trans (Nat.add_comm _ _), rfl, hu, fun j' hj => ?_⟩
    · show qk.ctx.written + _ = _
      rw [hwr, hsym, Nat.add_assoc]
    · by_cases hjk : 4 * j' < 4 * j + u
      · exact nf j' hjk
      · obtain ⟨rfl, rfl⟩ : j' = j ∧ u = 0 := by omega
        exact switchPoint_nofire gk qk hx h hqk hpk hsp

theorem switchPlan_edifact : SwitchPlan .edifact := by
  intro body list p w k g0 gk ac ctx' hpk hk h0 hst hsp hsc hul
  obtain ⟨j, u, h1, h2, h3, h4, -⟩ := edi_switch_plan hpk h0 hst hsp hsc hul
  have := hk.resolve_right (by decide)
  omega

/-- an EDIFACT segment of `k` characters that runs to the end of the data, as data; `c` is its price in twelfths: all values
(nine twelfths each), or `j` groups and then the ASCII end the look-ahead decided for at the boundary `4 * j` -/
def EdiEnd (body : List Nat) (list : List Sym) (p w k c : Nat) : Prop :=
  (NoFire body list p w k ∧ c = 9 * k) ∨
  ∃ j u, k = 4 * j + u ∧ 1 ≤ u ∧ NoFire body list p w (4 * j) ∧ EdiRT.AsciiEndOK list (w + 3 * j) (body.drop (p + 4 * j)) ∧
    c = 12 * (3 * j + asciiSize (body.drop (p + 4 * j)))

theorem edi_end_plan {body list p w k} {g0 gk gE : GPlan} {r : StepResult} (hpk : p + k = body.length)
    (h0 : g0.plan = newPlan .edifact (ctxAt body list p w)) (hst : StepsTo k g0 gk) (hstep : gk.step = .ok (some (gE, r))) :
    ∃ c, gE.cost = g0.extra + c ∧ EdiEnd body list p w k c := by
  obtain ⟨qk, hqk, hex, hx, hps⟩ := steps_fresh g0 gk (by omega) h0 hst
  obtain ⟨qE, hsE, hpE, heE⟩ := gstep_some gk gE r qk hqk hstep
  rw [ediStep_end qk (by rw [hasMore_iff hx, decide_eq_false (Nat.not_lt.mpr (Nat.le_of_eq hpk.symm))])] at hsE
  cases hsE
  refine ⟨qk.cost, by rw [GPlan.cost, hpE, heE, hex], ?_⟩
  cases hps with
  | normal h nf => exact .inl ⟨nf, h.cost⟩
  | ascii j u ht hu h nf fire =>
    subst ht
    refine .inr ⟨j, u, rfl, hu, nf, fire, ?_⟩
    have h4 := fire.1
    have hc : body.length - (p + 4 * j) = u := by rw [← hpk, ← Nat.add_assoc, Nat.add_sub_cancel_left]
    rw [List.length_drop, hc] at h4
    rw [h.cost, hc, portion_sum _ u hu h4, Nat.mul_add, ← Nat.mul_assoc]

theorem endPlan_edifact : EndPlan .edifact := by
  intro body list p w k g0 gk gE r hpk _ h0 hst hstep _
  obtain ⟨c, hc, ⟨-, rfl⟩ | ⟨j, u, rfl, -, -, -, rfl⟩⟩ := edi_end_plan hpk h0 hst hstep
  · omega
  · have hsz := AsciiSize.asciiSize_ge (body.drop (p + 4 * j))
    rw [List.length_drop] at hsz
    omega

end DM.Lemmas.CoupleEdi
