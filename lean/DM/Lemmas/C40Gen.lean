import DM.Lemmas.C40Vals
import DM.Lemmas.PlanCond
import DM.Lemmas.ListSeg
import DM.Lemmas.PlanCondSwitch
/-
C40 / Text encoder from an arbitrary position with an arbitrary plan: the run starts at character
`p0` after the codewords `c0`; it may end with the data or with a planned switch.
The side conditions on plans (`PlanOK`, `PlanOKE`, `Pending`) are in `PlanCond`.
-/
namespace DM.Lemmas.C40Gen
open DM.Model DM.Model.Enc DM.Model.Dec DM.Lemmas.Complete
open DM.Lemmas.EncRT DM.Lemmas.C40RT DM.Spec.Build

def Wb (text : Bool) (body : List Nat) (p0 p : Nat) : List Nat := (seg body p0 p).flatMap (c40Vals text)

theorem Wb_succ (text : Bool) (body : List Nat) (p0 p : Nat) (h0 : p0 ≤ p) (h : p < body.length) :
    Wb text body p0 (p + 1) = Wb text body p0 p ++ c40Vals text body[p] := by
  unfold Wb
  rw [seg_succ body p0 p h0 h, List.flatMap_append]
  simp [List.flatMap]

theorem Wb_lt (text : Bool) (body : List Nat) (hb : ByteList body) (p0 p : Nat) : ∀ v ∈ Wb text body p0 p, v < 40 :=
  c40_vals_lt text _ (seg_bytes body hb p0 p)

theorem Wb_dec (text : Bool) (body : List Nat) (hb : ByteList body) (p0 p : Nat) (rest out : List Nat) :
    c40Values (tabs text).1 (tabs text).2 (Wb text body p0 p ++ rest) st0 out =
      c40Values (tabs text).1 (tabs text).2 rest st0 (out ++ seg body p0 p) :=
  c40_bytes text _ (seg_bytes body hb p0 p) rest out

/-- the values written so far, minus the last one (the last character will be re-encoded in ASCII) -/
theorem dec_drop_lastG (text : Bool) (body : List Nat) (hb : ByteList body) (p0 p : Nat) (h0 : p0 ≤ p) (hp : p < body.length) :
    ∃ st', ∀ out, c40Values (tabs text).1 (tabs text).2 (Wb text body p0 (p + 1)).dropLast st0 out =
      .ok (st', out ++ seg body p0 p) := by
  have hx : body[p] < 256 := hb _ (List.getElem_mem hp)
  obtain ⟨st, hst⟩ := init_ok text body[p]
  refine ⟨st, fun out => ?_⟩
  rw [Wb_succ text body p0 p h0 hp, List.dropLast_append_of_ne_nil (vals_ne text body[p] hx), Wb_dec text body hb, hst]

/-- invariant of `c40Loop` for a run that started at character `p0` behind the codewords `c0`: of the values of the
characters `p0 .. s.pos` the first `3 * m` are written as `m` packed triples behind the latch, the rest (at most two)
are the buffer `buf`; `lastCh` is the character read last -/
structure Inv (text : Bool) (list : List Sym) (body : List Nat) (p0 : Nat) (c0 : List Nat) (s : St) (buf : List Nat)
    (lastCh m : Nat) : Prop where
  input : s.input = body
  list : s.list = list
  mode : s.mode = modeOf text
  base : p0 ≤ s.pos
  le : s.pos ≤ body.length
  m3 : 3 * m ≤ (Wb text body p0 s.pos).length
  bufEq : buf = (Wb text body p0 s.pos).drop (3 * m)
  short : buf.length ≤ 2
  cw : s.cw = c0 ++ latchOf text :: packTriples ((Wb text body p0 s.pos).take (3 * m))
  last : p0 < s.pos → lastCh = body.getD (s.pos - 1) 0

section
variable {text : Bool} {list : List Sym} {body : List Nat} {p0 : Nat} {c0 : List Nat} {s : St} {buf : List Nat}
  {lastCh m : Nat}

theorem Inv.plan (inv : Inv text list body p0 c0 s buf lastCh m) (pl : List (Nat × EMode)) :
    Inv text list body p0 c0 { s with plan := pl } buf lastCh m :=
  ⟨inv.input, inv.list, inv.mode, inv.base, inv.le, inv.m3, inv.bufEq, inv.short, inv.cw, inv.last⟩

theorem Inv.wsplit (inv : Inv text list body p0 c0 s buf lastCh m) :
    Wb text body p0 s.pos = (Wb text body p0 s.pos).take (3 * m) ++ buf ∧ ((Wb text body p0 s.pos).take (3 * m)).length = 3 * m ∧
    (Wb text body p0 s.pos).length = 3 * m + buf.length := by
  have := inv.m3
  refine ⟨by rw [inv.bufEq, List.take_append_drop], by rw [List.length_take]; omega, ?_⟩
  rw [inv.bufEq, List.length_drop]; omega

theorem Inv.buf_lt (inv : Inv text list body p0 c0 s buf lastCh m) (hb : ByteList body) : ∀ v ∈ buf, v < 40 :=
  fun v hv => Wb_lt text body hb p0 s.pos v (by rw [inv.wsplit.1]; exact List.mem_append_right _ hv)

/-- the buffered values completed to whole triples by fill values (none for an empty buffer; else 0, or
Shift 2 and Upper Shift, which the decoder consumes without output): they still decode to the
characters consumed, and this is what they pack to -/
theorem Inv.fill (inv : Inv text list body p0 c0 s buf lastCh m) (hb : ByteList body)
    (pad : List Nat) (k : Nat) (hp : pad = [] ∨ pad = [0] ∨ pad = [1] ∨ pad = [1, 30]) (hl : buf.length + pad.length = 3 * k) :
    ∃ stf, (Wb text body p0 s.pos ++ pad).length = 3 * (m + k) ∧ (∀ v ∈ Wb text body p0 s.pos ++ pad, v < 40) ∧
      (∀ out, c40Values (tabs text).1 (tabs text).2 (Wb text body p0 s.pos ++ pad) st0 out =
        .ok (stf, out ++ seg body p0 s.pos)) ∧
      s.cw ++ packTriples (buf ++ pad) = c0 ++ latchOf text :: packTriples (Wb text body p0 s.pos ++ pad) := by
  obtain ⟨stf, hstf⟩ := fill_ok text pad hp
  obtain ⟨hW, hVlen, hWlen⟩ := inv.wsplit
  refine ⟨stf, by rw [List.length_append]; omega, ?_, fun out => by rw [Wb_dec text body hb, hstf], ?_⟩
  · intro v hv
    rcases List.mem_append.mp hv with hv | hv
    · exact Wb_lt text body hb p0 s.pos v hv
    · rcases hp with rfl | rfl | rfl | rfl <;> simp at hv <;> omega
  · rw [inv.cw]
    conv => rhs; rw [hW, List.append_assoc, packTriples_append m _ _ hVlen]
    simp [List.append_assoc]

theorem Inv.wnext (inv : Inv text list body p0 c0 s buf lastCh m) (hlt : s.pos < body.length) :
    Wb text body p0 (s.pos + 1) = (Wb text body p0 s.pos).take (3 * m) ++ (buf ++ c40Vals text body[s.pos]) := by
  rw [Wb_succ text body p0 s.pos inv.base hlt]
  conv => lhs; rw [inv.wsplit.1]
  rw [List.append_assoc]

theorem Inv.step (inv : Inv text list body p0 c0 s buf lastCh m) (hlt : s.pos < body.length) (k : Nat)
    (hk : 3 * k ≤ (buf ++ c40Vals text body[s.pos]).length) (hk3 : (buf ++ c40Vals text body[s.pos]).length - 3 * k < 3) :
    Inv text list body p0 c0
      { { s with pos := s.pos + 1 } with cw := s.cw ++ packTriples ((buf ++ c40Vals text body[s.pos]).take (3 * k)) }
      ((buf ++ c40Vals text body[s.pos]).drop (3 * k)) body[s.pos] (m + k) := by
  have hW' := inv.wnext hlt
  obtain ⟨_, hVlen, _⟩ := inv.wsplit
  have h3 : 3 * (m + k) = ((Wb text body p0 s.pos).take (3 * m)).length + 3 * k := by rw [hVlen]; omega
  refine ⟨inv.input, inv.list, inv.mode, by simp only []; have := inv.base; omega,
    by simp only []; omega, ?_, ?_, ?_, ?_, ?_⟩
  · simp only []
    rw [hW', List.length_append, hVlen]
    omega
  · simp only []
    rw [hW', h3, List.drop_length_add_append]
  · rw [List.length_drop]; omega
  · simp only []
    rw [inv.cw, hW', h3, List.take_length_add_append, packTriples_append m _ _ hVlen]
    simp [List.append_assoc]
  · intro _
    simp [List.getD, List.getElem?_eq_getElem hlt]

end

/-- what `c40::encode` leaves behind, relative to the start of the run: a run given by its values `V` (decoding to
the characters `p0 .. p`), UNLATCH or not, and — without UNLATCH — an exact fit of the rest into the symbol; how it hands
control back: `set_ascii_until_end` (with at most two characters left), at a planned switch, or with the data and the
symbol at their end. What then holds of plan and pending latch is `PlanCondSwitch.Handed`. -/
structure End (text : Bool) (list : List Sym) (body : List Nat) (p0 : Nat) (c0 : List Nat) (s' : St) : Prop where
  out : ∃ (V : List Nat) (n p : Nat) (un : Bool) (st' : CSt),
    V.length = 3 * n ∧ (∀ v ∈ V, v < 40) ∧
    (∀ out, c40Values (tabs text).1 (tabs text).2 V st0 out = .ok (st', out ++ seg body p0 p)) ∧ p0 ≤ p ∧ p ≤ body.length ∧
    s'.cw = c0 ++ latchOf text :: packTriples V ++ (if un then [254] else []) ∧ s'.pos = p ∧ s'.input = body ∧
    s'.list = list ∧
    ((s'.mode = .ascii ∧ s'.plan = [(0, .ascii)] ∧ body.length ≤ p + 2) ∨
     (un = true ∧ s'.hasMore = true) ∨ (p = body.length ∧ un = false)) ∧
    (un = false → asciiSize (body.drop p) ≤ 1 ∧
      MainRT.ExactFit list (s'.cw.length + asciiSize (body.drop p)))

/-- the end of `handle_end` when all characters are consumed: UNLATCH if there is room, else exact fit -/
theorem finish_atEnd (text : Bool) (list : List Sym) (body : List Nat) (p0 : Nat) (c0 : List Nat) (hp0 : p0 ≤ body.length) (s1 s' : St) (V : List Nat) (n : Nat) (st' : CSt)
    (hVl : V.length = 3 * n) (hVlt : ∀ v ∈ V, v < 40)
    (hdec : ∀ out, c40Values (tabs text).1 (tabs text).2 V st0 out = .ok (st', out ++ seg body p0 body.length))
    (hcw : s1.cw = c0 ++ latchOf text :: packTriples V) (hpos : s1.pos = body.length) (hin : s1.input = body)
    (hli : s1.list = list)
    (h : EncStep.c40Unlatch true s1 = .ok s') :
    End text list body p0 c0 s' := by
  rw [EncStep.c40Unlatch, if_neg (by simp [St.charsLeft, hin, hpos]), EncStep.sizeLeftE_eq] at h
  cases hsl : CoupleC40.szLeft s1.list (s1.cw.length + 0) with
  | none => rw [hsl] at h; cases h
  | some left =>
    rw [hsl] at h
    simp only [] at h
    obtain ⟨S, hS, hScap⟩ := CoupleC40.szLeft_eq_some_iff.mp hsl
    rw [hli] at hS
    by_cases hl : left > 0
    · rw [if_pos hl, if_pos trivial] at h
      simp only [Except.ok.injEq] at h
      subst h
      exact ⟨V, n, body.length, true, st', hVl, hVlt, hdec, hp0, Nat.le_refl _, by simp [St.push, St.setAscii, hcw],
        hpos, hin, hli,
        Or.inl ⟨rfl, rfl, Nat.le_add_right _ _⟩, by simp⟩
    · rw [if_neg hl] at h
      simp only [Except.ok.injEq] at h
      subst h
      refine ⟨V, n, body.length, false, st', hVl, hVlt, hdec, hp0, Nat.le_refl _, by simp [hcw], hpos, hin, hli,
        Or.inr (Or.inr ⟨rfl, rfl⟩), fun _ => ?_⟩
      have hd : body.drop body.length = [] := List.drop_eq_nil_of_le (Nat.le_refl _)
      rw [hd]
      simp only [asciiSize, Nat.add_zero, Nat.zero_le, true_and]
      exact ⟨S, by simpa using hS, by omega⟩

section
variable {text : Bool} {list : List Sym} {body : List Nat} {p0 : Nat} {c0 : List Nat} {s : St} {buf : List Nat}
  {lastCh m : Nat}

theorem Inv.drop_last (inv : Inv text list body p0 c0 s buf lastCh m) (hb : ByteList body) (h1 : buf.length = 1) :
    p0 < s.pos ∧ ∃ st', ∀ out, c40Values (tabs text).1 (tabs text).2
      ((Wb text body p0 s.pos).take (3 * m)) st0 out = .ok (st', out ++ seg body p0 (s.pos - 1)) := by
  obtain ⟨_, _, hWlen⟩ := inv.wsplit
  have hle := inv.le
  have hp1 : p0 < s.pos := by
    by_cases h0 : s.pos = p0
    · rw [h0] at hWlen; simp [Wb, seg_self] at hWlen; omega
    · have := inv.base; omega
  obtain ⟨st', hdec⟩ := dec_drop_lastG text body hb p0 (s.pos - 1) (by omega) (by omega)
  rw [show s.pos - 1 + 1 = s.pos by omega, List.dropLast_eq_take,
    show (Wb text body p0 s.pos).length - 1 = 3 * m by omega] at hdec
  exact ⟨hp1, st', hdec⟩

theorem end_drop_unlatch (inv : Inv text list body p0 c0 s buf lastCh m) (hb : ByteList body) (hpos : s.pos = body.length)
    (h1 : buf.length = 1) :
    End text list body p0 c0 { (s.push 254).setAscii with pos := s.pos - 1 } := by
  obtain ⟨hp1, st', hdec⟩ := inv.drop_last hb h1
  have hle := inv.le
  exact ⟨_, m, s.pos - 1, true, st', inv.wsplit.2.1, fun v hv => Wb_lt text body hb p0 s.pos v (List.mem_of_mem_take hv),
    hdec, by omega, by omega, by simp [St.push, St.setAscii, inv.cw], rfl, inv.input, inv.list,
    Or.inl ⟨rfl, rfl, by omega⟩, by simp⟩

theorem end_drop_exact (inv : Inv text list body p0 c0 s buf lastCh m) (hb : ByteList body) (hpos : s.pos = body.length)
    (h1 : buf.length = 1) (hasz : asciiSize [lastCh] = 1) (S : Sym) (hS : firstBigEnough list (s.cw.length + 1) = some S)
    (hcap : dataCw S = s.cw.length + 1) : End text list body p0 c0 { s.setAscii with pos := s.pos - 1 } := by
  obtain ⟨hp1, st', hdec⟩ := inv.drop_last hb h1
  have hp : s.pos - 1 < body.length := by omega
  refine ⟨_, m, s.pos - 1, false, st', inv.wsplit.2.1, fun v hv => Wb_lt text body hb p0 s.pos v (List.mem_of_mem_take hv),
    hdec, by omega, by omega, by simp [St.setAscii, inv.cw], rfl, inv.input, inv.list,
    Or.inl ⟨rfl, rfl, by omega⟩, fun _ => ?_⟩
  have hlast : lastCh = body[s.pos - 1] := by
    rw [inv.last (by omega)]
    simp [List.getD, List.getElem?_eq_getElem hp]
  have hdrop : body.drop (s.pos - 1) = [lastCh] := by
    rw [List.drop_eq_getElem_cons hp, ← hlast, List.drop_eq_nil_of_le (by omega)]
  simp only [St.setAscii, hdrop, hasz]
  exact ⟨Nat.le_refl _, S, hS, hcap⟩

end

theorem end_fill0 {text : Bool} {list : List Sym} {body : List Nat} {p0 : Nat} {c0 : List Nat} {s : St} {b0 b1 : Nat}
    {lastCh m : Nat} (inv : Inv text list body p0 c0 s [b0, b1] lastCh m) (hb : ByteList body) (hpos : s.pos = body.length)
    (S : Sym) (hS : firstBigEnough list (s.cw.length + 2) = some S) (hcap : dataCw S = s.cw.length + 2) :
    End text list body p0 c0 (writeThree s b0 b1 0) := by
  have hbuflt := inv.buf_lt hb
  obtain ⟨w1, w2, w3, w4, w5, w6, w7⟩ := writeThree_cw s b0 b1 0 (hbuflt b0 (by simp)) (hbuflt b1 (by simp)) (by omega)
  obtain ⟨stf, f1, f2, f3, f4⟩ := inv.fill hb [0] 1 (.inr (.inl rfl)) rfl
  refine ⟨_, m + 1, body.length, false, stf, f1, f2, fun out => by rw [f3, hpos], by have := inv.base; omega, Nat.le_refl _,
    by simpa [w1] using f4, w2.trans hpos, w3.trans inv.input, w4.trans inv.list,
    Or.inr (Or.inr ⟨rfl, rfl⟩), fun _ => ?_⟩
  have hlen : (writeThree s b0 b1 0).cw.length = s.cw.length + 2 := by rw [w1]; simp [packTriples]
  rw [List.drop_eq_nil_of_le (Nat.le_refl _)]
  simp only [asciiSize, Nat.add_zero, hlen]
  exact ⟨Nat.zero_le _, S, hS, hcap⟩

theorem c40Pad_same (asc : Bool) (s : St) (buf : List Nat) :
    (EncStep.c40Pad asc s buf).pos = s.pos ∧ (EncStep.c40Pad asc s buf).input = s.input ∧
    (EncStep.c40Pad asc s buf).list = s.list := by
  unfold EncStep.c40Pad
  split
  · exact ⟨rfl, rfl, rfl⟩
  · cases asc <;> exact ⟨rfl, rfl, rfl⟩

/-- `c40Pad` against the invariant; `s` differs from the state the invariant speaks about at most in the control fields -/
theorem Inv.pad {text : Bool} {list : List Sym} {body : List Nat} {p0 : Nat} {c0 : List Nat} {s0 : St} {buf : List Nat}
    {lastCh m : Nat} (inv : Inv text list body p0 c0 s0 buf lastCh m) (hb : ByteList body) (s : St) (hcw : s.cw = s0.cw)
    (asc : Bool) :
    ∃ V n stf, V.length = 3 * n ∧ (∀ v ∈ V, v < 40) ∧
      (∀ out, c40Values (tabs text).1 (tabs text).2 V st0 out = .ok (stf, out ++ seg body p0 s0.pos)) ∧
      (EncStep.c40Pad asc s buf).cw = c0 ++ latchOf text :: packTriples V := by
  have hbuflt := inv.buf_lt hb
  have hasc : ∀ t : St, (if asc = true then t.setAscii else t).cw = t.cw := fun t => by cases asc <;> rfl
  match hbuf : buf, inv.short with
  | [], _ =>
    obtain ⟨stf, f1, f2, f3, f4⟩ := inv.fill hb [] 0 (.inl rfl) rfl
    exact ⟨_, m, stf, f1, f2, f3, hcw.trans ((List.append_nil _).symm.trans f4)⟩
  | [b0], _ =>
    obtain ⟨w1, -⟩ := writeThree_cw s b0 1 30 (hbuflt b0 (by simp)) (by omega) (by omega)
    obtain ⟨stf, f1, f2, f3, f4⟩ := inv.fill hb [1, 30] 1 (.inr (.inr (.inr rfl))) rfl
    exact ⟨_, m + 1, stf, f1, f2, f3, (hasc _).trans (by show (writeThree s b0 1 30).cw = _; rw [w1, hcw]; exact f4)⟩
  | [b0, b1], _ =>
    obtain ⟨w1, -⟩ := writeThree_cw s b0 b1 1 (hbuflt b0 (by simp)) (hbuflt b1 (by simp)) (by omega)
    obtain ⟨stf, f1, f2, f3, f4⟩ := inv.fill hb [1] 1 (.inr (.inr (.inl rfl))) rfl
    exact ⟨_, m + 1, stf, f1, f2, f3, (hasc _).trans (by show (writeThree s b0 b1 1).cw = _; rw [w1, hcw]; exact f4)⟩
  | _ :: _ :: _ :: _, hs => simp at hs

theorem handleEnd_atEnd (text : Bool) (list : List Sym) (body : List Nat) (hb : ByteList body) (p0 : Nat) (c0 : List Nat) (s s' : St)
    (buf : List Nat) (lastCh m : Nat) (inv : Inv text list body p0 c0 s buf lastCh m) (hend : s.hasMore = false)
    (h : c40HandleEnd s lastCh buf = .ok s') : End text list body p0 c0 s' := by
  have h1 := of_decide_eq_false hend
  rw [inv.input] at h1
  have hpos : s.pos = body.length := by have := inv.le; omega
  have hp0l : p0 ≤ body.length := by have := inv.base; omega
  have hp1 : buf.length = 1 → 1 ≤ s.pos := fun hb1 => by have := (inv.drop_last hb hb1).1; omega
  rw [EncStep.c40HandleEnd_eq, if_neg (by have := inv.short; omega), hend, if_neg (by decide)] at h
  cases hsl : s.sizeLeft buf.length with
  | none => rw [hsl] at h; cases h
  | some sl =>
    rw [hsl] at h
    dsimp only at h
    obtain ⟨S, hS, hScap⟩ := CoupleC40.szLeft_eq_some_iff.mp hsl
    rw [inv.list] at hS
    by_cases c1 : sl + buf.length = 2 ∧ buf.length = 2
    · rw [if_pos c1] at h
      cases h
      rw [c1.2] at hS hScap
      match buf, c1.2, inv with
      | [b0, b1], _, inv => exact end_fill0 inv hb hpos S hS (by omega)
    rw [if_neg c1] at h
    by_cases c2 : sl + buf.length = 2 ∧ buf.length = 1
    · rw [if_pos c2, if_pos (hp1 c2.2)] at h
      cases h
      exact end_drop_unlatch inv hb hpos c2.2
    rw [if_neg c2] at h
    by_cases c3 : sl + buf.length = 1 ∧ buf.length = 1 ∧ asciiSize [lastCh] = 1
    · rw [if_pos c3, if_pos (hp1 c3.2.1)] at h
      cases h
      rw [c3.2.1] at hS hScap
      exact end_drop_exact inv hb hpos c3.2.1 c3.2.2 S hS (by omega)
    rw [if_neg c3] at h
    -- behind them: fill the last triple (if any values are left), then UNLATCH if there is room
    obtain ⟨V, n, stf, hVl, hVlt, hdec, hcw⟩ := inv.pad hb s rfl true
    obtain ⟨e1, e2, e3⟩ := c40Pad_same true s buf
    exact finish_atEnd text list body p0 c0 hp0l _ s' V n stf hVl hVlt (fun out => by rw [hdec, hpos]) hcw
      (e1.trans hpos) (e2.trans inv.input) (e3.trans inv.list) h

/-- `handle_end` with characters left: reached at a planned switch, or (empty buffer) with exactly
two digits left. `s0` is the state the invariant speaks about; `s` differs from it at most in the
control fields (mode, plan, pending latch). -/
theorem handleEnd_more (text : Bool) (list : List Sym) (body : List Nat) (hb : ByteList body) (p0 : Nat) (c0 : List Nat)
    (s0 s' : St) (buf : List Nat) (lastCh m : Nat) (inv : Inv text list body p0 c0 s0 buf lastCh m)
    (md : EMode) (pl : List (Nat × EMode)) (nm : Option Nat) (hmore : s0.hasMore = true)
    (h : c40HandleEnd { s0 with mode := md, plan := pl, newMode := nm } lastCh buf = .ok s') :
    End text list body p0 c0 s' := by
  generalize hs : ({ s0 with mode := md, plan := pl, newMode := nm } : St) = s at h
  have hin : s.input = s0.input := by rw [← hs]
  have hpos : s.pos = s0.pos := by rw [← hs]
  have hcw : s.cw = s0.cw := by rw [← hs]
  have hli : s.list = s0.list := by rw [← hs]
  replace hmore : s.hasMore = true := by rw [← hs]; exact hmore
  have hbuflt := inv.buf_lt hb
  have hlt : s0.pos < body.length := by
    have := of_decide_eq_true hmore
    rw [hin, hpos, inv.input] at this
    exact this
  have hcl : 0 < s.charsLeft := by simp only [St.charsLeft, hin, hpos, inv.input]; omega
  rw [EncStep.c40HandleEnd_eq, if_neg (by have := inv.short; omega), hmore, if_pos rfl] at h
  obtain ⟨V, n, stf, hVl, hVlt', hdec, hcw1⟩ := inv.pad hb s hcw false
  obtain ⟨hp1, hi1, hl1⟩ := c40Pad_same false s buf
  generalize EncStep.c40Pad false s buf = s1 at h hcw1 hp1 hi1 hl1
  unfold EncStep.c40Unlatch at h
  have hp1' : s1.pos = s0.pos := hp1.trans hpos
  have hi1' : s1.input = body := hi1.trans (hin.trans inv.input)
  have hl1' : s1.list = list := hl1.trans (hli.trans inv.list)
  have hcl1 : s1.charsLeft = s.charsLeft := by simp [St.charsLeft, hp1, hi1]
  have hrest1 : s1.rest = s.rest := by simp [St.rest, hp1, hi1]
  have hmore1 : s1.hasMore = true := by simp only [St.hasMore, hp1, hi1]; exact hmore
  rw [hcl1, hrest1, if_pos hcl] at h
  by_cases htwo : s.charsLeft = 2 ∧ twoDigitsComing s.rest = true
  · rw [if_pos htwo] at h
    rw [EncStep.sizeLeftE_eq] at h
    cases hsl : CoupleC40.szLeft s1.list (s1.cw.length + 1) with
    | none => rw [hsl] at h; cases h
    | some sp =>
      rw [hsl] at h
      simp only [Except.ok.injEq] at h
      obtain ⟨S, hS, hScap⟩ := CoupleC40.szLeft_eq_some_iff.mp hsl
      rw [hl1, hli, inv.list] at hS
      have hfew : body.length ≤ s0.pos + 2 := by
        have := htwo.1
        simp only [St.charsLeft, hin, hpos, inv.input] at this
        omega
      have hasz : asciiSize (body.drop s0.pos) = 1 := by
        have hr : s.rest = body.drop s0.pos := by simp [St.rest, hin, hpos, inv.input]
        rw [← hr]
        have hl : s.rest.length = 2 := by
          rw [hr, List.length_drop]
          have := htwo.1
          simp only [St.charsLeft, hin, hpos, inv.input] at this
          exact this
        match hrr : s.rest, hl, htwo.2 with
        | [a, b], _, htd =>
          simp only [twoDigitsComing] at htd
          simp [asciiSize, htd]
      by_cases hsp : sp ≥ 1
      · rw [if_pos hsp] at h
        subst h
        exact ⟨V, n, s0.pos, true, stf, hVl, hVlt', hdec, inv.base, inv.le, by simp [St.push, St.setAscii, hcw1],
          hp1', hi1',
          hl1', Or.inl ⟨rfl, rfl, hfew⟩, by simp⟩
      · rw [if_neg hsp] at h
        subst h
        refine ⟨V, n, s0.pos, false, stf, hVl, hVlt', hdec, inv.base, inv.le, by simp [St.setAscii, hcw1],
          hp1', hi1',
          hl1', Or.inl ⟨rfl, rfl, hfew⟩, fun _ => ?_⟩
        rw [hasz]
        exact ⟨Nat.le_refl _, S, by simpa [St.setAscii] using hS, by simp only [St.setAscii]; omega⟩
  · rw [if_neg htwo] at h
    simp only [Except.ok.injEq] at h
    subst h
    exact ⟨V, n, s0.pos, true, stf, hVl, hVlt', hdec, inv.base, inv.le, by simp [St.push, hcw1],
      hp1', hi1', hl1', Or.inr (Or.inl ⟨rfl, by simp only [St.hasMore, St.push, hp1, hi1]; exact hmore⟩), by simp⟩

theorem c40Loop_gen (text : Bool) (list : List Sym) (body : List Nat) (hb : ByteList body) (p0 : Nat) (c0 : List Nat) :
    ∀ (f : Nat) (s : St) (buf : List Nat) (lastCh m : Nat) (s' : St), Inv text list body p0 c0 s buf lastCh m →
      c40Loop text f s buf lastCh = .ok s' → End text list body p0 c0 s' := by
  intro f
  induction f with
  | zero => intro s buf lastCh m s' _ h; cases h
  | succ f ih =>
    intro s buf lastCh m s' inv h
    rw [EncStep.c40Loop_eq] at h
    split at h
    · exact handleEnd_atEnd text list body hb p0 c0 s s' buf lastCh m inv (EncStep.rest_eq_nil ‹_›).2 h
    · rename_i ch t hr
      obtain ⟨hlt0, hch, -⟩ := EncStep.rest_eq_cons hr
      have hlt : s.pos < body.length := inv.input ▸ hlt0
      obtain rfl : ch = body[s.pos] := by rw [hch]; simp only [inv.input]
      split at h
      · -- empty buffer and only two digits remain
        obtain ⟨rfl, -, -⟩ := ‹buf = [] ∧ _›
        exact handleEnd_more text list body hb p0 c0 s s' [] lastCh m inv _ _ _ (decide_eq_true hlt0) h
      · rw [toVals_eq text buf body[s.pos] (hb _ (List.getElem_mem hlt))] at h
        by_cases hcap : (buf ++ c40Vals text body[s.pos]).length > 6
        · rw [if_pos hcap] at h; cases h
        rw [if_neg hcap] at h
        dsimp only at h
        obtain ⟨k, k1, k2, k3⟩ := flush_spec 3 { s with pos := s.pos + 1 } (buf ++ c40Vals text body[s.pos]) (by omega)
          (fun v hv => Wb_lt text body hb p0 (s.pos + 1) v (by rw [inv.wnext hlt]; exact List.mem_append_right _ hv))
        rw [k3] at h
        dsimp only at h
        have inv' := inv.step hlt k k1 k2
        rcases EncStep.onSwitch_ok h with ⟨pl, -, h⟩ | ⟨md, pl, -, hcl, -, h⟩
        · exact ih _ _ _ (m + k) s' (inv'.plan pl) h
        · exact handleEnd_more text list body hb p0 c0 _ s' _ body[s.pos] (m + k) inv' _ _ _
            ((EncStep.hasMore_charsLeft _).mpr hcl) h

/-- `c40::encode` from the state behind the latch: the run (`c40Loop_gen`) and the control part (`pend_pass`) -/
theorem c40Encode_gen (text : Bool) (list : List Sym) (body : List Nat) (hb : ByteList body) (p0 : Nat) (c0 : List Nat)
    (sL s3 : St) (hin : sL.input = body) (hli : sL.list = list) (hpos : sL.pos = p0) (hle : p0 ≤ body.length)
    (hmode : sL.mode = modeOf text) (hnm : sL.newMode = none) (hcw : sL.cw = c0 ++ [latchOf text])
    (hpl : PlanOKE body sL.plan) (h : c40Encode text sL = .ok s3) :
    End text list body p0 c0 s3 ∧ Handed body (modeOf text) s3 := by
  unfold c40Encode at h
  have inv0 : Inv text list body p0 c0 sL [] 0 0 :=
    ⟨hin, hli, hmode, by omega, by rw [hpos]; exact hle, by simp,
      by simp [Wb, hpos, seg_self], by simp, by simp [Wb, hpos, seg_self, packTriples, hcw], by omega⟩
  exact ⟨c40Loop_gen text list body hb p0 c0 (sL.charsLeft + 2) sL [] 0 0 s3 inv0 h,
    (EncStep.c40Loop_res (pend_pass body (modeOf text)) (by decide) text _ sL [] 0 ⟨hin, hpl, hnm, hmode⟩).ok h⟩

end DM.Lemmas.C40Gen
