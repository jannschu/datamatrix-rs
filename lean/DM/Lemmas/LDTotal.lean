import DM.Lemmas.LDStep
import DM.Lemmas.RSTotal
/-
The locator search on byte syndromes.  One iteration (`ldStep_spec`) does not fail: it
breaks exactly when the remaining rows of `[w, 1]` vanish (`Rest`), otherwise equations (3), (4)
hold again and the new `v - 1` is the first row that does not vanish.  `levinsonDurbin_spec`: the search
answers `TooManyErrors` or a locator `w ++ [1]` all of whose rows below `t` vanish.  Panic freedom
of `levinsonDurbin` and, with the chain of RSTotal, of the whole Reed–Solomon decoder, soundness
(`RSSound.correctBlock_post`) and completeness (`LDReach.levinsonDurbin_locator`) are read off.
Namespace: `LD`.
-/
namespace DM.Lemmas.LD
open DM.Model DM.Model.RS DM.Lemmas DM.Lemmas.RSTotal DM.Lemmas.RSTot

variable {A : String → Prop}

theorem getD_takeWhile_zero (l : List Nat) :
    ∀ k, k < (l.takeWhile (· == 0)).length → l.getD k 0 = 0 := by
  induction l with
  | nil => intro k hk; simp at hk
  | cons a l ih =>
    intro k hk
    by_cases ha : a = 0
    · subst ha
      simp only [List.takeWhile_cons, beq_self_eq_true, ↓reduceIte, List.length_cons] at hk
      cases k with
      | zero => rfl
      | succ k => exact ih k (by omega)
    · have : (a == 0) = false := by simpa using ha
      simp [this] at hk

theorem init_eq3 (syn : List Nat) (v y0 : Nat) (hv : 1 ≤ v) (hs : Bytes syn)
    (hz : ∀ k, k < v - 1 → syn.getD k 0 = 0) (hp : syn.getD (v - 1) 0 ≠ 0)
    (hy0 : y0 = gdivD 1 (syn.getD (v - 1) 0)) :
    Eq3 syn v (y0 :: List.replicate (v - 1) 0) := by
  intro i hi
  have hY : ∀ j, V (y0 :: List.replicate (v - 1) 0) j = if j = 0 then GF.ofNat y0 else 0 := by
    intro j
    rw [V_cons]
    split
    · rfl
    · exact V_replicate_zero _ _
  have hpb := Bytes.getD hs (v - 1)
  unfold H
  rw [Finset.sum_eq_single 0]
  · rw [hY 0, if_pos rfl, Nat.add_zero]
    by_cases h : i = v - 1
    · rw [if_pos h, h, hy0, ofNat_gdivD (by omega) hpb hp, ofNat_one]
      exact mul_one_div_cancel (ofNat_ne_zero hpb hp)
    · rw [if_neg h]
      unfold V
      rw [hz i (by omega)]
      exact zero_mul _
  · intro j _ hj
    rw [hY j, if_neg hj, mul_zero]
  · intro h
    exact absurd (Finset.mem_range.mpr (by omega)) h

def Rest (syn : List Nat) (t : Nat) (st : LDSt) : Prop :=
  ∀ j, st.v ≤ j → j < t → win syn (st.w ++ [1]) j = 0

theorem ldStep_spec (syn : List Nat) (t : Nat) (st : LDSt) (ht : 2 * t ≤ syn.length)
    (hs : Bytes syn) (hinv : LDAlg syn t st) (hvt : st.v < t) :
    (ldStep syn t st = .ok none ∧ Rest syn t st) ∨
    ∃ st', ldStep syn t st = .ok (some st') ∧ LDAlg syn t st' ∧ st.v < st'.v ∧
      win syn (st.w ++ [1]) (st'.v - 1) ≠ 0 ∧
      ∀ j, st.v ≤ j → j < st'.v - 1 → win syn (st.w ++ [1]) j = 0 := by
  rw [ldStep_stepV syn t st ht hinv.1.1 hvt hinv.1.2.2.1 hinv.1.2.2.2]
  rcases stepV_rows syn t st with ⟨h, hz⟩ | ⟨st', h, h1, h2, hz⟩
  · rw [h]; exact .inl ⟨rfl, hz⟩
  · have halg := stepV_alg syn t st st' ht hs hinv hvt h
    -- equations (3), (4) hold for the new state, so the debug re-check passes
    have hok := (ldCheck_ok_iff syn st'.w st'.y st'.v halg.1.2.2.1 halg.1.2.2.2
      (by have := halg.1.2.1; omega) hs halg.2.1 halg.2.2.1).2 halg.2.2.2
    rw [h]
    exact .inr ⟨st', by simp only [hok]; rfl, halg, h1, h2, hz⟩

theorem ldLoop_rule {J B : LDSt → Prop} (syn : List Nat) (t : Nat)
    (hstep : ∀ st, J st → st.v < t → (ldStep syn t st = .ok none ∧ B st) ∨
      ∃ st', ldStep syn t st = .ok (some st') ∧ J st' ∧ st.v < st'.v) :
    ∀ fuel st, J st → t + 1 ≤ fuel + st.v →
      ∃ st', ldLoop syn t fuel st = .ok st' ∧ J st' ∧ (t ≤ st'.v ∨ B st') := by
  intro fuel
  induction fuel with
  | zero => intro st hJ hf; exact ⟨st, rfl, hJ, .inl (by omega)⟩
  | succ f ih =>
    intro st hJ hf
    unfold ldLoop
    split
    · rename_i hlt
      rcases hstep st hJ hlt with ⟨hr, hB⟩ | ⟨st', hr, hJ', hv'⟩
      · rw [hr]; exact ⟨st, rfl, hJ, .inr hB⟩
      · rw [hr]; exact ih st' hJ' (by omega)
    · exact ⟨st, rfl, hJ, .inl (by omega)⟩

theorem win_eq_zero_iff (syn lam : List Nat) (j : Nat) (hs : Bytes syn) (hl : Bytes lam)
    (hlen : j + lam.length ≤ syn.length) :
    win syn lam j = 0 ↔ RSSound.window syn lam j = 0 := by
  rw [← GF.ofNat_eq_zero (win_lt _ _ _)]
  exact Eq.congr_left (ofNat_win hs hl rfl hlen)

theorem window_of_eq4 {syn w : List Nat} {v : Nat} (hw : w.length = v) (h : Eq4 syn v w) :
    ∀ j, j < v → RSSound.window syn (w ++ [1]) j = 0 := by
  intro j hj
  unfold RSSound.window
  rw [List.length_append, List.length_singleton, hw]
  exact P_rows syn w v hw h j hj

/-- the rows below `v` vanish by (4), the others because the loop ended -/
theorem ldLoop_windows (syn : List Nat) (t : Nat) (hs : Bytes syn) (ht : 2 * t ≤ syn.length)
    (fuel : Nat) (st : LDSt) (hst : LDAlg syn t st) (hf : t + 1 ≤ fuel + st.v) :
    ∃ st', ldLoop syn t fuel st = .ok st' ∧ LDAlg syn t st' ∧
      ∀ j, j < t → win syn (st'.w ++ [1]) j = 0 := by
  obtain ⟨st', hl, hJ, hend⟩ := ldLoop_rule (J := LDAlg syn t) (B := Rest syn t) syn t
    (fun st hJ hlt => (ldStep_spec syn t st ht hs hJ hlt).imp id
      fun ⟨st', h1, h2, h3, _⟩ => ⟨st', h1, h2, h3⟩) fuel st hst hf
  refine ⟨st', hl, hJ, fun j hj => ?_⟩
  have ⟨⟨_, hvt, hwl, _⟩, hwb, _, _, h4⟩ := hJ
  by_cases hjv : j < st'.v
  · exact (win_eq_zero_iff syn _ j hs (hwb.append Bytes.one)
      (by rw [List.length_append, List.length_singleton]; omega)).2 (window_of_eq4 hwl h4 j hjv)
  · rcases hend with h | h
    · omega
    · exact h j (by omega) hj

theorem initSt_alg (syn : List Nat) (hs : Bytes syn) (hvt : v0 syn ≤ syn.length / 2) :
    LDAlg syn (syn.length / 2) (initSt syn) := by
  unfold v0 at hvt
  have hz : ∀ k, k < v0 syn - 1 → syn.getD k 0 = 0 := getD_takeWhile_zero syn
  have hp : syn.getD (v0 syn - 1) 0 ≠ 0 := getD_takeWhile_length syn (by omega)
  have hv1 : 1 ≤ v0 syn := Nat.le_add_left 1 _
  have hlen : 2 * v0 syn ≤ syn.length := by unfold v0; omega
  obtain ⟨hwb, h4⟩ := initWV_alg syn _ hv1 hlen hs hz hp
  exact ⟨⟨hv1, by show v0 syn ≤ _; unfold v0; omega, initWV_length hlen,
      by simp only [initSt, List.length_cons, List.length_replicate]; omega⟩, hwb,
    Bytes.cons (gdivD_lt _ _) (Bytes.replicate_zero _), init_eq3 syn _ _ hv1 hs hz hp rfl, h4⟩

theorem levinsonDurbin_spec (syn : List Nat) (hs : Bytes syn) :
    levinsonDurbin syn = .error .tooManyErrors ∨
    ∃ w, levinsonDurbin syn = .ok (w ++ [1]) ∧ 1 ≤ w.length ∧ w.length ≤ syn.length / 2 ∧
      Bytes w ∧ ∀ j, j < syn.length / 2 → win syn (w ++ [1]) j = 0 := by
  rw [levinsonDurbin_loop]
  split
  · exact .inl rfl
  · rename_i hvt
    have hinv := initSt_alg syn hs (by omega)
    obtain ⟨st', hl, ⟨⟨h1, h2, h3, _⟩, hb, _⟩, hwin⟩ := ldLoop_windows syn _ hs (by omega)
      (syn.length / 2 + 1) (initSt syn) hinv (by have := hinv.1.1; omega)
    exact .inr ⟨st'.w, by rw [hl]; rfl, by omega, by omega, hb, hwin⟩

theorem levinsonDurbin_safe' (syn : List Nat) (hs : Bytes syn) :
    Safe A (levinsonDurbin syn) (LocatorShape syn) := by
  rcases levinsonDurbin_spec syn hs with h | ⟨w, h, h1, h2, _⟩
  · rw [h]; trivial
  · rw [h]; exact ⟨w, rfl, h1, h2⟩

/-- **The debug assertions of the Levinson–Durbin iteration never fire**, nor does any other
panic site of the locator search. -/
theorem levinsonDurbin_noPanic (syn : List Nat) (hb : ∀ x ∈ syn, x < 256) (site : String) :
    levinsonDurbin syn ≠ .error (.panic site) :=
  fun h => Safe_panic (levinsonDurbin_safe' (A := fun _ => False) syn hb) h


theorem ldSafe : LDSafe A := fun r k => levinsonDurbin_safe' _ (RSSound.bytes_syndromes r k)

/-- **The Reed–Solomon decoder model is panic free**: on a word of the right length `decode`
never panics (no index / slice / subtraction / division panic, no `assert!`, and none of the
`debug_assert!`s, including equations (3) and (4) of the Levinson–Durbin iteration).
The byte-range hypothesis is not needed: the syndromes are bytes whatever the word contains. -/
theorem decode_noPanic_of_length (s : Sym) (cw : List Nat)
    (hlen : cw.length = (row s).dataCw + (row s).blocks * (row s).eccPer) (site : String) :
    RS.decode s cw ≠ .error (.panic site) :=
  fun h => Safe_panic (decode_safe_of (A := fun _ => False) ldSafe s cw hlen) h

theorem decode_noPanic (s : Sym) (cw : List Nat)
    (hlen : cw.length = (row s).dataCw + (row s).blocks * (row s).eccPer)
    (hbytes : ∀ b ∈ cw, b < 256) (site : String) :
    RS.decode s cw ≠ .error (.panic site) :=
  decode_noPanic_of_length s cw hlen site

end DM.Lemmas.LD
