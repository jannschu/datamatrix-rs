import DM.Lemmas.RSSafe
/-
The Chien search as a value: `chienSearch c = .ok (chienRoots c)` for every `c`
(`chienSearch_eq_roots`), and the shape of that list: `0` first if the last entry of `c` vanishes,
then pairwise distinct non-zero bytes (`chienRoots_spec`).
Namespace: `RSTotal`.
-/
namespace DM.Lemmas.RSTotal
open DM.Model DM.Model.RS DM.Lemmas

def testV (c : List Nat) (i : Nat) : Nat :=
  ((List.range c.reverse.length).map fun j =>
    gmul (c.reverse.getD j 0) (alog ((j * i) % 255))).foldl gadd 0

def chienRoots (c : List Nat) : List Nat :=
  if c.isEmpty then []
  else (if c.getLast? = some 0 then [0] else []) ++
    if c.length = 2 then
      (if c.getD 1 0 ≠ 0 ∧ c.getD 0 0 ≠ 0 then [gdivD (c.getD 1 0) (c.getD 0 0)] else [])
    else ((List.range 255).filter fun i => testV c i == 0).map alog

theorem chienSearch_eq_roots (c : List Nat) : chienSearch c = .ok (chienRoots c) := by
  unfold chienSearch chienRoots
  split
  · rfl
  · simp only []
    split
    · split
      · rename_i h; rw [div'_ok h.2]
      · rw [List.append_nil]
    · rfl

theorem nodup_map_alog_filter (p : Nat → Bool) :
    (((List.range 255).filter p).map alog).Nodup := by
  rw [List.nodup_iff_pairwise_ne, List.pairwise_map]
  refine List.Pairwise.imp_of_mem ?_
    (List.Pairwise.filter p (List.nodup_iff_pairwise_ne.1 List.nodup_range))
  intro x y hx hy hxy h
  exact hxy (alog_inj (List.mem_range.mp (List.mem_filter.mp hx).1)
    (List.mem_range.mp (List.mem_filter.mp hy).1) h)

theorem chienRoots_spec (c : List Nat) :
    ∃ zero rs, chienRoots c = zero ++ rs ∧ (zero = [] ∨ zero = [0]) ∧ rs.Nodup ∧
      ∀ r ∈ rs, r ≠ 0 ∧ r < 256 := by
  unfold chienRoots
  split
  · exact ⟨[], [], rfl, Or.inl rfl, List.nodup_nil, fun _ h => nomatch h⟩
  refine ⟨_, _, rfl, by split <;> simp, ?_⟩
  split
  · split
    · rename_i h
      refine ⟨List.nodup_cons.mpr ⟨List.not_mem_nil, List.nodup_nil⟩, fun r hr => ?_⟩
      rw [List.mem_singleton.mp hr]
      exact ⟨gdivD_ne_zero h.1 h.2, gdivD_lt _ _⟩
    · exact ⟨List.nodup_nil, fun _ h => nomatch h⟩
  · refine ⟨nodup_map_alog_filter _, fun r hr => ?_⟩
    obtain ⟨i, hi, rfl⟩ := List.mem_map.mp hr
    exact alog_pos i (List.mem_range.mp (List.mem_filter.mp hi).1)

theorem chienSearch_spec (c : List Nat) :
    ∃ zero rs, chienSearch c = .ok (zero ++ rs) ∧ (zero = [] ∨ zero = [0]) ∧ rs.Nodup ∧
      ∀ r ∈ rs, r ≠ 0 ∧ r < 256 := by
  obtain ⟨zero, rs, h, rest⟩ := chienRoots_spec c
  exact ⟨zero, rs, by rw [chienSearch_eq_roots, h], rest⟩

theorem chienSearch_noPanic (c : List Nat) (site : String) :
    chienSearch c ≠ .error (.panic site) := by
  rw [chienSearch_eq_roots]
  exact fun h => nomatch h

theorem chienSearch_ok (c : List Nat) : ∃ roots, chienSearch c = .ok roots :=
  ⟨_, chienSearch_eq_roots c⟩

end DM.Lemmas.RSTotal
