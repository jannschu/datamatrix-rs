import DM.Lemmas.RSDist
import Mathlib.LinearAlgebra.Lagrange
import Mathlib.LinearAlgebra.Matrix.NonsingularInverse
import Mathlib.LinearAlgebra.Matrix.ToLinearEquiv
/-
The algebra behind syndrome decoding, over an arbitrary field: for an error pattern with
pairwise distinct non-zero locators `x p` and non-zero values `c p` (`p ∈ I`), the syndrome
sequence `S_j = Σ_p c_p x_p^(j+1)` satisfies the linear recurrence given by the coefficients of
the locator polynomial `Π_p (X - x_p)` on every window; no monic recurrence of smaller order
holds on `|I|` consecutive windows; the monic recurrence of order `|I|` that holds on `|I|`
consecutive windows is the locator; the Hankel matrix of size `|I|` is nonsingular, every larger one
singular.
Namespace: `Locator`.
-/
namespace DM.Lemmas.Locator
set_option linter.unusedSectionVars false
open Polynomial

variable {F : Type} [Field F] [DecidableEq F]

noncomputable def locPoly (I : Finset ℕ) (x : ℕ → F) : F[X] := ∏ p ∈ I, (X - C (x p))

noncomputable def lpoly (lam : ℕ → F) (n : ℕ) : F[X] := ∑ i ∈ Finset.range n, C (lam i) * X ^ i

theorem lpoly_coeff (lam : ℕ → F) (n m : ℕ) :
    (lpoly lam n).coeff m = if m < n then lam m else 0 := by
  unfold lpoly
  rw [finsetSum_coeff]
  simp only [coeff_C_mul, coeff_X_pow]
  split
  · rename_i h
    rw [Finset.sum_eq_single m]
    · simp
    · intro b _ hb; simp [Ne.symm hb]
    · intro h'; exact absurd (Finset.mem_range.mpr h) h'
  · rename_i h
    apply Finset.sum_eq_zero
    intro i hi
    have : m ≠ i := by
      have := Finset.mem_range.mp hi
      omega
    simp [this]

theorem lpoly_eval (lam : ℕ → F) (n : ℕ) (y : F) :
    (lpoly lam n).eval y = ∑ i ∈ Finset.range n, lam i * y ^ i := by
  unfold lpoly
  rw [eval_finsetSum]
  simp

theorem locPoly_monic (I : Finset ℕ) (x : ℕ → F) : (locPoly I x).Monic :=
  monic_prod_of_monic _ _ (fun p _ => monic_X_sub_C (x p))

theorem locPoly_natDegree (I : Finset ℕ) (x : ℕ → F) : (locPoly I x).natDegree = I.card := by
  unfold locPoly
  rw [natDegree_prod_of_monic _ _ (fun p _ => monic_X_sub_C (x p))]
  simp

theorem locPoly_coeff_card (I : Finset ℕ) (x : ℕ → F) : (locPoly I x).coeff I.card = 1 := by
  have := (locPoly_monic I x).coeff_natDegree
  rwa [locPoly_natDegree] at this

theorem locPoly_eval_eq_zero_iff (I : Finset ℕ) (x : ℕ → F) (y : F) :
    (locPoly I x).eval y = 0 ↔ ∃ p ∈ I, x p = y := by
  unfold locPoly
  rw [eval_prod, Finset.prod_eq_zero_iff]
  simp only [eval_sub, eval_X, eval_C, sub_eq_zero]
  constructor
  · rintro ⟨p, hp, h⟩; exact ⟨p, hp, h.symm⟩
  · rintro ⟨p, hp, h⟩; exact ⟨p, hp, h.symm⟩

theorem locPoly_eval_sum (I : Finset ℕ) (x : ℕ → F) (y : F) :
    ∑ i ∈ Finset.range (I.card + 1), (locPoly I x).coeff i * y ^ i = (locPoly I x).eval y := by
  rw [eval_eq_sum_range, locPoly_natDegree]

theorem rec_true (I : Finset ℕ) (c x : ℕ → F) (j : ℕ) :
    ∑ i ∈ Finset.range (I.card + 1), synd I c x (j + i) * (locPoly I x).coeff i = 0 := by
  rw [window_eq]
  apply Finset.sum_eq_zero
  intro p hp
  rw [locPoly_eval_sum, (locPoly_eval_eq_zero_iff I x (x p)).mpr ⟨p, hp, rfl⟩]
  ring

theorem rec_forces (I : Finset ℕ) (c x : ℕ → F)
    (hinj : ∀ i ∈ I, ∀ j ∈ I, x i = x j → i = j) (hx : ∀ i ∈ I, x i ≠ 0) (hc : ∀ i ∈ I, c i ≠ 0)
    (lam : ℕ → F) (n J : ℕ) (hJ : I.card ≤ J)
    (hw : ∀ j, j < J → ∑ i ∈ Finset.range n, synd I c x (j + i) * lam i = 0) :
    ∀ p ∈ I, (lpoly lam n).eval (x p) = 0 := by
  have key := sparse_zero x J I (fun p => c p * (∑ i ∈ Finset.range n, lam i * x p ^ i)) hJ hinj hx
    (by
      intro j hj
      rw [← window_eq]
      exact hw j hj)
  intro p hp
  rw [lpoly_eval]
  rcases mul_eq_zero.mp (key p hp) with h | h
  · exact absurd h (hc p hp)
  · exact h

theorem card_image_loc (I : Finset ℕ) (x : ℕ → F) (hinj : ∀ i ∈ I, ∀ j ∈ I, x i = x j → i = j) :
    (I.image x).card = I.card :=
  Finset.card_image_of_injOn (fun i hi j hj h => hinj i hi j hj h)

theorem lpoly_eq_zero (I : Finset ℕ) (x : ℕ → F) (hinj : ∀ i ∈ I, ∀ j ∈ I, x i = x j → i = j)
    (lam : ℕ → F) (n : ℕ) (hn : n ≤ I.card) (hroots : ∀ p ∈ I, (lpoly lam n).eval (x p) = 0) :
    lpoly lam n = 0 := by
  apply eq_zero_of_degree_lt_of_eval_finset_eq_zero (I.image x)
  · rw [card_image_loc I x hinj, degree_lt_iff_coeff_zero]
    intro m hm
    rw [lpoly_coeff, if_neg (by omega)]
  · intro y hy
    obtain ⟨p, hp, rfl⟩ := Finset.mem_image.mp hy
    exact hroots p hp

theorem order_ge (I : Finset ℕ) (c x : ℕ → F)
    (hinj : ∀ i ∈ I, ∀ j ∈ I, x i = x j → i = j) (hx : ∀ i ∈ I, x i ≠ 0) (hc : ∀ i ∈ I, c i ≠ 0)
    (lam : ℕ → F) (v : ℕ) (hlead : lam v = 1)
    (hw : ∀ j, j < I.card → ∑ i ∈ Finset.range (v + 1), synd I c x (j + i) * lam i = 0) :
    I.card ≤ v := by
  by_contra hlt
  have hroots := rec_forces I c x hinj hx hc lam (v + 1) I.card (le_refl _) hw
  have hz := lpoly_eq_zero I x hinj lam (v + 1) (by omega) hroots
  have := congrArg (fun q => q.coeff v) hz
  simp only [lpoly_coeff, coeff_zero] at this
  rw [if_pos (by omega), hlead] at this
  exact one_ne_zero this

theorem rec_unique (I : Finset ℕ) (c x : ℕ → F)
    (hinj : ∀ i ∈ I, ∀ j ∈ I, x i = x j → i = j) (hx : ∀ i ∈ I, x i ≠ 0) (hc : ∀ i ∈ I, c i ≠ 0)
    (lam : ℕ → F) (hlead : lam I.card = 1)
    (hw : ∀ j, j < I.card → ∑ i ∈ Finset.range (I.card + 1), synd I c x (j + i) * lam i = 0) :
    ∀ i, i ≤ I.card → lam i = (locPoly I x).coeff i := by
  have hroots := rec_forces I c x hinj hx hc lam (I.card + 1) I.card (le_refl _) hw
  have heq : lpoly lam (I.card + 1) = locPoly I x := by
    apply eq_of_degree_sub_lt_of_eval_finset_eq (I.image x)
    · rw [card_image_loc I x hinj, degree_lt_iff_coeff_zero]
      intro m hm
      rw [coeff_sub, lpoly_coeff]
      rcases Nat.eq_or_lt_of_le hm with h | h
      · rw [← h, if_pos (by omega), hlead, locPoly_coeff_card, sub_self]
      · rw [if_neg (by omega), coeff_eq_zero_of_natDegree_lt (by rw [locPoly_natDegree]; exact h),
          sub_self]
    · intro y hy
      obtain ⟨p, hp, rfl⟩ := Finset.mem_image.mp hy
      rw [hroots p hp, (locPoly_eval_eq_zero_iff I x (x p)).mpr ⟨p, hp, rfl⟩]
  intro i hi
  have := congrArg (fun q => q.coeff i) heq
  simp only [lpoly_coeff] at this
  rwa [if_pos (by omega)] at this

theorem first_nonzero (I : Finset ℕ) (c x : ℕ → F)
    (hinj : ∀ i ∈ I, ∀ j ∈ I, x i = x j → i = j) (hx : ∀ i ∈ I, x i ≠ 0) (hc : ∀ i ∈ I, c i ≠ 0)
    (hne : I.Nonempty) : ∃ j, j < I.card ∧ synd I c x j ≠ 0 := by
  by_contra h
  have h' : ∀ j, j < I.card → synd I c x j = 0 := by
    intro j hj
    by_contra hne'
    exact h ⟨j, hj, hne'⟩
  obtain ⟨p, hp⟩ := hne
  exact hc p hp (sparse_zero x I.card I c (le_refl _) hinj hx h' p hp)

def hankel (I : Finset ℕ) (c x : ℕ → F) (n : ℕ) : Matrix (Fin n) (Fin n) F :=
  fun i j => synd I c x (i.val + j.val)

theorem hankel_ker (I : Finset ℕ) (c x : ℕ → F)
    (hinj : ∀ i ∈ I, ∀ j ∈ I, x i = x j → i = j) (hx : ∀ i ∈ I, x i ≠ 0) (hc : ∀ i ∈ I, c i ≠ 0)
    (u : Fin I.card → F) (hu : (hankel I c x I.card).mulVec u = 0) : u = 0 := by
  let lam : ℕ → F := fun i => if h : i < I.card then u ⟨i, h⟩ else 0
  have hw : ∀ j, j < I.card → ∑ i ∈ Finset.range I.card, synd I c x (j + i) * lam i = 0 := by
    intro j hj
    have := congrFun hu ⟨j, hj⟩
    simp only [Matrix.mulVec, dotProduct, hankel, Pi.zero_apply] at this
    rw [← this, Finset.sum_range]
    apply Finset.sum_congr rfl
    intro i _
    simp [lam]
  have hroots := rec_forces I c x hinj hx hc lam I.card I.card (le_refl _) hw
  have hz := lpoly_eq_zero I x hinj lam I.card (le_refl _) hroots
  funext i
  have := congrArg (fun q => q.coeff i.val) hz
  simp only [lpoly_coeff, coeff_zero, i.isLt, if_true] at this
  simpa [lam] using this

theorem hankel_det_ne_zero (I : Finset ℕ) (c x : ℕ → F)
    (hinj : ∀ i ∈ I, ∀ j ∈ I, x i = x j → i = j) (hx : ∀ i ∈ I, x i ≠ 0) (hc : ∀ i ∈ I, c i ≠ 0) :
    (hankel I c x I.card).det ≠ 0 := by
  intro hdet
  obtain ⟨u, hu0, hu⟩ := Matrix.exists_mulVec_eq_zero_iff.mpr hdet
  exact hu0 (hankel_ker I c x hinj hx hc u hu)

/-- the locator gives a kernel vector -/
theorem hankel_det_eq_zero (I : Finset ℕ) (c x : ℕ → F) (n : ℕ) (hn : I.card < n) :
    (hankel I c x n).det = 0 := by
  apply Matrix.exists_mulVec_eq_zero_iff.mp
  refine ⟨fun i => (locPoly I x).coeff i.val, ?_, ?_⟩
  · intro h
    have := congrFun h ⟨I.card, hn⟩
    simp only [locPoly_coeff_card, Pi.zero_apply] at this
    exact one_ne_zero this
  · funext i
    simp only [Matrix.mulVec, dotProduct, hankel, Pi.zero_apply]
    rw [← Finset.sum_range (fun j => synd I c x (i.val + j) * (locPoly I x).coeff j),
      ← Finset.sum_subset (Finset.range_subset_range.mpr hn) ?_, rec_true]
    intro j _ hj
    have hj' : I.card < j := Nat.lt_of_succ_le (Nat.le_of_not_lt (mt Finset.mem_range.mpr hj))
    rw [coeff_eq_zero_of_natDegree_lt (by rw [locPoly_natDegree]; exact hj'), mul_zero]

end DM.Lemmas.Locator
