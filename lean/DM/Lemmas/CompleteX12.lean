import DM.Lemmas.DecSeg
import DM.Lemmas.Pack
import DM.Spec.Build
/-
Decoder completeness, X12 runs: the decoder model inverts the reference builder's X12 item. What X12 shares with C40 / Text
is here as well: a pair of codewords unpacked (`tuple_pack`, `packTriples_head`), induction by triples (`triples_rec`).
Namespace: `Complete`.
-/
namespace DM.Lemmas.Complete
open DM.Model.Dec DM.Gen DM.Lemmas DM.Lemmas.DecRun DM.Spec.Build

theorem tuple_pack (c1 c2 c3 : Nat) (h1 : c1 < 40) (h2 : c2 < 40) (h3 : c3 < 40) :
    c40Tuple ((1600 * c1 + 40 * c2 + c3 + 1) / 256) ((1600 * c1 + 40 * c2 + c3 + 1) % 256) = (c1, c2, c3) ∧
    (1600 * c1 + 40 * c2 + c3 + 1) / 256 ≠ 254 := by
  obtain ⟨v, hv, hlt, e1, _, e2, e3⟩ := Pack.packed c1 c2 c3 h1 h2 h3
  rw [hv]
  unfold c40Tuple
  -- the wrapping `- 1` on `u16` undoes the `+ 1`
  have : ((v + 1) / 256 * 256 + (v + 1) % 256 + 65535) % 65536 = v := by
    rw [Nat.div_add_mod', Nat.add_assoc, Nat.add_mod_right, Nat.mod_eq_of_lt (by omega)]
  simp only [this, e1, e2, e3]
  exact ⟨trivial, by omega⟩

theorem x12Val_lt (b v : Nat) (h : x12Val b = some v) : v < 40 ∧ decX12 v = .ok b := by
  unfold x12Val at h
  unfold decX12
  by_cases c1 : b = 13
  · rw [if_pos c1] at h; cases h; subst c1; exact ⟨by omega, by simp⟩
  rw [if_neg c1] at h
  by_cases c2 : b = 42
  · rw [if_pos c2] at h; cases h; subst c2; exact ⟨by omega, by simp⟩
  rw [if_neg c2] at h
  by_cases c3 : b = 62
  · rw [if_pos c3] at h; cases h; subst c3; exact ⟨by omega, by simp⟩
  rw [if_neg c3] at h
  by_cases c4 : b = 32
  · rw [if_pos c4] at h; cases h; subst c4; exact ⟨by omega, by simp⟩
  rw [if_neg c4] at h
  by_cases c5 : 48 ≤ b ∧ b ≤ 57
  · rw [if_pos c5] at h; cases h
    refine ⟨by omega, ?_⟩
    rw [if_neg (by omega), if_neg (by omega), if_neg (by omega), if_neg (by omega), if_pos (by omega)]
    congr 1; omega
  rw [if_neg c5] at h
  by_cases c6 : 65 ≤ b ∧ b ≤ 90
  · rw [if_pos c6] at h; cases h
    refine ⟨by omega, ?_⟩
    rw [if_neg (by omega), if_neg (by omega), if_neg (by omega), if_neg (by omega), if_neg (by omega), if_pos (by omega)]
    congr 1; omega
  rw [if_neg c6] at h
  cases h

theorem packTriples_head : ∀ V : List Nat, (∀ v ∈ V, v < 40) → ∀ c ∈ (packTriples V).head?, c ≠ 254
  | a :: b :: c :: _, h, _, hc => by
    obtain rfl : _ = _ := Option.some.inj hc
    exact (tuple_pack a b c (h a (by simp)) (h b (by simp)) (h c (by simp))).2
  | [], _, _, hc | [_], _, _, hc | [_, _], _, _, hc => by cases hc

theorem x12Vals_lt (b : List Nat) : ∀ v ∈ b.filterMap x12Val, v < 40 := fun v hv => by
  obtain ⟨x, _, hx⟩ := List.mem_filterMap.mp hv
  exact (x12Val_lt x v hx).1

def X12Native (b : List Nat) : Prop := ∀ x ∈ b, (x12Val x).isSome = true

theorem triples_rec {α : Type} {P : Nat → List α → Prop} (nil : P 0 [])
    (step : ∀ n a b c t, t.length = 3 * n → P n t → P (n + 1) (a :: b :: c :: t)) :
    ∀ (n : Nat) (l : List α), l.length = 3 * n → P n l
  | 0, l, h => by rw [List.length_eq_zero_iff.mp h]; exact nil
  | n + 1, a :: b :: c :: t, h =>
    have ht : t.length = 3 * n := by simp only [List.length_cons] at h; omega
    step n a b c t ht (triples_rec nil step n t ht)
  | _ + 1, [], h | _ + 1, [_], h | _ + 1, [_, _], h => by simp only [List.length_cons, List.length_nil] at h; omega

theorem decodeX12_triples : ∀ (n : Nat) (b : List Nat), b.length = 3 * n → X12Native b →
    ∀ (tail : List Nat) (e : Nat) (out : List Nat),
      decodeX12 (packTriples (b.filterMap x12Val) ++ tail) e out = decodeX12 tail (e + 2 * n) (out ++ b) := by
  refine triples_rec (fun _ tail e out => by simp [packTriples]) fun n x y z t _ ih hn tail e out => ?_
  obtain ⟨vx, hvx⟩ := Option.isSome_iff_exists.mp (hn x (by simp))
  obtain ⟨vy, hvy⟩ := Option.isSome_iff_exists.mp (hn y (by simp))
  obtain ⟨vz, hvz⟩ := Option.isSome_iff_exists.mp (hn z (by simp))
  have ⟨lx, dx⟩ := x12Val_lt x vx hvx
  have ⟨ly, dy⟩ := x12Val_lt y vy hvy
  have ⟨lz, dz⟩ := x12Val_lt z vz hvz
  have hfm : (x :: y :: z :: t).filterMap x12Val = vx :: vy :: vz :: t.filterMap x12Val := by
    simp [hvx, hvy, hvz]
  rw [hfm]
  simp only [packTriples, List.cons_append]
  obtain ⟨htup, hne⟩ := tuple_pack vx vy vz lx ly lz
  rw [decodeX12_step _ _ _ _ _ hne, htup, dx, dy, dz]
  refine (ih (fun w hw => hn w (by simp [hw])) _ _ _).trans ?_
  simp only [List.append_assoc, List.cons_append, List.nil_append]
  congr 1
  omega

theorem packTriples_length : ∀ (n : Nat) (v : List Nat), v.length = 3 * n → (packTriples v).length = 2 * n :=
  triples_rec rfl fun n a b c t _ ih => by
    simp only [packTriples, List.length_cons, ih]
    omega

theorem filterMap_native_length (b : List Nat) (h : X12Native b) : (b.filterMap x12Val).length = b.length := by
  induction b with
  | nil => rfl
  | cons x t ih =>
    obtain ⟨v, hv⟩ := Option.isSome_iff_exists.mp (h x (by simp))
    rw [List.filterMap_cons, hv]
    simp only [List.length_cons]
    rw [ih (fun w hw => h w (by simp [hw]))]

theorem x12_Seg (b : List Nat) (un : Bool) (e n : Nat) (hl : b.length = 3 * n) (hn : X12Native b) :
    Seg e (238 :: (packTriples (b.filterMap x12Val) ++ (if un then [254] else []))) b (TripleTail un) :=
  Seg.latched (m := .x12) rfl (fun _ => rfl) (fun _ _ _ => rfl) fun tail ht out => by
    rw [List.append_assoc, decodeX12_triples n b hl hn, tripleLoop_x12.end_ un tail ht, List.length_append,
      packTriples_length n _ (by rw [filterMap_native_length b hn]; exact hl)]
    cases un <;> simp <;> omega

theorem seg_x12 (b : List Nat) (un : Bool) (tail : List Nat) (e : Nat) (out : List Nat) (ecis : List (Nat × Nat))
    (n : Nat) (hl : b.length = 3 * n) (hn : X12Native b) (ht : TripleTail un tail) :
    decRun .ascii { rest := [238] ++ packTriples (b.filterMap x12Val) ++ (if un then [254] else []) ++ tail,
                    eaten := e, out := out, ecis := ecis } =
    decRun .ascii { rest := tail, eaten := e + (1 + 2 * n + (if un then 1 else 0)), out := out ++ b, ecis := ecis } := by
  have := (x12_Seg b un e n hl hn).frame ht out ecis
  simp only [List.length_cons, List.length_append, packTriples_length n _ (by rw [filterMap_native_length b hn]; exact hl)] at this
  simp only [List.cons_append, List.nil_append, List.append_assoc] at this ⊢
  rw [this]
  congr 2
  cases un <;> simp <;> omega

end DM.Lemmas.Complete
