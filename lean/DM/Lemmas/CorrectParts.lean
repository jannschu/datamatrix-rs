import DM.Lemmas.ChienEq
import DM.Lemmas.BPEq
/-
`correctBlock` as a value: given the locator `w ++ [1]` that the search returned,
`correctBlock … = correctV …` (`correctBlock_eq`), an `if` over the three tests on it (as many Chien
roots as its degree and none zero, the malfunction test, every location inside the block) whose last
leaf folds the corrections `corrStep` over the inverted roots and the error values `bpList`
(`corrPairs`).  On the two parts of a block together a correction is `addAt`: the error value added
at the position the location stands for (`foldl_corrStep_append`).
Namespaces: `RSTotal`, `CorrectParts`.
-/
namespace DM.Lemmas.RSTotal
open DM.Model DM.Model.RS

/-- one correction, on the two parts of a block of `n` codewords, `nData` of them data -/
def corrStep (n nData : Nat) (s : List Nat × List Nat) (x : Nat × Nat) : List Nat × List Nat :=
  if n - glog x.1 - 1 < nData then
    (s.1.set (n - glog x.1 - 1) (gadd (s.1.getD (n - glog x.1 - 1) 0) x.2), s.2)
  else (s.1, s.2.set (n - glog x.1 - 1 - nData) (gadd (s.2.getD (n - glog x.1 - 1 - nData) 0) x.2))

def correctV (dataB errB : List Nat) (errLen : Nat) (syn w : List Nat) : R (List Nat × List Nat) :=
  if (chienRoots (w ++ [1])).length ≠ w.length ∨ (chienRoots (w ++ [1])).head? = some 0 then
    .error .malfunction
  else if (List.range' (errLen / 2) (errLen - w.length - errLen / 2)).any fun j =>
      win syn (w ++ [1]) j != 0 then .error .malfunction
  else if (((chienRoots (w ++ [1])).map (gdivD 1)).zip (bpList (chienRoots (w ++ [1])) syn)).any
      fun x => decide (glog x.1 ≥ dataB.length + errB.length) then .error .errorsOutsideRange
  else .ok ((((chienRoots (w ++ [1])).map (gdivD 1)).zip (bpList (chienRoots (w ++ [1])) syn)).foldl
    (corrStep (dataB.length + errB.length) dataB.length) (dataB, errB))

def corrPairs (syn w : List Nat) : List (Nat × Nat) :=
  ((chienRoots (w ++ [1])).map (gdivD 1)).zip (bpList (chienRoots (w ++ [1])) syn)

theorem correctV_ok_iff {dataB errB : List Nat} {errLen : Nat} {syn w : List Nat}
    {p : List Nat × List Nat} :
    correctV dataB errB errLen syn w = .ok p ↔
      ((chienRoots (w ++ [1])).length = w.length ∧ (chienRoots (w ++ [1])).head? ≠ some 0) ∧
      (∀ j, errLen / 2 ≤ j → j < errLen - w.length → win syn (w ++ [1]) j = 0) ∧
      (∀ x ∈ corrPairs syn w, glog x.1 < dataB.length + errB.length) ∧
      p = (corrPairs syn w).foldl (corrStep (dataB.length + errB.length) dataB.length)
        (dataB, errB) := by
  unfold correctV corrPairs
  split
  · rename_i h
    exact ⟨nofun, fun ⟨⟨h1, h2⟩, _⟩ => absurd h (not_or.2 ⟨Decidable.not_not.2 h1, h2⟩)⟩
  rename_i hroots
  split
  · rename_i h
    refine ⟨nofun, fun ⟨_, hm, _⟩ => ?_⟩
    obtain ⟨j, hj, hne⟩ := List.any_eq_true.1 h
    rw [List.mem_range'_1] at hj
    exact absurd (hm j hj.1 (by omega)) (bne_iff_ne.1 hne)
  rename_i hmal
  split
  · rename_i h
    refine ⟨nofun, fun ⟨_, _, hl, _⟩ => ?_⟩
    obtain ⟨x, hx, hout⟩ := List.any_eq_true.1 h
    exact absurd (of_decide_eq_true hout) (Nat.not_le.2 (hl x hx))
  rename_i hin
  refine ⟨fun h => ⟨⟨Decidable.not_not.1 (not_or.1 hroots).1, (not_or.1 hroots).2⟩, fun j h1 h2 => ?_,
    fun x hx => ?_, (Except.ok.inj h).symm⟩, fun h => congrArg _ h.2.2.2.symm⟩
  · exact Decidable.byContradiction fun hne => hmal (List.any_eq_true.2
      ⟨j, List.mem_range'_1.2 ⟨h1, by omega⟩, bne_iff_ne.2 hne⟩)
  · exact Nat.lt_of_not_le fun hge => hin (List.any_eq_true.2 ⟨x, hx, decide_eq_true hge⟩)

theorem correctV_error {dataB errB : List Nat} {errLen : Nat} {syn w : List Nat} {e : RErr}
    (h : correctV dataB errB errLen syn w = .error e) :
    e = .malfunction ∨ e = .errorsOutsideRange := by
  unfold correctV at h
  split at h
  · cases h; exact .inl rfl
  · split at h
    · cases h; exact .inl rfl
    · split at h
      · cases h; exact .inr rfl
      · cases h

theorem chienRoots_good {c : List Nat} {v : Nat} (hv : 1 ≤ v)
    (h : ¬((chienRoots c).length ≠ v ∨ (chienRoots c).head? = some 0)) :
    chienRoots c ≠ [] ∧ (chienRoots c).Nodup ∧ ∀ r ∈ chienRoots c, r ≠ 0 ∧ r < 256 := by
  obtain ⟨zero, rs, he, hz, hnd, hnz⟩ := chienRoots_spec c
  have hzero : zero = [] := by
    rcases hz with h0 | h0
    · exact h0
    · subst h0
      exact absurd (Or.inr (by rw [he]; rfl)) h
  subst hzero
  rw [List.nil_append] at he
  rw [he] at h ⊢
  refine ⟨fun h0 => h (Or.inl ?_), hnd, hnz⟩
  rw [h0]; exact fun e => by rw [← e] at hv; exact absurd hv (by decide)

theorem correctBlock_eq (dataB errB : List Nat) (errLen : Nat) (syn w : List Nat)
    (hsyn : syn.length = errLen) (hLD : levinsonDurbin syn = .ok (w ++ [1])) (hw1 : 1 ≤ w.length)
    (hwt : w.length ≤ errLen / 2) :
    correctBlock dataB errB errLen syn = correctV dataB errB errLen syn w := by
  unfold correctBlock correctV
  simp only []
  rw [hLD, ok_bind, chienSearch_eq_roots, ok_bind]
  simp only [List.length_append, List.length_singleton, Nat.add_sub_cancel]
  split
  · rfl
  · rename_i hroots
    obtain ⟨hne, hnd, hnz⟩ := chienRoots_good hw1 hroots
    have hrl : (chienRoots (w ++ [1])).length = w.length :=
      Decidable.byContradiction fun h => hroots (Or.inl h)
    rw [sub'_ok (by omega), ok_bind, filter_ge_range]
    rw [forIn_test _ (fun j => win syn (w ++ [1]) j != 0) .malfunction _ fun j hj => ?_]
    · split
      · rfl
      · rw [ok_bind, bjorckPereyra_eq _ syn hne hnd hnz (by omega), ok_bind]
        show (forIn _ (dataB, errB) _ >>= _) = _
        rw [forIn_guard _ (fun x => decide (glog x.1 ≥ dataB.length + errB.length))
          .errorsOutsideRange (corrStep (dataB.length + errB.length) dataB.length) _ _
          fun x hx s => ?_]
        · split <;> rfl
        · obtain ⟨r, hr, hx1⟩ := List.mem_map.mp (List.of_mem_zip hx).1
          have hloc : x.1 ≠ 0 := hx1 ▸ gdivD_ne_zero (by decide) (hnz r hr).1
          have hg : glogChecked x.1 = some (glog x.1) := by
            unfold glogChecked; rw [if_neg hloc]
          simp only [hg]
          unfold corrStep
          by_cases hout : glog x.1 ≥ dataB.length + errB.length
          · rw [if_pos hout, if_pos (decide_eq_true hout)]; rfl
          · rw [if_neg hout, if_neg (show ¬ (decide (glog x.1 ≥ dataB.length + errB.length) = true)
              from fun h => hout (of_decide_eq_true h))]
            by_cases hp : dataB.length + errB.length - glog x.1 - 1 < dataB.length
            · rw [if_pos hp, if_pos hp]; rfl
            · rw [if_neg hp, if_neg hp]; rfl
    · rw [List.mem_range'_1] at hj
      rw [if_neg (by rw [List.length_drop]; omega)]
      show (if dotV (syn.drop j) (w ++ [1]) ≠ 0 then _ else _) = _
      rw [dotV_drop]
      by_cases h : win syn (w ++ [1]) j = 0
      · rw [if_neg (fun hn => hn h), if_neg (fun hb => bne_iff_ne.1 hb h)]; rfl
      · rw [if_pos h, if_pos (bne_iff_ne.2 h)]; rfl
theorem corrStep_length (n nData : Nat) (s : List Nat × List Nat) (x : Nat × Nat) :
    (corrStep n nData s x).1.length = s.1.length ∧ (corrStep n nData s x).2.length = s.2.length := by
  unfold corrStep
  split
  · exact ⟨List.length_set, rfl⟩
  · exact ⟨rfl, List.length_set⟩

theorem foldl_corrStep_length (n nData : Nat) (pairs : List (Nat × Nat)) :
    ∀ s : List Nat × List Nat, (pairs.foldl (corrStep n nData) s).1.length = s.1.length ∧
      (pairs.foldl (corrStep n nData) s).2.length = s.2.length := by
  induction pairs with
  | nil => exact fun _ => ⟨rfl, rfl⟩
  | cons x pairs ih =>
    intro s
    rw [List.foldl_cons, (ih _).1, (ih _).2]
    exact corrStep_length n nData s x

theorem correctBlock_of_ld_error (dataB errB : List Nat) (errLen : Nat) (syn : List Nat) {e : RErr}
    (h : levinsonDurbin syn = .error e) : correctBlock dataB errB errLen syn = .error e := by
  unfold correctBlock; simp only []; rw [h]; rfl

end DM.Lemmas.RSTotal

namespace DM.Lemmas.CorrectParts
open DM.Model DM.Lemmas.RSTotal

def addAt (n : Nat) (blk : List Nat) (p : Nat × Nat) : List Nat :=
  blk.set (n - glog p.1 - 1) (gadd (blk.getD (n - glog p.1 - 1) 0) p.2)

theorem corrStep_append (n nData : Nat) (s : List Nat × List Nat) (x : Nat × Nat)
    (hs : s.1.length = nData) :
    (corrStep n nData s x).1 ++ (corrStep n nData s x).2 = addAt n (s.1 ++ s.2) x := by
  subst hs
  unfold corrStep addAt
  split
  · rename_i h
    simp only [getD_append, if_pos h, List.set_append_left _ _ h]
  · rename_i h
    rw [getD_append, if_neg h, List.set_append_right _ _ (Nat.le_of_not_lt h)]

theorem foldl_corrStep_append (n nData : Nat) (pairs : List (Nat × Nat)) :
    ∀ s : List Nat × List Nat, s.1.length = nData →
      (pairs.foldl (corrStep n nData) s).1 ++ (pairs.foldl (corrStep n nData) s).2
        = pairs.foldl (addAt n) (s.1 ++ s.2) := by
  induction pairs with
  | nil => exact fun _ _ => rfl
  | cons x pairs ih =>
    intro s hs
    rw [List.foldl_cons, List.foldl_cons, ← corrStep_append n nData s x hs]
    exact ih _ ((corrStep_length n nData s x).1.trans hs)

end DM.Lemmas.CorrectParts
