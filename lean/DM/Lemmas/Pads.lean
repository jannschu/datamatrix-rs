import DM.Model.EncPrefix
import DM.Spec.Stream
import DM.Lemmas.ListGetD
/-! The padding area of a symbol as a list: the randomised pad `padAt`, a run of them `padsFrom`, the whole area
`padsOf` (129, then randomised pads), and `add_padding` in these terms (`addPadding_pads` where the encoder ends in
ASCII or the symbol is full, `addPadding_unlatch` otherwise). `Padded cw L` is the same area read by position, the
form in which the reference decoder tests it (produced by `Props.C02.padded_append`).
Namespaces: `Props.C02` (`padAt`), `AsciiRT` (`padsFrom`), `Props.C04` (`padsOf`), `Pads`. -/
namespace DM.Props.C02

/-- the randomised pad written at 1-based position `pos` -/
def padAt (pos : Nat) : Nat :=
  let tmp := 129 + ((149 * pos) % 253 + 1)
  if tmp ≤ 254 then tmp else tmp - 254

end DM.Props.C02

namespace DM.Lemmas.AsciiRT
open DM.Props.C02

def padsFrom : Nat → Nat → List Nat
  | _, 0 => []
  | p, n + 1 => padAt p :: padsFrom (p + 1) n

end DM.Lemmas.AsciiRT

namespace DM.Props.C04
open DM.Lemmas.AsciiRT

def padsOf (len pad : Nat) : List Nat := if pad = 0 then [] else 129 :: padsFrom (len + 2) (pad - 1)

end DM.Props.C04

namespace DM.Lemmas.Pads
open DM.Model DM.Props.C02 DM.Lemmas.AsciiRT DM.Props.C04

structure Padded (cw : List Nat) (L : Nat) : Prop where
  le : L ≤ cw.length
  first : L < cw.length → cw.getD L 0 = 129
  rest : ∀ i, L < i → i < cw.length → DM.Spec.Stream.unrand253 (cw.getD i 0) (i + 1) = 129

theorem Padded.full (cw : List Nat) : Padded cw cw.length :=
  ⟨Nat.le_refl _, fun h => absurd h (Nat.lt_irrefl _), fun _ h1 h2 => absurd (Nat.lt_trans h1 h2) (Nat.lt_irrefl _)⟩

theorem padsFrom_length (p n : Nat) : (padsFrom p n).length = n := by
  induction n generalizing p with
  | zero => rfl
  | succ n ih => rw [padsFrom, List.length_cons, ih]

theorem padsFrom_getD : ∀ (n p i : Nat), i < n → (padsFrom p n).getD i 0 = padAt (p + i)
  | n + 1, p, 0, _ => rfl
  | n + 1, p, i + 1, h => by
    rw [padsFrom, List.getD_cons_succ, padsFrom_getD n (p + 1) i (by omega)]
    congr 1
    omega

theorem padsFrom_snoc : ∀ (n p : Nat), padsFrom p (n + 1) = padsFrom p n ++ [padAt (p + n)] := by
  intro n
  induction n with
  | zero => intro p; simp [padsFrom]
  | succ n ih =>
    intro p
    rw [padsFrom, ih (p + 1)]
    simp only [padsFrom, List.cons_append]
    have : p + 1 + n = p + (n + 1) := by omega
    rw [this]

/-- the loop of `add_padding` (and of the reference builder) in closed form -/
theorem foldl_pads (n : Nat) (acc : List Nat) :
    (List.range n).foldl (fun acc _ => acc ++ [padAt (acc.length + 1)]) acc = acc ++ padsFrom (acc.length + 1) n := by
  induction n with
  | zero => simp [padsFrom]
  | succ n ih =>
    rw [List.range_succ, List.foldl_append, ih, padsFrom_snoc, ← List.append_assoc]
    simp only [List.foldl_cons, List.foldl_nil, List.length_append, padsFrom_length]
    rw [show acc.length + n + 1 = acc.length + 1 + n by omega]

theorem length_padsOf (len pad : Nat) : (padsOf len pad).length = pad := by
  unfold padsOf
  split
  · next h => rw [h]; rfl
  · rw [List.length_cons, padsFrom_length]; omega

theorem padsOf_getD_zero (len pad : Nat) (h : 0 < pad) : (padsOf len pad).getD 0 0 = 129 := by
  rw [padsOf, if_neg (by omega)]
  rfl

theorem padsOf_getD_succ (len pad i : Nat) (h : i + 1 < pad) : (padsOf len pad).getD (i + 1) 0 = padAt (len + i + 2) := by
  rw [padsOf, if_neg (by omega), List.getD_cons_succ, padsFrom_getD _ _ _ (by omega)]
  congr 1
  omega

theorem addPadding_pads (cw : List Nat) (asc : Bool) (cap : Nat) (h : cw.length ≤ cap)
    (hasc : asc = true ∨ cw.length = cap) :
    addPadding cw asc cap = some (cw ++ padsOf cw.length (cap - cw.length)) := by
  unfold addPadding padsOf
  rw [if_neg (by omega)]
  by_cases h0 : cap - cw.length = 0
  · simp [h0]
  · have ha : asc = true := hasc.resolve_right (by omega)
    have h2 : cap - cw.length > 0 := by omega
    subst ha
    simp only [h0, if_false, Bool.not_true, Bool.false_eq_true, h2, if_true]
    have := foldl_pads (cap - cw.length - 1) (cw ++ [129])
    unfold padAt at this
    simp only [] at this
    rw [this]
    simp

theorem addPadding_exact (cw : List Nat) (asc : Bool) (cap : Nat) (h : cw.length = cap) : addPadding cw asc cap = some cw := by
  rw [addPadding_pads cw asc cap (Nat.le_of_eq h) (Or.inr h), h, Nat.sub_self, padsOf, if_pos rfl, List.append_nil]

theorem addPadding_unlatch (cw : List Nat) (cap : Nat) (h : cw.length < cap) :
    addPadding cw false cap = some (cw ++ 254 :: padsOf (cw.length + 1) (cap - cw.length - 1)) := by
  unfold addPadding padsOf
  rw [if_neg (by omega), if_neg (by omega)]
  by_cases h1 : cap - cw.length - 1 = 0
  · simp [h1]
  · have h2 : cap - cw.length - 1 > 0 := by omega
    simp only [h1, if_false, Bool.not_false, if_true, h2]
    have := foldl_pads (cap - cw.length - 1 - 1) (cw ++ [254] ++ [129])
    unfold padAt at this
    simp only [] at this
    rw [this]
    simp

end DM.Lemmas.Pads
