import DM.Lemmas.FinderChecks
/-
The constant stores of `bitmap()` set exactly the pixels that the standard makes dark.
Namespace: `DM.Lemmas`.
-/
namespace DM.Lemmas
open DM.Model DM.Spec

theorem mem_stepBy2 {lo n x : Nat} (hlo : lo < 2) (hn : n % 2 = 0) : x ∈ stepBy2 lo n ↔ x < n ∧ x % 2 = lo := by
  simp only [stepBy2, List.mem_map, List.mem_range]
  constructor
  · rintro ⟨k, hk, rfl⟩; omega
  · intro h; exact ⟨x / 2, by omega, by omega⟩

section
-- `r`, `hr` as in `FinderChecks`
variable {s : Sym} {r : StdRow} {rh rw : Nat} (hr : toStdRow (row s) = r) (G : Regions r rh rw)
include hr G

/-- `bitmap()` stores, first for the borders between regions and last for the
outer ones, the bottom border, the even pixels of the top border, the left border (between regions from the
second pixel row on) and the odd pixels of the right border. Conversely a dark pixel is no cell, so the parser checks it, and
`mem_alignChecks` says on which of the four sides it lies. -/
theorem mem_constStores {p : Nat} : p ∈ constStores (fdims s) ↔ Fixed r (p, true) := by
  subst hr
  have hh := G.rh_gt
  have hw := G.rw_gt
  have hW : (toStdRow (row s)).cols = ((row s).extraV + 1) * rw := G.cols
  have hH : (toStdRow (row s)).rows = ((row s).extraH + 1) * rh := G.rows
  have hH1 : (toStdRow (row s)).rows - 1 = (row s).extraH * rh + (rh - 1) := by rw [hH, Nat.succ_mul]; omega
  have hW1 : (toStdRow (row s)).cols - 1 = (row s).extraV * rw + (rw - 1) := by rw [hW, Nat.succ_mul]; omega
  have e1 : ∀ n a, 2 < n → 1 + n * a + (n - 2) = a * n + (n - 1) := fun n a _ => by rw [Nat.mul_comm]; omega
  have e2 : ∀ n a, 2 < n → a * n + (n - 1) + 1 = (a + 1) * n := fun n a _ => by rw [Nat.succ_mul]; omega
  have hv : ∀ {a}, a < (row s).extraH → a + 1 < (toStdRow (row s)).vRegions := Nat.succ_lt_succ
  have hc : ∀ {b}, b < (row s).extraV → b + 1 < (toStdRow (row s)).hRegions := Nat.succ_lt_succ
  rw [constStores, fdims_eq G]
  simp only [blk_eq (Nat.succ_pos _), Nat.sub_add_cancel (Nat.le_of_succ_le hh), Nat.sub_add_cancel (Nat.le_of_succ_le hw),
    List.mem_flatMap, List.mem_append, List.mem_map, List.mem_range]
  simp only [← hW, ← hH, mem_stepBy2 Nat.zero_lt_two G.cols_even, mem_stepBy2 Nat.one_lt_two G.rows_even, e1 _ _ hh,
    e1 _ _ hw, e2 _ _ hh, e2 _ _ hw, hH1, hW1, or_assoc]
  constructor
  · rintro (⟨a, ha, ⟨x, hx, rfl⟩ | ⟨x, ⟨hx, hx2⟩, rfl⟩⟩ | ⟨b, hb, ⟨i, hi, rfl⟩ | ⟨i, ⟨hi, hi2⟩, rfl⟩⟩ | ⟨x, hx, rfl⟩ |
      ⟨x, ⟨hx, hx2⟩, rfl⟩ | ⟨i, hi, rfl⟩ | ⟨i, ⟨hi, hi2⟩, rfl⟩)
    · exact fixed_bottom G (Nat.lt_of_succ_lt (hv ha)) hx
    · have := fixed_top G (hv ha) hx
      rwa [hx2] at this
    · exact fixed_left G (by omega) (hc hb)
    · have := fixed_right G hi (Nat.lt_of_succ_lt (hc hb))
      rwa [hi2] at this
    · exact fixed_bottom G (Nat.lt_succ_self _) hx
    · have := fixed_top G G.vpos hx
      rwa [Nat.zero_mul, hx2] at this
    · have := fixed_left G hi G.hpos
      rwa [Nat.zero_mul] at this
    · have := fixed_right G hi (Nat.lt_succ_self _)
      rwa [hi2] at this
  · intro hF
    obtain ⟨q, hq, rfl⟩ : ∃ q ∈ alignChecks s, q.1 = p := by
      rcases cell_or_checked rfl G hF.1 with hm | hm
      · obtain ⟨k, hk⟩ := finderPix_of_mem_finderCells G hm
        cases hk.symm.trans hF.2
      · exact List.mem_map.mp hm
    have hb : q.2 = true := (alignChecks_fixed rfl G hq).unique hF
    obtain ⟨c, hc, ⟨x, hx, rfl⟩ | ⟨x, hx, rfl⟩ | ⟨t, ht, pc, hpc, hq⟩⟩ := (mem_alignChecks rfl G).mp hq
    · rcases Nat.lt_succ_iff_lt_or_eq.mp hc with hc | rfl
      · exact .inl ⟨c, hc, .inl ⟨x, hx, rfl⟩⟩
      · exact .inr (.inr (.inl ⟨x, hx, rfl⟩))
    · rcases c with _ | a
      · exact .inr (.inr (.inr (.inl ⟨x, ⟨hx, beq_iff_eq.mp hb⟩, by simp only [Nat.zero_mul]⟩)))
      · exact .inl ⟨a, Nat.lt_of_succ_lt_succ hc, .inr ⟨x, ⟨hx, beq_iff_eq.mp hb⟩, rfl⟩⟩
    · have hi := hH ▸ block_lt hc (show t + 1 < rh by omega)
      have hc' := Nat.mul_le_mul_right rh (Nat.le_of_lt_succ hc)
      rcases hq with rfl | rfl
      · rcases pc with _ | b
        · exact .inr (.inr (.inr (.inr (.inl ⟨_, hi, by rw [Nat.zero_mul]⟩))))
        · exact .inr (.inl ⟨b, Nat.lt_of_succ_lt_succ hpc, .inl ⟨c * rh + t, by omega, rfl⟩⟩)
      · have hce : c * rh % 2 = 0 := by rw [Nat.mul_mod, G.rh_even, Nat.mul_zero]
        have ho : (c * rh + (t + 1)) % 2 = 1 := by
          have := beq_iff_eq.mp hb
          omega
        rcases Nat.lt_succ_iff_lt_or_eq.mp hpc with hpc | rfl
        · exact .inr (.inl ⟨_, hpc, .inr ⟨_, ⟨hi, ho⟩, rfl⟩⟩)
        · exact .inr (.inr (.inr (.inr (.inr ⟨_, ⟨hi, ho⟩, rfl⟩))))

theorem testBit_constHigh {p : Nat} : (constHigh s).testBit p = true ↔ Fixed r (p, true) := by
  rw [constHigh, testBit_setBits, Nat.zero_testBit, Bool.false_or, List.contains_iff_mem, mem_constStores hr G]

end

end DM.Lemmas
