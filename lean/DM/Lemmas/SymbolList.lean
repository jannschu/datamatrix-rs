import DM.Model.Symbol
/-!
# `first_symbol_big_enough_for`

`firstBigEnough l n` is the first symbol of `l` that holds `n` codewords: what it answers is said once
(`fbe_eq_some_iff`, `fbe_eq_none_iff`), for any list of symbols, sorted or not.  Everything else follows from the two.
Namespaces: `SymbolList`, `MainRT` (`ExactFit`), `CoupleC40`.
-/
namespace DM.Lemmas.SymbolList
open DM.Model

theorem fbe_eq_some_iff {l : List Sym} {n : Nat} {s : Sym} :
    firstBigEnough l n = some s ↔ n ≤ dataCw s ∧ ∃ as bs, l = as ++ s :: bs ∧ ∀ a ∈ as, dataCw a < n := by
  simp only [firstBigEnough, List.find?_eq_some_iff_append, ge_iff_le, decide_eq_true_eq, Bool.not_eq_true',
    decide_eq_false_iff_not, Nat.not_le]

theorem fbe_eq_none_iff {l : List Sym} {n : Nat} : firstBigEnough l n = none ↔ ∀ s ∈ l, dataCw s < n := by
  simp only [firstBigEnough, List.find?_eq_none, ge_iff_le, decide_eq_true_eq, Nat.not_le]

theorem fbe_some_ge (l : List Sym) (n : Nat) (a : Sym) (h : firstBigEnough l n = some a) : n ≤ dataCw a :=
  (fbe_eq_some_iff.mp h).1

theorem fbe_mem {l : List Sym} {n : Nat} {s : Sym} (h : firstBigEnough l n = some s) : s ∈ l := by
  obtain ⟨_, as, bs, rfl, _⟩ := fbe_eq_some_iff.mp h
  exact List.mem_append_right _ List.mem_cons_self

theorem fbe_same {l : List Sym} {n n' : Nat} {s : Sym} (h : firstBigEnough l n = some s) (h1 : n ≤ n')
    (h2 : n' ≤ dataCw s) : firstBigEnough l n' = some s := by
  obtain ⟨_, as, bs, rfl, has⟩ := fbe_eq_some_iff.mp h
  exact fbe_eq_some_iff.mpr ⟨h2, as, bs, rfl, fun a ha => Nat.lt_of_lt_of_le (has a ha) h1⟩

/-- the symbol chosen for `T` is `ps` itself or stands in front of it, and then it was too small for `P` -/
theorem fbe_fit (l : List Sym) (T P : Nat) (ps : Sym) (hP : firstBigEnough l P = some ps) (hT : T ≤ dataCw ps) :
    ∃ sym, firstBigEnough l T = some sym ∧ dataCw sym ≤ dataCw ps := by
  rcases Nat.le_total P T with hPT | hTP
  · exact ⟨ps, fbe_same hP hPT hT, Nat.le_refl _⟩
  cases hf : firstBigEnough l T with
  | none => exact absurd (fbe_eq_none_iff.mp hf ps (fbe_mem hP)) (Nat.not_lt.mpr hT)
  | some sym =>
    refine ⟨sym, rfl, ?_⟩
    rcases Nat.lt_or_ge (dataCw sym) P with h | h
    · exact Nat.le_of_lt (Nat.lt_of_lt_of_le h (fbe_some_ge l P ps hP))
    · cases hP.symm.trans (fbe_same hf hTP h)
      exact Nat.le_refl _

theorem fbe_some_le (l : List Sym) (n n' : Nat) (a b : Sym) (ha : firstBigEnough l n = some a)
    (hb : firstBigEnough l n' = some b) (hn : n ≤ n') : dataCw a ≤ dataCw b := by
  obtain ⟨sym, hs, hle⟩ := fbe_fit l n n' b hb (Nat.le_trans hn (fbe_some_ge l n' b hb))
  rw [ha] at hs
  cases hs
  exact hle

theorem fbe_none_mono (l : List Sym) (n n' : Nat) (h : firstBigEnough l n = none) (hn : n ≤ n') :
    firstBigEnough l n' = none :=
  fbe_eq_none_iff.mpr fun s hs => Nat.lt_of_lt_of_le (fbe_eq_none_iff.mp h s hs) hn

end DM.Lemmas.SymbolList

namespace DM.Lemmas.MainRT
open DM.Model

def ExactFit (list : List Sym) (n : Nat) : Prop := ∃ S, firstBigEnough list n = some S ∧ dataCw S = n

end DM.Lemmas.MainRT

/-! ### Room: `symbol_size_left`

`szLeft l n` is what `symbol_size_left` answers when `n` codewords are accounted for (`St.sizeLeft s k` with
`n = s.cw.length + k`, `Ctx.sizeLeft c k` with `n = c.written + k`, both by `rfl`): the free codewords of the first symbol
that holds `n`. -/
namespace DM.Lemmas.CoupleC40
open DM.Model DM.Lemmas.SymbolList

def szLeft (list : List Sym) (n : Nat) : Option Nat :=
  match firstBigEnough list n with
  | some s => some (dataCw s - n)
  | none => none

theorem szLeft_eq_some_iff {list : List Sym} {n r : Nat} :
    szLeft list n = some r ↔ ∃ S, firstBigEnough list n = some S ∧ dataCw S = n + r := by
  unfold szLeft
  cases hf : firstBigEnough list n with
  | none => exact ⟨nofun, fun ⟨_, h, _⟩ => nomatch h⟩
  | some S =>
    have := fbe_some_ge _ _ _ hf
    simp only [Option.some.injEq, exists_eq_left']
    omega

theorem szLeft_eq_none_iff {list : List Sym} {n : Nat} : szLeft list n = none ↔ firstBigEnough list n = none := by
  unfold szLeft
  cases firstBigEnough list n <;> simp only [reduceCtorEq]

theorem szLeft_none_mono {list : List Sym} {n n' : Nat} (h : szLeft list n = none) (hn : n ≤ n') :
    firstBigEnough list n' = none :=
  fbe_none_mono _ _ _ (szLeft_eq_none_iff.mp h) hn

theorem szLeft_eq_zero_iff {list : List Sym} {n : Nat} : szLeft list n = some 0 ↔ MainRT.ExactFit list n :=
  szLeft_eq_some_iff

def Fits (list : List Sym) (pred total : Nat) : Prop :=
  ∀ sym, firstBigEnough list pred = some sym → total ≤ dataCw sym

theorem Fits.of_le {list : List Sym} {pred total : Nat} (h : total ≤ pred) : Fits list pred total :=
  fun _ hs => Nat.le_trans h (fbe_some_ge _ _ _ hs)

theorem Fits.of_room {list : List Sym} {n sl pred total : Nat} (h : szLeft list n = some sl) (hn : n ≤ pred)
    (ht : total ≤ n + sl) : Fits list pred total := by
  intro sym hs
  obtain ⟨sym0, f1, f2⟩ := szLeft_eq_some_iff.mp h
  have := fbe_some_le _ _ _ _ _ f1 hs hn
  omega

end DM.Lemmas.CoupleC40
