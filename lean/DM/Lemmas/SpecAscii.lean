import DM.Lemmas.SpecStep
import DM.Lemmas.EncCalls
/-
The reference decoder (`DM.Spec.Stream`) on the output of the ASCII encoder: digit pairs, upper
shift, plain characters (`specSeg_asciiEnc`); the padding area and the header test (`pfx_headOK`); how a run ends
behind an ASCII rest (`Steps.finish_ascii_rest`); what the ASCII encoder leaves under any plan (`asciiLoop_specGen`).
Namespaces: `SpecAscii`, `SpecStep` (`Steps.finish_ascii_rest`).
-/
namespace DM.Lemmas.SpecAscii
open DM.Model DM.Lemmas DM.Lemmas.AsciiRT DM.Lemmas.SpecStep DM.Spec.Stream
open DM.Model.Enc (isDigit)

theorem steps_enc1 (cw : Array Nat) (s : St) (ch : Nat) (hch : ch < 256) (hm : s.mode = .ascii)
    (ho : Occurs cw s.i (enc1 ch)) : Steps cw 1 s (emit s (enc1 ch).length [ch] .ascii) := by
  unfold enc1 at ho ⊢
  split at ho
  · rename_i hle
    rw [if_pos hle]
    apply Steps.one
    rw [step_ascii_char cw s (ch + 1) ho.head hm (by omega), push_emit]
    simp
  · rename_i hle
    rw [if_neg hle]
    apply Steps.one
    rw [step_upper_shift cw s (ch - 128 + 1) ho.head ho.tail.head hm (by omega), push_emit]
    have : ch - 128 + 1 - 1 + 128 = ch := by omega
    rw [this]
    simp

theorem steps_pair (cw : Array Nat) (s : St) (a b : Nat) (ha : isDigit a = true) (hb : isDigit b = true)
    (hm : s.mode = .ascii) (ho : Occurs cw s.i [(a - 48) * 10 + (b - 48) + 130]) :
    Steps cw 1 s (emit s 1 [a, b] .ascii) := by
  apply Steps.one
  rw [step_ascii_pair cw s _ ho.head hm (pair_range a b ha hb), push2_emit, (pair_digits a b ha hb).1, (pair_digits a b ha hb).2]

/-! `SpecSeg` is the counterpart of `EncRT.AsciiSeg` (which speaks about the crate's decoder model);
`asciiLoop_specGen` is `EncRT.asciiLoop_gen` for it. -/

def SpecSeg (X chunk : List Nat) : Prop :=
  (∀ c ∈ X, c ≠ 254 ∧ c ≠ 129 ∧ c ≠ 232 ∧ c ≠ 236 ∧ c ≠ 237) ∧
  ∀ (cw : Array Nat) (s : DM.Spec.Stream.St), s.mode = .ascii → Occurs cw s.i X →
    ∃ k, k ≤ X.length ∧ Steps cw k s (emit s X.length chunk .ascii)

theorem specSeg_nil : SpecSeg [] [] :=
  ⟨by simp, fun cw s _ _ => ⟨0, by simp, by rw [List.length_nil, emit_zero]; exact Steps.refl cw s⟩⟩

theorem specSeg_append {X Y c d : List Nat} (h1 : SpecSeg X c) (h2 : SpecSeg Y d) : SpecSeg (X ++ Y) (c ++ d) := by
  refine ⟨?_, ?_⟩
  · intro x hx
    rcases List.mem_append.mp hx with h | h
    · exact h1.1 x h
    · exact h2.1 x h
  · intro cw s hm ho
    obtain ⟨k1, hk1, hs1⟩ := h1.2 cw s hm ho.left
    obtain ⟨k2, hk2, hs2⟩ := h2.2 cw (emit s X.length c .ascii) (by simpa using hm) (by simpa using ho.right)
    refine ⟨k1 + k2, by simp only [List.length_append]; omega, ?_⟩
    have := hs1.trans hs2
    rw [emit_emit] at this
    simpa using this

theorem specSeg_enc1 (ch : Nat) (h : ch < 256) : SpecSeg (enc1 ch) [ch] := by
  refine ⟨?_, fun cw s hm ho => ⟨1, by unfold enc1; split <;> simp, steps_enc1 cw s ch h hm ho⟩⟩
  intro c hc
  unfold enc1 at hc
  split at hc
  · simp only [List.mem_singleton] at hc; omega
  · simp only [List.mem_cons, List.not_mem_nil, or_false] at hc
    rcases hc with rfl | rfl <;> omega

theorem specSeg_pair (a b : Nat) (ha : isDigit a = true) (hb : isDigit b = true) :
    SpecSeg [(a - 48) * 10 + (b - 48) + 130] [a, b] := by
  refine ⟨?_, fun cw s hm ho => ⟨1, by simp, steps_pair cw s a b ha hb hm ho⟩⟩
  intro c hc
  simp only [isDigit, Bool.and_eq_true, decide_eq_true_eq] at ha hb
  simp only [List.mem_singleton] at hc
  omega

theorem specSeg_asciiEnc (l : List Nat) (hb : ByteList l) : SpecSeg (asciiEnc l) l :=
  Complete.asciiEnc_eq_asciiCw l ▸ Complete.asciiCw_rec specSeg_nil specSeg_append specSeg_enc1 specSeg_pair true l hb

theorem headOK_pad {cw : List Nat} {L : Nat} (hp : Pads.Padded cw L) : MainRT.HeadOK (cw.drop L) := by
  intro c hc
  rw [List.head?_drop] at hc
  obtain ⟨hlt, rfl⟩ := List.getElem?_eq_some_iff.mp hc
  have := hp.first hlt
  rw [List.getD_eq_getElem?_getD, List.getElem?_eq_getElem hlt, Option.getD_some] at this
  omega

theorem pfx_headOK {pre X cw : List Nat} (htake : cw.take (pre.length + X.length) = pre ++ X) (hX : MainRT.HeadOK X)
    (hp : Pads.Padded cw (pre.length + X.length)) :
    cw.take pre.length = pre ∧ MainRT.HeadOK (cw.drop pre.length) := by
  have hsplit : cw = pre ++ (X ++ cw.drop (pre.length + X.length)) := by
    rw [← List.append_assoc, ← htake, List.take_append_drop]
  refine ⟨by rw [hsplit, List.take_left], ?_⟩
  rw [hsplit, List.drop_left]
  exact MainRT.headOK_append hX (headOK_pad hp)

theorem _root_.DM.Lemmas.SpecStep.Steps.finish_ascii_rest {cwl : List Nat} {n fuel : Nat} {s0 s : St}
    (h : Steps cwl.toArray n s0 s) (hm : s.mode = .ascii) (rest : List Nat) (hb : ByteList rest) (L : Nat)
    (hL : L = s.i + (asciiEnc rest).length) (ho : Occurs cwl.toArray s.i (asciiEnc rest)) (hp : Pads.Padded cwl L)
    (hf : n + (asciiEnc rest).length + 1 < fuel) :
    run cwl.toArray fuel s0 =
      .ok { emit s (asciiEnc rest).length rest .ascii with
            i := cwl.length, padAt := if L = cwl.length then s.padAt else some L } := by
  subst hL
  obtain ⟨k, hk, hsteps⟩ := (specSeg_asciiEnc rest hb).2 cwl.toArray s hm ho
  exact (h.trans hsteps).finish_pad hp (fun _ => hm) (by omega)

open DM.Lemmas.EncRT in
theorem asciiLoop_specGen : ∀ (f : Nat) (s s' : Enc.St), Enc.asciiLoop f s = .ok s' → ByteList s.input →
    ∃ X, s'.cw = s.cw ++ X ∧ SpecSeg X ((s.input.drop s.pos).take (s'.pos - s.pos)) ∧ s.pos ≤ s'.pos ∧
      SameRun s s' ∧ (∀ e ∈ s'.plan, e ∈ s.plan) ∧ Exit s s' := by
  intro f s s' h hb
  obtain ⟨c1, c2, _, c4, c5, c6⟩ := asciiLoop_enc f s s' h
  exact ⟨_, c1, specSeg_asciiEnc _ (fun x hx => hb x (List.mem_of_mem_drop (List.mem_of_mem_take hx))), c2, c4, c5, c6⟩

end DM.Lemmas.SpecAscii
