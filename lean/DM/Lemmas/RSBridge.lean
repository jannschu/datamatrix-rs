import DM.Lemmas.RSEncode
import DM.Lemmas.GFSpec
import DM.Model.RSEnc
import DM.Lemmas.Bytes
/-
Bridge between the byte-level model (`Nat` lists, `gadd`/`gmul`), the field-level
algebra (`GF`) and the table-free specification (`Spec.evalS` with `smul`).  `α` is the primitive element:
`ANTI_LOG[m] = α^m` (`ofNat_alog`).  `isCodeword_iff` reads the specification's codeword test in the field (the word
vanishes at `α^1 … α^k`); the encoder (`eccBlock_codeword`), the decoder and the distance of the code all go through it.
`RSSound.foldl_gadd_lt` is stated here, below every file of the decoder proofs that needs it, under the name
those files use.
Namespace: `DM.Lemmas`.
-/
namespace DM.Lemmas
open DM.Model DM.Spec

def toG (l : List Nat) : List GF := l.map GF.ofNat

theorem ofNat_zero : GF.ofNat 0 = 0 := rfl

theorem ofNat_inj {a b : Nat} (ha : a < 256) (hb : b < 256) (h : GF.ofNat a = GF.ofNat b) : a = b := by
  have := congrArg GF.val h
  rwa [GF.ofNat_val ha, GF.ofNat_val hb] at this

theorem RSSound.foldl_gadd_lt (L : List Nat) (a : Nat) (ha : a < 256) (hL : Bytes L) :
    L.foldl gadd a < 256 := by
  induction L generalizing a with
  | nil => exact ha
  | cons b L ih => exact ih _ (xor_lt_256 ha hL.head) hL.tail

def evalN (p : List Nat) (x : Nat) : Nat := p.foldl (fun acc c => gadd (gmul acc x) c) 0

theorem horner_from (p : List Nat) (x acc : Nat) (hp : Bytes p) (hx : x < 256) (ha : acc < 256) :
    p.foldl (fun acc c => gadd (gmul acc x) c) acc < 256 ∧
    p.foldl (fun acc c => smul acc x ^^^ c) acc = p.foldl (fun acc c => gadd (gmul acc x) c) acc ∧
    GF.ofNat (p.foldl (fun acc c => gadd (gmul acc x) c) acc)
      = evalFrom (GF.ofNat acc) (toG p) (GF.ofNat x) := by
  induction p generalizing acc with
  | nil => exact ⟨ha, rfl, rfl⟩
  | cons c p ih =>
    obtain ⟨h1, h2, h3⟩ := ih _ hp.tail (xor_lt_256 (gmul_lt' _ _) hp.head)
    refine ⟨h1, ?_, ?_⟩
    · rw [List.foldl_cons, List.foldl_cons, ← gmul_eq_smul acc ha x hx]
      exact h2
    · rw [List.foldl_cons, h3, show toG (c :: p) = GF.ofNat c :: toG p from rfl]
      unfold evalFrom
      rw [List.foldl_cons, GF.ofNat_xor, GF.ofNat_gmul ha hx]

theorem evalN_lt (p : List Nat) (x : Nat) (hp : Bytes p) (hx : x < 256) : evalN p x < 256 :=
  (horner_from p x 0 hp hx (by omega)).1

theorem evalS_eq_evalN (p : List Nat) (x : Nat) (hp : Bytes p) (hx : x < 256) :
    evalS p x = evalN p x := (horner_from p x 0 hp hx (by omega)).2.1

theorem ofNat_evalN (p : List Nat) (x : Nat) (hp : Bytes p) (hx : x < 256) :
    GF.ofNat (evalN p x) = evalH (toG p) (GF.ofNat x) :=
  (horner_from p x 0 hp hx (by omega)).2.2

theorem map_zipWith_of {α β γ δ : Type} (f : γ → δ) (g : α → β → γ) (fa : α → δ) (fb : β → δ)
    (g' : δ → δ → δ) :
    ∀ (A : List α) (B : List β), (∀ a ∈ A, ∀ b ∈ B, f (g a b) = g' (fa a) (fb b)) →
      (List.zipWith g A B).map f = List.zipWith g' (A.map fa) (B.map fb) := by
  intro A
  induction A with
  | nil => intro B _; simp
  | cons a A ih =>
    intro B h
    cases B with
    | nil => simp
    | cons b B =>
      simp only [List.zipWith_cons_cons, List.map_cons]
      rw [h a (List.mem_cons_self ..) b (List.mem_cons_self ..)]
      congr 1
      exact ih B (fun a' ha' b' hb' => h a' (List.mem_cons_of_mem _ ha') b' (List.mem_cons_of_mem _ hb'))

theorem eccStep_bytes (gt : List Nat) {ecc : List Nat} (a : Nat) (he : Bytes ecc) : Bytes (eccStep gt ecc a) := by
  unfold eccStep
  apply bytes_zipWith
  intro e hee gj hgj
  exact xor_lt_256 ((he.tail'.append (Bytes.replicate_zero 1)) e hee)
    (gmul_lt' _ _)

theorem eccStep_toG {gt ecc : List Nat} {a : Nat} (hg : Bytes gt) (he : Bytes ecc) (ha : a < 256) :
    toG (eccStep gt ecc a) = eccStepG (toG gt) (toG ecc) (GF.ofNat a) := by
  unfold eccStep eccStepG toG
  have hf : ecc.headD 0 ^^^ a < 256 := xor_lt_256 he.headD ha
  have hhead : (List.map GF.ofNat ecc).headD 0 = GF.ofNat (ecc.headD 0) := by
    cases ecc <;> rfl
  have htail : (List.map GF.ofNat ecc).tail ++ [0] = List.map GF.ofNat (ecc.tail ++ [0]) := by
    simp; rfl
  rw [hhead, htail]
  apply map_zipWith_of
  intro e _ gj hgj
  rw [GF.ofNat_xor, GF.ofNat_gmul hf (hg gj hgj), GF.ofNat_xor]

theorem eccStep_length {gt ecc : List Nat} (a : Nat) (h : ecc.length = gt.length) :
    (eccStep gt ecc a).length = gt.length := by
  unfold eccStep
  rw [List.length_zipWith, List.length_append, List.length_tail, List.length_singleton]
  omega

theorem foldl_eccStep {gt : List Nat} (hg : Bytes gt) :
    ∀ (d ecc : List Nat), Bytes d → Bytes ecc → ecc.length = gt.length →
      Bytes (d.foldl (eccStep gt) ecc) ∧ (d.foldl (eccStep gt) ecc).length = gt.length ∧
      toG (d.foldl (eccStep gt) ecc) = (toG d).foldl (eccStepG (toG gt)) (toG ecc) := by
  intro d
  induction d with
  | nil => intro ecc _ he hl; exact ⟨he, hl, rfl⟩
  | cons a d ih =>
    intro ecc hd he hl
    have := ih (eccStep gt ecc a) hd.tail (eccStep_bytes gt a he) (eccStep_length a hl)
    simp only [List.foldl_cons]
    refine ⟨this.1, this.2.1, ?_⟩
    have e : toG (a :: d) = GF.ofNat a :: toG d := rfl
    rw [e, List.foldl_cons, ← eccStep_toG hg he hd.head]
    exact this.2.2

theorem eccBlock_bytes_length (gt : List Nat) (hg : Bytes gt) (d : List Nat) (hd : Bytes d) :
    Bytes (eccBlock (1 :: gt) d) ∧ (eccBlock (1 :: gt) d).length = gt.length := by
  have hf := foldl_eccStep hg d (List.replicate gt.length 0) hd (Bytes.replicate_zero _)
    List.length_replicate
  exact ⟨hf.1, hf.2.1⟩

def α : GF := GF.ofNat 2

theorem ofNat_xtime {a : Nat} (ha : a < 256) : GF.ofNat (xtime a) = GF.ofNat a * α := by
  rw [← mul2_xtime a ha, GF.ofNat_gmul (by omega) ha, mul_comm]
  rfl

theorem ofNat_alog (m : Nat) (h : m < 255) : GF.ofNat (alog m) = α ^ m := by
  induction m with
  | zero => rw [alog_zero]; rfl
  | succ m ih =>
    have hm : m < 255 := Nat.lt_of_succ_lt h
    rw [alog_succ m (Nat.lt_of_succ_lt_succ h), ofNat_xtime (alog_pos m hm).2, ih hm, pow_succ]

theorem alpha_pow_255 : α ^ 255 = 1 := by
  rw [pow_succ, ← ofNat_alog 254 (by omega), ← ofNat_xtime (alog_pos 254 (by omega)).2,
    xtime_alog_254]
  rfl

theorem ofNat_alog_mod (m : Nat) : GF.ofNat (alog (m % 255)) = α ^ m := by
  rw [ofNat_alog _ (Nat.mod_lt _ (by omega))]
  conv_rhs => rw [← Nat.div_add_mod m 255, pow_add, pow_mul, alpha_pow_255, one_pow, one_mul]

theorem ofNat_evalS_spow2 (l : List Nat) (hl : Bytes l) (j : Nat) (hj : j + 1 < 255) :
    evalS l (spow2 (j + 1)) < 256 ∧
      GF.ofNat (evalS l (spow2 (j + 1))) = evalH (toG l) (α ^ (j + 1)) := by
  have hx : alog (j + 1) < 256 := (alog_pos _ hj).2
  rw [spow2_eq_alog _ hj, evalS_eq_evalN l _ hl hx, ofNat_evalN l _ hl hx, ofNat_alog _ hj]
  exact ⟨evalN_lt l _ hl hx, rfl⟩

theorem isCodeword_iff (l : List Nat) (hl : Bytes l) (k : Nat) (hk : k < 254) :
    isCodeword l k = true ↔ ∀ j, j < k → evalH (toG l) (α ^ (j + 1)) = 0 := by
  unfold isCodeword
  rw [List.all_eq_true]
  have step : ∀ j, j < k → ((evalS l (spow2 (j + 1)) == 0) = true ↔ evalH (toG l) (α ^ (j + 1)) = 0) := by
    intro j hj
    have hS := ofNat_evalS_spow2 l hl j (by omega)
    rw [beq_iff_eq, ← hS.2]
    exact (GF.ofNat_eq_zero hS.1).symm
  constructor
  · intro h j hj
    exact (step j hj).mp (h j (List.mem_range.mpr hj))
  · intro h j hj
    exact (step j (List.mem_range.mp hj)).mpr (h j (List.mem_range.mp hj))

/-- the check symbols make the block a codeword: the register ends with the remainder modulo the
generator (`eccBlockG_root`), and the generator vanishes at `α^1 … α^k` -/
theorem eccBlock_codeword (gt : List Nat) (hg : Bytes gt) (k : Nat) (hk : k < 254)
    (hroot : ∀ j, j < k → evalN (1 :: gt) (alog (j + 1)) = 0) (d : List Nat) (hd : Bytes d) :
    isCodeword (d ++ eccBlock (1 :: gt) d) k = true := by
  have hf := foldl_eccStep hg d (List.replicate gt.length 0) hd (Bytes.replicate_zero _)
    List.length_replicate
  refine (isCodeword_iff _ (hd.append hf.1) k hk).mpr fun j hj => ?_
  have hr := ofNat_evalN (1 :: gt) _ (Bytes.cons (by omega) hg) (alog_pos (j + 1) (by omega)).2
  rw [hroot j hj, ofNat_alog _ (by omega), show toG (1 :: gt) = (1 : GF) :: toG gt from rfl, evalH_cons,
    one_mul] at hr
  have hz : toG (List.replicate gt.length 0) = List.replicate (toG gt).length 0 := by
    rw [show (toG gt).length = gt.length from List.length_map _]; exact List.map_replicate
  rw [show toG (d ++ _) = toG d ++ toG _ from List.map_append, hf.2.2, hz]
  exact eccBlockG_root (toG gt) _ hr.symm (toG d)

end DM.Lemmas
