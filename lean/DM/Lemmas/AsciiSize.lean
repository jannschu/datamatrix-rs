import DM.Model.Encode
import DM.Lemmas.SymbolList
/-!
The size `ascii::encoding_size` predicts (`Enc.asciiSize`); that it is the length of `asciiEnc` is `EncRT.asciiEnc_size`
(`Lemmas/AsciiRT.lean`). At the end: `EdiRT.AsciiEndOK`, the test on the ASCII size of the rest and the room behind it that
`try_ascii_end` and the look-ahead of `EdifactPlan::step` both make (`asciiEndOK_iff`).
-/
namespace DM.Lemmas.AsciiSize
open DM.Model DM.Model.Enc

theorem asciiSize_nil : asciiSize [] = 0 := by rw [asciiSize]

theorem asciiSize_one (a : Nat) : asciiSize [a] = if a ≤ 127 then 1 else 2 := by rw [asciiSize]

theorem asciiSize_cons2 (a b : Nat) (t : List Nat) : asciiSize (a :: b :: t) =
    if (isDigit a && isDigit b) = true then 1 + asciiSize t else (if a ≤ 127 then 1 else 2) + asciiSize (b :: t) := by
  rw [asciiSize]

theorem asciiSize_pair (l : List Nat) (h : twoDigitsComing l = true) : asciiSize l = 1 + asciiSize (l.drop 2) := by
  match l with
  | [] => simp [twoDigitsComing] at h
  | [a] => simp [twoDigitsComing] at h
  | a :: b :: t =>
    simp only [twoDigitsComing] at h
    rw [asciiSize_cons2, if_pos h]; rfl

theorem asciiSize_single (a : Nat) (t : List Nat) (h : twoDigitsComing (a :: t) = false) :
    asciiSize (a :: t) = (if a ≤ 127 then 1 else 2) + asciiSize t := by
  match t with
  | [] => rw [asciiSize_one, asciiSize_nil, Nat.add_zero]
  | b :: t =>
    simp only [twoDigitsComing] at h
    rw [asciiSize_cons2, if_neg (by rw [h]; exact Bool.false_ne_true)]

/-- a codeword holds at most two characters (a pair of digits) -/
theorem asciiSize_ge (l : List Nat) : l.length ≤ 2 * asciiSize l := by
  induction l using asciiSize.induct with
  | case1 a b t hd ih => rw [asciiSize_cons2, if_pos hd, List.length_cons, List.length_cons]; omega
  | case2 a b t hd ih =>
    rw [asciiSize_cons2, if_neg hd, List.length_cons]
    split <;> omega
  | case3 a h => rw [asciiSize_one, if_pos h]; simp
  | case4 a h => rw [asciiSize_one, if_neg h]; simp
  | case5 => simp

theorem asciiSize_zero (l : List Nat) (h : asciiSize l = 0) : l = [] :=
  List.length_eq_zero_iff.mp (by have := asciiSize_ge l; omega)

theorem asciiSize_pos {l : List Nat} (h : l ≠ []) : 0 < asciiSize l :=
  Nat.pos_of_ne_zero fun h0 => h (asciiSize_zero l h0)

theorem asz_both : ∀ (t : List Nat) (a : Nat),
    asciiSize t ≤ asciiSize (a :: t) ∧ asciiSize (a :: t) ≤ (if a ≤ 127 then 1 else 2) + asciiSize t
  | [], a => by rw [asciiSize_one, asciiSize_nil]; split <;> omega
  | b :: t', a => by
    have hb := asz_both t' b
    rw [asciiSize_cons2 a b t']
    by_cases hp : (isDigit a && isDigit b) = true
    · rw [if_pos hp]
      have hb127 : b ≤ 127 := by
        simp only [isDigit, Bool.and_eq_true, decide_eq_true_eq] at hp
        omega
      rw [if_pos hb127] at hb
      constructor
      · omega
      · split <;> omega
    · rw [if_neg hp]
      constructor
      · split <;> omega
      · omega

theorem asz_tail_le (a : Nat) (t : List Nat) : asciiSize t ≤ asciiSize (a :: t) := (asz_both t a).1

theorem asz_cons_le (a : Nat) (t : List Nat) : asciiSize (a :: t) ≤ (if a ≤ 127 then 1 else 2) + asciiSize t :=
  (asz_both t a).2

end DM.Lemmas.AsciiSize

namespace DM.Lemmas.EdiRT
open DM.Model DM.Model.Enc

/-- the decision of `try_ascii_end` on the characters `rest` still to encode when `cwLen` codewords are written -/
def AsciiEndOK (list : List Sym) (cwLen : Nat) (rest : List Nat) : Prop :=
  rest.length ≤ 4 ∧ asciiSize rest ≤ 2 ∧
  ∃ S, firstBigEnough list (cwLen + asciiSize rest) = some S ∧ dataCw S - cwLen ≤ 2

instance (list : List Sym) (cwLen : Nat) (rest : List Nat) : Decidable (AsciiEndOK list cwLen rest) := by
  unfold AsciiEndOK
  cases h : firstBigEnough list (cwLen + asciiSize rest) with
  | none => exact isFalse (by rintro ⟨_, _, S, hS, _⟩; cases hS)
  | some S =>
    by_cases hc : rest.length ≤ 4 ∧ asciiSize rest ≤ 2 ∧ dataCw S - cwLen ≤ 2
    · exact isTrue ⟨hc.1, hc.2.1, S, rfl, hc.2.2⟩
    · exact isFalse (by rintro ⟨a, b, S', hS, c⟩; cases hS; exact hc ⟨a, b, c⟩)


theorem asciiEndOK_iff {list : List Sym} {cwLen : Nat} {rest : List Nat} :
    AsciiEndOK list cwLen rest ↔ rest.length ≤ 4 ∧ asciiSize rest ≤ 2 ∧
      ∃ r, CoupleC40.szLeft list (cwLen + asciiSize rest) = some r ∧ r + asciiSize rest ≤ 2 := by
  simp only [AsciiEndOK, CoupleC40.szLeft_eq_some_iff]
  refine and_congr_right fun _ => and_congr_right fun _ => ⟨fun ⟨S, hS, h⟩ => ?_, fun ⟨r, ⟨S, hS, hc⟩, h⟩ => ⟨S, hS, by omega⟩⟩
  have := SymbolList.fbe_some_ge _ _ _ hS
  exact ⟨dataCw S - (cwLen + asciiSize rest), ⟨S, hS, by omega⟩, by omega⟩

end DM.Lemmas.EdiRT
