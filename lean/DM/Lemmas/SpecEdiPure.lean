import DM.Lemmas.SpecEdi
import DM.Lemmas.EdiGen
import DM.Lemmas.SpecPure
/-
The pure EDIFACT plan against the reference decoder (continues `SpecEdi`, same namespace): what the encoder writes
(`edi_run_shape`, over `SpecPure` and `EdiGen.edifactEncode_gen`: latch, groups, one of two endings), the decoder's
final states in closed form (`ediFinalU`, `ediFinalA`) and the whole run for the ending with the UNLATCH value
(`spec_run_edi_unlatch`) and for the endings without (`spec_run_edi_ascii`).
-/
namespace DM.Lemmas.SpecEdi
open DM.Model DM.Lemmas DM.Lemmas.AsciiRT DM.Lemmas.SpecStep DM.Lemmas.SpecAscii DM.Spec.Stream
open DM.Lemmas.Complete
open DM.Spec.Build (packEdifact)

open DM.Lemmas.EncRT DM.Lemmas.X12RT DM.Lemmas.EdiRT DM.Lemmas.EdiGen in
theorem edi_run_shape (list : List Sym) (pre body cw : List Nat) (sym : Sym) (hc : EdiChars body) (hne : body ≠ [])
    (h : Enc.run list pre body [(body.length, .edifact), (0, .edifact)] = .ok (cw, sym)) :
    ∃ q X L, 4 * q ≤ body.length ∧ L = pre.length + (1 + 3 * q) + X.length ∧ cw.length = dataCw sym ∧
      cw.take L = pre ++ ediC body q ++ X ∧ Pads.Padded cw L ∧
      ((X = ediLast (body.drop (4 * q)) ∧ body.length - 4 * q ≤ 3 ∧ pre.length + 1 + 3 * q + 3 ≤ dataCw sym) ∨
       (X = asciiEnc (body.drop (4 * q)) ∧ body.length - 4 * q ≤ 4 ∧ dataCw sym ≤ pre.length + 1 + 3 * q + 2 ∧
         (dataCw sym = pre.length + 1 + 3 * q → body.length = 4 * q))) := by
  obtain ⟨s3, sE, k, he2, hm2, hsym, hpad⟩ := SpecPure.pure_run_start list pre body cw sym .edifact 240 hne rfl h
  have hmodeL : (SpecPure.entered list pre body .edifact 240).mode = .edifact := rfl
  simp only [Enc.encodeMode, hmodeL] at he2
  have hend := edifactEncode_gen list body 0 pre _ s3 rfl rfl rfl (Nat.zero_le _) rfl rfl rfl
    (by intro e he; simp [SpecPure.entered] at he; rw [he]) (by simpa using hc) he2
  have hcap := SymbolList.fbe_some_ge list _ sym hsym
  obtain ⟨q, X, hq, hcwE, hasc, hform⟩ : ∃ q X, 4 * q ≤ body.length ∧ sE.cw = pre ++ ediC body q ++ X ∧
      (sE.mode = .ascii ∨ sE.cw.length = dataCw sym) ∧
      ((X = ediLast (body.drop (4 * q)) ∧ body.length - 4 * q ≤ 3 ∧ pre.length + 1 + 3 * q + 3 ≤ dataCw sym) ∨
       (X = asciiEnc (body.drop (4 * q)) ∧ body.length - 4 * q ≤ 4 ∧ dataCw sym ≤ pre.length + 1 + 3 * q + 2 ∧
         (dataCw sym = pre.length + 1 + 3 * q → body.length = 4 * q))) := by
    have hcwE : ∀ q, cwE body 0 pre q = pre ++ ediC body q := by intro q; simp [cwE, bE]
    have hrestE : ∀ q, restE body 0 q = body.drop (4 * q) := by intro q; simp [restE, bE]
    have hcwl : ∀ q, 4 * q ≤ body.length → (pre ++ ediC body q).length = pre.length + (1 + 3 * q) := by
      intro q hq; rw [List.length_append, ediC_length body q hq]
    cases hend with
    | exact q hq fit ecw epos einp elst =>
      rw [hcwE] at ecw fit
      simp only [Nat.zero_add] at hq
      rw [mainLoop_end _ _ _ (by simp [Enc.St.hasMore, epos, einp])] at hm2
      cases hm2
      obtain ⟨S, f1, f2⟩ := fit
      rw [ecw, f1] at hsym
      cases hsym
      have hd : body.drop (4 * q) = [] := List.drop_eq_nil_of_le (by omega)
      have hcl := hcwl q (by omega)
      exact ⟨q, asciiEnc (body.drop (4 * q)), by omega, by rw [hd, ecw]; simp [asciiEnc], Or.inr (by rw [ecw, f2]),
        Or.inr ⟨rfl, by omega, by omega, fun _ => hq.symm⟩⟩
    | unlatch q hq hr three eq =>
      rw [hcwE, hrestE] at eq three
      rw [hrestE, List.length_drop] at hr
      simp only [Nat.zero_add] at hq
      subst eq
      rw [mainLoop_end _ _ _ (by simp [Enc.St.hasMore, stAscii])] at hm2
      cases hm2
      have h3 := three sym hsym
      rw [hcwl q hq] at h3
      exact ⟨q, _, hq, rfl, Or.inl rfl, Or.inl ⟨rfl, hr, by omega⟩⟩
    | ascii q hq ok eq =>
      rw [hcwE, hrestE] at ok
      rw [hcwE] at eq
      simp only [Nat.zero_add] at hq eq
      subst eq
      obtain ⟨hr4, hasz, S, hS, hroom⟩ := ok
      obtain ⟨e1c, e2c, _⟩ := SpecPure.mainLoop_ascii_rest _ _ sE k rfl rfl rfl (by simp [stAscii]; omega) hm2
      have e1 : sE.cw = pre ++ ediC body q ++ asciiEnc (body.drop (4 * q)) := by rw [e1c]; simp [stAscii, Enc.St.rest]
      have haszlen : (asciiEnc (body.drop (4 * q))).length = Enc.asciiSize (body.drop (4 * q)) :=
        asciiEnc_size _
      rw [e1, List.length_append, haszlen, hS] at hsym
      cases hsym
      rw [hcwl q hq] at hroom hS
      rw [List.length_drop] at hr4
      refine ⟨q, _, hq, e1, Or.inl e2c, Or.inr ⟨rfl, hr4, by have := SymbolList.fbe_some_ge _ _ _ hS; omega, ?_⟩⟩
      intro hex
      by_cases hd : body.drop (4 * q) = []
      · have := congrArg List.length hd
        simp at this; omega
      · have := AsciiSize.asciiSize_pos hd
        have := SymbolList.fbe_some_ge _ _ _ hS
        omega
  obtain ⟨hol, htake, hpd⟩ := SpecPure.pad_shape sE.cw cw _ (dataCw sym) hcap
    (hasc.imp (fun h => by rw [h]; rfl) id) hpad
  have hLl : sE.cw.length = pre.length + (1 + 3 * q) + X.length := by
    rw [hcwE, List.length_append, List.length_append, ediC_length body q hq]
  rw [hLl] at htake hpd
  rw [hcwE] at htake
  exact ⟨q, X, _, hq, rfl, hol, htake, hpd, hform⟩

def ediFinalU (p n : Nat) (body : List Nat) (padAt : Option Nat) : St :=
  { i := n, mode := .ascii, out := body.toArray, trace := Array.replicate body.length .edifact,
    latches := #[(p, .edifact)], padAt := padAt }

def ediFinalA (p n q : Nat) (body : List Nat) (m : Mode) (padAt : Option Nat) : St :=
  { i := n, mode := m, out := body.toArray,
    trace := Array.replicate (4 * q) .edifact ++ Array.replicate (body.length - 4 * q) .ascii,
    latches := #[(p, .edifact)], padAt := padAt }

theorem spec_run_edi_unlatch (cwl pre body : List Nat) (q L : Nat) (hc : EdiChars body) (hq : 4 * q ≤ body.length)
    (hr : body.length - 4 * q ≤ 3)
    (hL : L = pre.length + (1 + 3 * q) + (ediLast (body.drop (4 * q))).length)
    (htake : cwl.take L = pre ++ EdiRT.ediC body q ++ ediLast (body.drop (4 * q)))
    (hthree : pre.length + 1 + 3 * q + 3 ≤ cwl.length) (hpd : Pads.Padded cwl L) :
    run cwl.toArray (3 * cwl.length + 4) { i := pre.length } =
      .ok (ediFinalU pre.length cwl.length body (if L = cwl.length then none else some L)) := by
  have hlen := hpd.le
  have hq4 : body.length / 4 = q := by omega
  have hl := ediSegCw_length body
  have hlast := ediLast_length (body.drop (4 * q)) (by simp; omega)
  rw [hq4] at hl
  have hLs : L = pre.length + (ediSegCw body).length := by omega
  have ho : Occurs cwl.toArray pre.length (ediSegCw body) := by
    apply occurs_of_take
    rw [← hLs, htake, List.append_assoc]
    unfold ediSegCw
    rw [hq4]
  obtain ⟨k, hk, hs⟩ := specSegE_unlatch body hc cwl.toArray { i := pre.length } rfl ho
    (by unfold ediNeed; rw [hq4]; simp only [List.size_toArray]; omega)
  rw [hs.finish_pad (by rw [emitE_i, ← hLs]; exact hpd) (fun _ => rfl) (by omega)]
  simp [ediFinalU, emitE, ← hLs]

theorem spec_run_edi_ascii (cwl pre body : List Nat) (q L : Nat) (hc : EdiChars body) (hq : 4 * q ≤ body.length)
    (hL : L = pre.length + (1 + 3 * q) + (asciiEnc (body.drop (4 * q))).length)
    (htake : cwl.take L = pre ++ EdiRT.ediC body q ++ asciiEnc (body.drop (4 * q)))
    (htwo : cwl.length ≤ pre.length + 1 + 3 * q + 2)
    (hnil : cwl.length = pre.length + 1 + 3 * q → body.length = 4 * q) (hpd : Pads.Padded cwl L) :
    run cwl.toArray (3 * cwl.length + 4) { i := pre.length } =
      .ok (ediFinalA pre.length cwl.length q body
        (if cwl.length = pre.length + 1 + 3 * q then .edifact else .ascii)
        (if L = cwl.length then none else some L)) := by
  have hlen := hpd.le
  have hcl := EdiRT.ediC_length body q hq
  have ho : Occurs cwl.toArray pre.length (EdiRT.ediC body q ++ asciiEnc (body.drop (4 * q))) := by
    apply occurs_of_take
    rw [List.length_append, hcl, ← Nat.add_assoc, ← hL, htake, List.append_assoc]
  have o2 := ho.right
  rw [hcl] at o2
  have hct : EdiChars (body.take (4 * q)) := fun x hx => hc x (List.mem_of_mem_take hx)
  have hb : ByteList (body.drop (4 * q)) := fun x hx => by have := hc x (List.mem_of_mem_drop hx); omega
  by_cases hex : cwl.length = pre.length + 1 + 3 * q
  · obtain ⟨s1, hend⟩ := steps_edi_exact cwl.toArray { i := pre.length } body q rfl hct hq ho.left (by simpa using hex)
    rw [s1.finish hend (by omega), if_pos hex, if_pos (by omega)]
    simp [ediFinalA, emit, latch, List.take_of_length_le, hnil hex, hex]
  · have s1 := steps_edi_short cwl.toArray { i := pre.length } body q rfl hct hq ho.left
      (by simp only [List.size_toArray]; omega) (by simpa using htwo)
    rw [s1.finish_ascii_rest rfl (body.drop (4 * q)) hb L (by rw [emitE_i, hL]) (by simpa [Nat.add_assoc] using o2) hpd
      (by omega), if_neg hex]
    simp [ediFinalA, emit, emitE, Nat.min_eq_left hq]

end DM.Lemmas.SpecEdi
