import DM.Model.Encode
import DM.Model.Decode
import DM.Model.Planner
import DM.Spec.Build
/-
The C40 / Text value tables, checked once. Four parties hold them, each in a form of its own: the encoder
(`c40Low` / `textLow` under `toVals`, chains of range tests), the planner (`c40ValSize`, which only counts), the
builder of the reference (`c40Vals`, a search in the standard's tables) and the crate's decoder (`c40Value` over the
tables `tabs`). One evaluation over the 128 low characters of each set (`c40_low_ok`, read as `c40_low`) ties the
four together; above 127 all four put Upper Shift in front of the values of `b - 128`, so the per-byte facts
`toVals_eq` (encoder), `c40Vals_size` (planner) and `c40_byte` (decoder) follow without a second evaluation.
Namespaces: `Complete` (`tabs`), `C40RT`.
-/
namespace DM.Lemmas.Complete
open DM.Model.Dec DM.Gen

def tabs (text : Bool) : List Nat × List Nat := if text then (baseText, shift3Text) else (baseC40, shift3C40)

end DM.Lemmas.Complete

namespace DM.Lemmas.C40RT
open DM.Model.Enc DM.Model.Dec DM.Model.Plan DM.Lemmas.Complete DM.Spec.Build

/-- what is checked of the encoder's values `vs` of a character `lo` below 128. The decoder is run on `vs`, a
literal list once `c40Low` is evaluated, and not on `c40Vals text lo`, whose search in the standard's tables is
the dear part and is so evaluated once per character. -/
def valsOK (text : Bool) (lo : Nat) (vs : List Nat) : Bool :=
  vs == c40Vals text lo && vs.length == (if c40InBase text lo then 1 else 2) && vs.all (· < 40) &&
    [false, true].all fun u =>
      match c40Values (tabs text).1 (tabs text).2 vs { shift := 0, upper := u } [] with
      | .ok (st, o) => st.shift == 0 && !st.upper && o == [if u then lo + 128 else lo]
      | .error _ => false

def c40LowOK (text : Bool) (lo : Nat) : Bool :=
  match (if text then textLow else c40Low) lo with
  | .ok vs => valsOK text lo vs
  | .error _ => false

theorem c40_low_ok : (List.range 128).all (fun lo => c40LowOK false lo && c40LowOK true lo) = true := by
  decide +kernel

theorem c40_low (text : Bool) (lo : Nat) (hlo : lo < 128) :
    (if text then textLow else c40Low) lo = .ok (c40Vals text lo) ∧
    (c40Vals text lo).length = (if c40InBase text lo then 1 else 2) ∧
    (∀ v ∈ c40Vals text lo, v < 40) ∧
    ∀ u : Bool, c40Values (tabs text).1 (tabs text).2 (c40Vals text lo) { shift := 0, upper := u } [] =
      .ok ({ shift := 0, upper := false }, [if u then lo + 128 else lo]) := by
  have h := List.all_eq_true.mp c40_low_ok lo (List.mem_range.mpr hlo)
  rw [Bool.and_eq_true] at h
  have hk : c40LowOK text lo = true := by cases text; exact h.1; exact h.2
  unfold c40LowOK at hk
  split at hk
  case h_2 => cases hk
  rename_i vs hvs
  simp only [valsOK, Bool.and_eq_true, beq_iff_eq, List.all_eq_true, decide_eq_true_eq] at hk
  obtain ⟨⟨⟨rfl, hlen⟩, hlt⟩, hdec⟩ := hk
  refine ⟨hvs, hlen, hlt, fun u => ?_⟩
  have hu := hdec u (by cases u <;> simp)
  split at hu
  case h_2 => cases hu
  rename_i st o hc
  obtain ⟨shift, upper⟩ := st
  simp only [Bool.and_eq_true, beq_iff_eq, Bool.not_eq_true'] at hu
  obtain ⟨⟨rfl, rfl⟩, rfl⟩ := hu
  exact hc

theorem c40Vals_split (text : Bool) (b : Nat) :
    c40Vals text b = (if b ≥ 128 then [1, 30] else []) ++ c40Vals text (b % 128) := by
  unfold c40Vals
  simp only [Nat.mod_mod, if_neg (Nat.not_le.mpr (Nat.mod_lt b (by decide : 0 < 128))), List.nil_append]

theorem toVals_eq (text : Bool) (buf : List Nat) (b : Nat) (hb : b < 256) :
    toVals text buf b = if (buf ++ c40Vals text b).length > 6 then .error (.panic "ArrayVec capacity")
      else .ok (buf ++ c40Vals text b) := by
  unfold toVals
  simp only []
  by_cases hlow : b ≤ 127
  · rw [if_pos hlow, (c40_low text b (by omega)).1]
  · have e : c40Vals text b = [1, 30] ++ c40Vals text (b - 128) := by
      rw [c40Vals_split text b, if_pos (by omega), show b % 128 = b - 128 by omega]
    rw [if_neg hlow, (c40_low text (b - 128) (by omega)).1, e]

/-- above 127 neither set has values (in the crate `to_vals` takes a `u8` and subtracts 128 first) -/
theorem low_high (text : Bool) (x : Nat) (hx : 128 ≤ x) :
    (if text then textLow else c40Low) x = .error (.panic "unreachable c40 symbol") := by
  have h : c40Low x = .error (.panic "unreachable c40 symbol") := by
    unfold c40Low
    rw [if_neg (by omega), if_neg (by omega), if_neg (by omega), if_neg (by omega), if_neg (by omega),
      if_neg (by omega), if_neg (by omega), if_neg (by omega)]
  cases text
  · exact h
  · simp only [↓reduceIte, textLow]
    rw [if_neg (by omega), if_neg (by omega)]
    exact h

theorem toVals_high (text : Bool) (buf : List Nat) (b : Nat) (hb : 256 ≤ b) :
    toVals text buf b = .error (.panic "unreachable c40 symbol") := by
  unfold toVals
  simp only []
  rw [if_neg (by omega), low_high text (b - 128) (by omega)]

theorem toVals_lt (text : Bool) (buf : List Nat) (ch : Nat) (v : List Nat) (h : toVals text buf ch = .ok v) : ch < 256 := by
  refine Nat.lt_of_not_le fun hx => ?_
  rw [toVals_high text buf ch hx] at h
  cases h

theorem c40Vals_size (text : Bool) (b : Nat) (hb : b < 256) : (c40Vals text b).length = c40ValSize text b := by
  rw [c40Vals_split, List.length_append, (c40_low text (b % 128) (Nat.mod_lt b (by decide))).2.1]
  unfold c40ValSize
  by_cases h : b ≥ 128
  · simp only [h, ↓reduceIte, show b % 128 = b - 128 by omega, List.length_cons, List.length_nil]
  · simp only [h, ↓reduceIte, Nat.mod_eq_of_lt (Nat.lt_of_not_le h), List.length_nil]

theorem c40_byte (text : Bool) (b : Nat) (hb : b < 256) :
    c40Values (tabs text).1 (tabs text).2 (c40Vals text b) { shift := 0, upper := false } [] =
      .ok ({ shift := 0, upper := false }, [b]) ∧ ∀ v ∈ c40Vals text b, v < 40 := by
  rw [c40Vals_split]
  by_cases h : b ≥ 128
  · -- 1 selects shift set 2, whose value 30 is the upper shift
    obtain ⟨_, _, h2, h1⟩ := c40_low text (b % 128) (by omega)
    rw [if_pos h]
    refine ⟨?_, fun v hv => ?_⟩
    · simp only [List.cons_append, List.nil_append, c40Values, c40Value]
      simp only [Nat.reduceLeDiff, ↓reduceIte, Nat.reduceAdd, Nat.reduceEqDiff]
      rw [h1 true, if_pos rfl, show b % 128 + 128 = b by omega]
    · rcases List.mem_append.mp hv with hv | hv
      · simp only [List.mem_cons, List.not_mem_nil, or_false] at hv
        omega
      · exact h2 v hv
  · obtain ⟨_, _, h2, h1⟩ := c40_low text b (by omega)
    rw [if_neg h, List.nil_append, Nat.mod_eq_of_lt (by omega)]
    exact ⟨h1 false, h2⟩

end DM.Lemmas.C40RT
