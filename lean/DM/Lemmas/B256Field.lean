import DM.Lemmas.EncStep
import DM.Lemmas.CompleteB256
/-
What the round trip, the coupling and the pure plan share about the Base 256 encoder. The call on a known plan, run forward
up to `write_length` (`b256Encode_run`): behind the codewords stand the placeholder of the length field and the bytes copied.
`write_length` on such a field `pre ++ 0 :: chunk`: the encoder's 255-state randomisation is the specification's (`rand_eq`),
so `b256WriteLength` answers the header `b256Hdr chunk toEnd` in front of the bytes, all of it randomised
(`writeLength_field`). The round trip reads it backwards from a success (`writeLength_gen`), the coupling reads the
lengths (`CoupleB256.writeLength_len`).
Namespace: `B256Gen`.
-/
namespace DM.Lemmas.B256Gen
open DM.Model DM.Model.Enc DM.Lemmas.Complete

theorem encodeMode_b256 (s : St) (hm : s.mode = .base256) :
    encodeMode s = b256Loop s.cw.length (s.charsLeft + 2) (s.push 0) := by
  unfold encodeMode
  rw [hm]
  rfl

theorem b256Encode_run {at_ : Nat} {m : EMode} {rest : List (Nat × EMode)} (k : Nat) (s : St) (hmode : s.mode = .base256)
    (hp : s.plan = (at_, m) :: rest) (hat : at_ + (k + 1) = s.charsLeft) (hm : 0 < at_ → m ≠ .base256) :
    encodeMode s = EncStep.b256Finish s.cw.length
      (if 0 < at_ then { s with pos := s.pos + (k + 1), cw := s.cw ++ 0 :: s.rest.take (k + 1), mode := m, plan := rest,
                                newMode := match m.latch with | some l => some l | none => s.newMode }
       else { s with pos := s.pos + (k + 1), cw := s.cw ++ 0 :: s.rest.take (k + 1) }) := by
  rw [encodeMode_b256 s hmode, show s.charsLeft + 2 = (at_ + 2) + (k + 1) by omega,
    EncStep.b256Loop_run_eq _ k (s.push 0) hp hat (fun h => by rw [show (s.push 0).mode = _ from hmode]; exact hm h),
    EncStep.b256Exit]
  simp only [St.push, List.append_assoc, List.singleton_append]
  rfl

theorem rand_eq (v p : Nat) (hv : v < 256) : Enc.randomize255 v p = DM.Spec.Build.randomize255 v p := by
  unfold Enc.randomize255 DM.Spec.Build.randomize255 DM.Spec.Stream.rand255
  have hr : (149 * p) % 255 < 255 := Nat.mod_lt _ (by decide)
  generalize (149 * p) % 255 = r at hr
  simp only []
  split
  · rw [Nat.mod_eq_of_lt (by omega)]
  · rw [Nat.mod_eq_sub_mod (by omega), Nat.mod_eq_of_lt (by omega)]
theorem randomize_fieldG (pre F : List Nat) (hF : ByteList F) (start n : Nat) (hs : start = pre.length) (hn : n = F.length) :
    EncStep.b256Rand start n (pre ++ F) = pre ++ randFrom (start + 1) F := by
  subst hs hn
  refine List.ext_getElem (by simp [EncStep.b256Rand, randFrom_length]) fun i h1 h2 => ?_
  simp only [EncStep.b256Rand, List.getElem_map, List.getElem_range]
  by_cases hi : i < pre.length
  · -- the codewords before the field are left alone
    rw [if_neg (by omega), List.getElem_append_left hi, List.getD_eq_getElem?_getD, List.getElem?_append_left hi,
      List.getElem?_eq_getElem hi, Option.getD_some]
  · have hj : i - pre.length < F.length := by
      rw [List.length_append, randFrom_length] at h2; omega
    have hr := randFrom_getElem? F (pre.length + 1) (i - pre.length)
    rw [List.getElem?_eq_getElem (by rwa [randFrom_length]), List.getElem?_eq_getElem hj, Option.map_some, Option.some.injEq] at hr
    rw [if_pos ⟨by omega, by omega⟩, List.getElem_append_right (by omega), hr, List.getD_eq_getElem?_getD,
      List.getElem?_append_right (by omega), List.getElem?_eq_getElem hj, Option.getD_some,
      rand_eq _ _ (hF _ (List.getElem_mem hj))]
    congr 1
    omega

theorem set_mid (pre t : List Nat) (x y k : Nat) (hk : k = pre.length) : (pre ++ x :: t).set k y = pre ++ y :: t := by
  subst hk
  rw [List.set_append_right _ _ (Nat.le_refl _), Nat.sub_self]
  rfl

theorem take_mid (pre t : List Nat) (x k : Nat) (hk : k = pre.length) : (pre ++ x :: t).take (k + 1) = pre ++ [x] := by
  subst hk
  rw [List.take_length_add_append]
  rfl

theorem drop_mid (pre t : List Nat) (x k : Nat) (hk : k = pre.length) : (pre ++ x :: t).drop (k + 1) = t := by
  subst hk
  rw [List.drop_length_add_append]
  rfl
theorem writeLength_field (s : St) (pre chunk : List Nat) (hcw : s.cw = pre ++ 0 :: chunk) (hb : ByteList chunk)
    (hne : chunk ≠ []) :
    b256WriteLength s pre.length =
      match s.sizeLeft 0 with
      | none => .error .tooMuch
      | some sp =>
        if s.hasMore ∨ sp > 0 then
          if chunk.length ≤ 1555 then .ok { s with cw := pre ++ randFrom (pre.length + 1) (b256Hdr chunk false ++ chunk) }
          else .error (.panic "base256 data too long")
        else .ok { s with cw := pre ++ randFrom (pre.length + 1) (b256Hdr chunk true ++ chunk) } := by
  have hlen : 0 < chunk.length := List.length_pos_iff.mpr hne
  have hcwlen : s.cw.length = pre.length + (chunk.length + 1) := by rw [hcw, List.length_append, List.length_cons]
  -- the last pass, once for the three forms of the header
  have hrand : ∀ (toEnd : Bool) (n : Nat), (toEnd = false → chunk.length ≤ 1555) → n = (b256Hdr chunk toEnd ++ chunk).length →
      EncStep.b256Rand pre.length n (pre ++ (b256Hdr chunk toEnd ++ chunk)) =
        pre ++ randFrom (pre.length + 1) (b256Hdr chunk toEnd ++ chunk) := fun toEnd n hmax hn =>
    randomize_fieldG pre _ ((b256Hdr_bytes chunk toEnd hmax).append hb) _ n rfl hn
  rw [EncStep.b256WriteLength_eq]
  cases s.sizeLeft 0 with
  | none => rfl
  | some sp =>
    dsimp only
    rw [if_neg (by omega), show s.cw.length - pre.length = chunk.length + 1 by omega, Nat.add_sub_cancel]
    by_cases hcond : s.hasMore = true ∨ sp > 0
    · rw [if_pos hcond, if_pos hcond, if_neg (by omega)]
      by_cases h249 : chunk.length ≤ 249
      · -- one length codeword takes the place of the placeholder
        rw [if_pos h249, if_pos (by omega), hcw, set_mid _ _ _ _ _ rfl, ← hrand false _ (fun _ => by omega) rfl,
          b256Hdr_short h249]
        rfl
      · rw [if_neg h249]
        by_cases h1555 : chunk.length ≤ 1555
        · -- two length codewords: the second is inserted behind the first
          rw [if_pos h1555, if_pos h1555, hcw, set_mid _ _ _ _ _ rfl, take_mid _ _ _ _ rfl, drop_mid _ _ _ _ rfl,
            ← hrand false _ (fun _ => h1555) rfl, b256Hdr_long h249]
          simp only [List.append_assoc, List.cons_append, List.nil_append, List.length_cons]
        · rw [if_neg h1555, if_neg h1555]
    · -- length 0: the placeholder stays
      rw [if_neg hcond, if_neg hcond, hcw, ← hrand true _ nofun rfl]
      rfl

theorem writeLength_gen (sW s2 : St) (c0 chunk : List Nat) (hcw : sW.cw = c0 ++ 231 :: 0 :: chunk) (hb : ByteList chunk)
    (hne : chunk ≠ []) (h : b256WriteLength sW (c0.length + 1) = .ok s2) :
    ∃ toEnd, s2 = { sW with cw := c0 ++ [231] ++ randFrom (c0.length + 2) (b256Hdr chunk toEnd ++ chunk) } ∧
      (toEnd = true → sW.hasMore = false ∧ MainRT.ExactFit sW.list s2.cw.length) ∧
      (toEnd = false → chunk.length ≤ 1555) := by
  have hl : (c0 ++ [231]).length = c0.length + 1 := List.length_append
  rw [← hl, writeLength_field sW _ chunk (by rw [hcw, List.append_assoc]; rfl) hb hne, hl] at h
  cases hs : sW.sizeLeft 0 with
  | none => rw [hs] at h; cases h
  | some sp =>
    rw [hs] at h
    dsimp only at h
    by_cases hcond : sW.hasMore = true ∨ sp > 0
    · rw [if_pos hcond] at h
      by_cases hmax : chunk.length ≤ 1555
      · rw [if_pos hmax] at h
        exact ⟨false, (Except.ok.inj h).symm, nofun, fun _ => hmax⟩
      · rw [if_neg hmax] at h; cases h
    · rw [if_neg hcond] at h
      have h2 := (Except.ok.inj h).symm
      refine ⟨true, h2, fun _ => ⟨Bool.eq_false_iff.mpr fun hm => hcond (Or.inl hm), ?_⟩, nofun⟩
      -- the header "to the end of the symbol" takes the place of the placeholder: the length is unchanged
      have hlen : s2.cw.length = sW.cw.length + 0 := by
        rw [h2, hcw]
        simp only [b256Hdr, ↓reduceIte, List.length_append, List.length_cons, List.length_nil, randFrom_length]
        omega
      rw [hlen]
      exact EncStep.sizeLeft_zero sW 0 (hs.trans (congrArg some (Nat.eq_zero_of_not_pos fun hp => hcond (Or.inr hp))))

end DM.Lemmas.B256Gen
