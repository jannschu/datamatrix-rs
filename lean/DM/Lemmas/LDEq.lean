import DM.Lemmas.LDStages
import DM.Lemmas.RSSafe
/-
The stages of one Levinson–Durbin iteration (`LDStages`) as values: under hypotheses on lengths
alone each stage is `.ok` of a closed form (a row `win`, a map, a fold of its round function), and
`ldStep` is the pure step `stepV` (stop, regular step or jump: `StepV`) followed by the debug
re-check `ldCheck`, which is an `if`; `levinsonDurbin` is `TooManyErrors` or the loop from `initSt`
(`levinsonDurbin_loop`).
Namespaces: `RSTotal` (`LDInv`), `LD`, `RSTot` (`ldInitW_one`).
-/
namespace DM.Lemmas.RSTotal
open DM.Model DM.Model.RS DM.Lemmas

def LDInv (t : Nat) (st : LDSt) : Prop :=
  1 ≤ st.v ∧ st.v ≤ t ∧ st.w.length = st.v ∧ st.y.length = st.v

end DM.Lemmas.RSTotal

namespace DM.Lemmas.LD
open DM.Model DM.Model.RS DM.Lemmas DM.Lemmas.RSTotal

/-- a goal about lengths of lists built with `++`, `zipWith`, `take`, `drop`, `map`, `set` … -/
macro "length_omega" : tactic => `(tactic| (
  simp only [List.length_append, List.length_zipWith, List.length_take, List.length_drop,
    List.length_cons, List.length_singleton, List.length_nil, List.length_map, List.length_range,
    List.length_set, List.length_dropLast, List.length_replicate, List.length_reverse] <;> omega))

theorem regW_length (w y : List Nat) (v epsV bg : Nat) (hw : w.length = v) (hy : y.length = v) :
    (regW w y v epsV bg).length = v + 1 := by
  unfold regW
  simp only [List.length_append, List.length_zipWith, List.length_take, List.length_drop,
    List.length_cons, List.length_nil, hw, hy, Nat.min_self]
  omega

theorem regY_length (w y : List Nat) (v epsInv : Nat) (hw : w.length = v) (hy : y.length = v) :
    (regY w y epsInv).length = v + 1 := by
  unfold regY
  length_omega

theorem tkNext_length (w y tk : List Nat) (rho eta : Nat) :
    (tkNext w y tk rho eta).length = tk.length - 1 + 1 := by
  unfold tkNext
  length_omega

theorem singY_length (w : List Nat) (n sInv : Nat) : (singY w n sInv).length = n + 1 := by
  unfold singY
  length_omega

theorem twAdd_length (w tw : List Nat) (off gi : Nat) : (twAdd w tw off gi).length = tw.length := by
  unfold twAdd
  length_omega

theorem twStep_length (w tw : List Nat) (v off gi : Nat) : (twStep w tw v off gi).length = tw.length := by
  unfold twStep
  rw [List.length_set, twAdd_length]

def firstSigma (syn tmp : List Nat) (t v : Nat) : Option (Nat × Nat) :=
  (List.range' 1 (t - v - 1)).findSome? fun i =>
    if win syn tmp (v + i) ≠ 0 then some (i, win syn tmp (v + i)) else none

theorem firstSigma_spec (syn tmp : List Nat) (t v : Nat) :
    (firstSigma syn tmp t v = none ∧ ∀ i, 1 ≤ i → i < t - v → win syn tmp (v + i) = 0) ∨
    (∃ m, firstSigma syn tmp t v = some (m, win syn tmp (v + m)) ∧ 1 ≤ m ∧ m < t - v ∧
      win syn tmp (v + m) ≠ 0 ∧ ∀ i, 1 ≤ i → i < m → win syn tmp (v + i) = 0) := by
  have none_iff : ∀ i, (if win syn tmp (v + i) ≠ 0 then some (i, win syn tmp (v + i)) else none)
      = none → win syn tmp (v + i) = 0 := fun i h =>
    Decidable.byContradiction fun hne => by rw [if_pos hne] at h; cases h
  unfold firstSigma
  rcases findSome_range' (fun i => if win syn tmp (v + i) ≠ 0 then some (i, win syn tmp (v + i))
    else none) (t - v - 1) 1 with ⟨h, hz⟩ | ⟨m, c, h, h1, h2, h3, hz⟩
  · exact .inl ⟨h, fun i h1 h2 => none_iff i (hz i h1 (by omega))⟩
  · split at h3
    · rename_i hne
      cases h3
      exact .inr ⟨m, h, h1, by omega, hne, fun i h1 h2 => none_iff i (hz i h1 h2)⟩
    · cases h3

variable {syn w y tmp tk : List Nat} {t v m : Nat}

theorem findSigma_eq (ht : 2 * t ≤ syn.length) (htmp : tmp.length = v + 1) :
    findSigma syn tmp t v = .ok (firstSigma syn tmp t v) := by
  unfold findSigma firstSigma
  rw [filter_ge_range,
    forIn_eq_foldl' _ (fun found i => if found.isNone then
      (if win syn tmp (v + i) ≠ 0 then some (i, win syn tmp (v + i)) else none).or found else found),
    foldl_findSome (fun i => if win syn tmp (v + i) ≠ 0 then some (i, win syn tmp (v + i)) else none)]
  · rfl
  · intro i hi found
    rw [List.mem_range'_1] at hi
    cases found with
    | some c => rfl
    | none =>
      simp only [Option.isNone_none, if_true]
      rw [sliceDot_eq _ (by omega) (by omega)]
      split <;> rfl

def sigmaV (syn tmp : List Nat) (v m sigmaM : Nat) : List Nat :=
  sigmaM :: (List.range' (m + 1) m).map fun k => win syn tmp (v + k)

theorem sigmaLoop_eq (hlen : 2 * (v + m) + 2 ≤ syn.length) (htmp : tmp.length = v + 1)
    (sigmaM : Nat) : sigmaLoop syn tmp v m sigmaM = .ok (sigmaV syn tmp v m sigmaM) := by
  unfold sigmaLoop sigmaV
  rw [filter_ge_range, show 2 * m + 1 - (m + 1) = m by omega,
    forIn_eq_foldl' _ (fun s k => s ++ [win syn tmp (v + k)]), foldl_snoc_map]
  · rfl
  · intro k hk sigma
    rw [List.mem_range'_1] at hk
    exact sliceDot_eq _ (by omega) (by omega)

/-! ### the iteration `w^k → w^{k+1}` -/

def tkRound (syn : List Nat) (v : Nat) (w y tk : List Nat) (k : Nat) : List Nat :=
  tkNext w y tk (gadd (syn.getD (2 * v + k) 0) (win syn tk v)) (tk.getD (v - 1) 0)

theorem tkRound_length (hv1 : 1 ≤ v) (htk : tk.length = v) (k : Nat) :
    (tkRound syn v w y tk k).length = v := by
  rw [tkRound, tkNext_length, htk]; omega

def tkV (syn : List Nat) (v : Nat) (w y : List Nat) (m : Nat) : List Nat :=
  (List.range (m + 1)).foldl (tkRound syn v w y) w

theorem tkV_length (hv1 : 1 ≤ v) (hw : w.length = v) : (tkV syn v w y m).length = v :=
  foldl_range_inv _ (fun _ (tk : List Nat) => tk.length = v) _ hw _
    fun k _ _ htk => tkRound_length hv1 htk k

theorem tkLoop_eq (hlen : 2 * (v + m) + 2 ≤ syn.length) (hv1 : 1 ≤ v) (hw : w.length = v) :
    tkLoop syn v w y m = .ok (tkV syn v w y m) := by
  unfold tkLoop tkV
  refine (forIn_eq_foldl _ _ (fun tk : List Nat => tk.length = v) _ _ hw fun k hk tk htk => ?_).1
  rw [List.mem_range] at hk
  refine ⟨?_, tkRound_length hv1 htk k⟩
  rw [at'_ok (by omega)]
  show (slice _ syn v (2 * v - 1) >>= fun s => dot s _ >>= _) = _
  rw [sliceDot_eq _ (by omega) (by omega), at'_ok (by omega)]
  rfl

def gam0V (syn : List Nat) (v m : Nat) (tk : List Nat) : List Nat :=
  (List.range (m + 1)).map fun i => gadd (syn.getD (m + v + v + 1 + i) 0) (win syn tk (v + i))

theorem gamInit_eq (hlen : 2 * (v + m) + 2 ≤ syn.length) (hv1 : 1 ≤ v) (htk : tk.length = v) :
    gamInit syn v m tk = .ok (gam0V syn v m tk) := by
  unfold gamInit gam0V
  rw [forIn_eq_foldl' _ (fun gam i => gam ++
    [gadd (syn.getD (m + v + v + 1 + i) 0) (win syn tk (v + i))]), foldl_snoc_map]
  · rfl
  · intro i hi gam
    rw [List.mem_range] at hi
    rw [at'_ok (by omega)]
    show (slice _ syn (v + i) (2 * v - 1 + i) >>= fun s => dot s _ >>= _) = _
    rw [sliceDot_eq _ (by omega) (by omega)]
    rfl

def gamRound (sigma : List Nat) (sigma0 : Nat) (gam : List Nat) (i : Nat) : List Nat :=
  gam.set i (gdivD ((List.range i).foldl
    (fun gi j => gadd gi (gmul (sigma.getD (i - j) 0) (gam.getD j 0))) (gam.getD i 0)) sigma0)

def gamV (sigma : List Nat) (m sigma0 : Nat) (gam0 : List Nat) : List Nat :=
  (List.range (m + 1)).foldl (gamRound sigma sigma0) gam0

theorem gamV_length {sigma gam0 : List Nat} (sigma0 : Nat) (hgam : gam0.length = m + 1) :
    (gamV sigma m sigma0 gam0).length = m + 1 :=
  foldl_range_inv _ (fun _ (gam : List Nat) => gam.length = m + 1) _ hgam _
    fun i _ gam hg => by rw [gamRound, List.length_set, hg]

theorem gamSolve_eq {sigma gam0 : List Nat} {sigma0 : Nat} (hsig : sigma.length = m + 1)
    (h0 : sigma0 ≠ 0) (hgam : gam0.length = m + 1) :
    gamSolve sigma m sigma0 gam0 = .ok (gamV sigma m sigma0 gam0) := by
  unfold gamSolve gamV
  refine (forIn_eq_foldl _ _ (fun gam : List Nat => gam.length = m + 1) _ _ hgam
    fun i hi gam hg => ?_).1
  rw [List.mem_range] at hi
  refine ⟨?_, by rw [gamRound, List.length_set, hg]⟩
  rw [at'_ok (by omega)]
  show ((forIn (List.range i) (gam.getD i 0) _ : R Nat) >>= _) = _
  rw [forIn_eq_foldl' _ (fun gi j => gadd gi (gmul (sigma.getD (i - j) 0) (gam.getD j 0)))]
  · show (div' _ _ sigma0 >>= _) = _
    rw [div'_ok h0]
    rfl
  · intro j hj gi
    rw [List.mem_range] at hj
    rw [at'_ok (by omega)]
    rfl

def twV (w : List Nat) (v m : Nat) (tk gam : List Nat) : List Nat :=
  (List.range (m + 1)).foldl (fun tw i => twStep w tw v (m - i) (gam.getD i 0))
    (tk ++ List.replicate (m + v + 1 - tk.length) 0)

theorem twV_length (gam : List Nat) (htk : tk.length = v) :
    (twV w v m tk gam).length = m + v + 1 :=
  foldl_range_inv _ (fun _ (tw : List Nat) => tw.length = m + v + 1) _ (by length_omega) _
    fun k _ tw htw => by rw [twStep_length, htw]

theorem twLoop_eq {gam : List Nat} (hw : w.length = v) (htk : tk.length = v)
    (hgam : gam.length = m + 1) :
    twLoop w v m tk gam = .ok (twV w v m tk gam) := by
  unfold twLoop twV
  rw [zipIdx_swap, List.forIn_map, hgam]
  refine (forIn_eq_foldl _ _ (fun tw : List Nat => tw.length = m + v + 1) _ _ (by length_omega)
    fun i hi tw htw => ?_).1
  rw [List.mem_range] at hi
  refine ⟨?_, by rw [twStep_length, htw]⟩
  rw [sub'_ok (by omega)]
  show (if m - i > tw.length then _ else _) = _
  rw [if_neg (by omega)]
  show (if m - i + v ≥ (twAdd w tw (m - i) (gam.getD i 0)).length then _ else _) = _
  rw [if_neg (by rw [twAdd_length]; omega)]
  rfl

/-- row `i` of `H_v · l`, the way `ldCheck` accumulates it -/
def rowV (syn l : List Nat) (i v : Nat) : Nat :=
  (List.range v).foldl (fun row j => gadd row (gmul (syn.getD (i + j) 0) (l.getD j 0))) 0

def bad3 (syn y : List Nat) (v : Nat) : Bool :=
  (List.range v).any fun i => rowV syn y i v != if i = v - 1 then 1 else 0

def bad4 (syn w : List Nat) (v : Nat) : Bool :=
  (List.range v).any fun i => rowV syn w i v != syn.getD (v + i) 0

theorem ldCheck_eq (hw : w.length = v) (hy : y.length = v)
    (hlen : 2 * v ≤ syn.length) :
    ldCheck syn w y v =
      if bad3 syn y v then .error (.panic "debug_assert eq (3)")
      else if bad4 syn w v then .error (.panic "debug_assert eq (4)") else .ok () := by
  have row : ∀ (site : String) (l : List Nat) (i : Nat), i < v →
      forIn (List.range v) 0 (fun j (r : Nat) => do
        let s ← at' site syn (i + j)
        pure (ForInStep.yield (gadd r (gmul s (l.getD j 0))))) = (.ok (rowV syn l i v) : R Nat) :=
    fun site l i hi => forIn_eq_foldl' _ _ _ _ fun j hj r => by
      rw [List.mem_range] at hj
      rw [at'_ok (by omega)]; rfl
  unfold ldCheck
  simp only []
  rw [if_neg (fun h => h hw), if_neg (fun h => h hy)]
  show ((forIn (List.range v) PUnit.unit _ : R PUnit) >>= fun _ =>
    (forIn (List.range v) PUnit.unit _ : R PUnit) >>= fun _ => (pure () : R Unit)) = _
  rw [forIn_test _ (fun i => rowV syn y i v != if i = v - 1 then 1 else 0)
    (.panic "debug_assert eq (3)")]
  · unfold bad3
    split
    · rfl
    · show ((forIn (List.range v) PUnit.unit _ : R PUnit) >>= fun _ => (pure () : R Unit)) = _
      rw [forIn_test _ (fun i => rowV syn w i v != syn.getD (v + i) 0)
        (.panic "debug_assert eq (4)")]
      · unfold bad4
        split <;> rfl
      · intro i hi
        rw [List.mem_range] at hi
        show ((forIn (List.range v) 0 _ : R Nat) >>= _) = _
        rw [row _ w i hi]
        show (at' _ syn (v + i) >>= _) = _
        rw [at'_ok (by omega)]
        show (if rowV syn w i v ≠ syn.getD (v + i) 0 then _ else _) = _
        by_cases h : rowV syn w i v = syn.getD (v + i) 0
        · rw [if_neg (fun hn => hn h), if_neg (fun hb => bne_iff_ne.1 hb h)]; rfl
        · rw [if_pos h, if_pos (bne_iff_ne.2 h)]; rfl
  · intro i hi
    rw [List.mem_range] at hi
    show ((forIn (List.range v) 0 _ : R Nat) >>= _) = _
    rw [row _ y i hi]
    show (if rowV syn y i v ≠ (if i = v - 1 then 1 else 0) then _ else _) = _
    by_cases h : rowV syn y i v = if i = v - 1 then 1 else 0
    · rw [if_neg (fun hn => hn h), if_neg (fun hb => bne_iff_ne.1 hb h)]; rfl
    · rw [if_pos h, if_pos (bne_iff_ne.2 h)]; rfl

def regV (syn : List Nat) (v : Nat) (w y : List Nat) (epsV : Nat) : LDSt :=
  { v := v + 1
    w := regW w y v epsV (gadd (gdivD (win syn (w ++ [1]) (v + 1)) epsV) (win syn y v))
    y := regY w y (gdivD 1 epsV) }

theorem regStep_eq {epsV : Nat} (hlen : 2 * v + 2 ≤ syn.length) (hv1 : 1 ≤ v)
    (hw : w.length = v) (hy : y.length = v) (heps : epsV ≠ 0) :
    regStep syn v w y epsV =
      ldCheck syn (regV syn v w y epsV).w (regV syn v w y epsV).y (v + 1) >>= fun _ =>
        pure (some (regV syn v w y epsV)) := by
  unfold regStep
  rw [sliceDot_eq _ (by length_omega) (by omega)]
  show (div' _ _ epsV >>= _) = _
  rw [div'_ok heps]
  show (slice _ syn v (2 * v - 1) >>= fun s => dot s y >>= _) = _
  rw [sliceDot_eq _ (by omega) (by omega)]
  show (div' _ 1 epsV >>= _) = _
  rw [div'_ok heps]
  rfl

def singV (syn : List Nat) (v : Nat) (w y : List Nat) (m sigmaM : Nat) : LDSt :=
  { v := m + v + 1
    w := twV w v m (tkV syn v w y m)
      (gamV (sigmaV syn (w ++ [1]) v m sigmaM) m sigmaM (gam0V syn v m (tkV syn v w y m)))
    y := singY w (m + v) (gdivD 1 sigmaM) }

theorem sigmaV_length (syn tmp : List Nat) (v m sigmaM : Nat) :
    (sigmaV syn tmp v m sigmaM).length = m + 1 := by
  simp only [sigmaV, List.length_cons, List.length_map, List.length_range']

theorem gam0V_length (syn : List Nat) (v m : Nat) (tk : List Nat) :
    (gam0V syn v m tk).length = m + 1 := by
  unfold gam0V; length_omega

theorem singStep_eq {sigmaM : Nat} (hlen : 2 * (v + m) + 2 ≤ syn.length) (hv1 : 1 ≤ v)
    (hw : w.length = v) (hsM : sigmaM ≠ 0) :
    singStep syn v w y m sigmaM =
      ldCheck syn (singV syn v w y m sigmaM).w (singV syn v w y m sigmaM).y (m + v + 1) >>= fun _ =>
        pure (some (singV syn v w y m sigmaM)) := by
  have htkl := tkV_length (syn := syn) (y := y) (m := m) hv1 hw
  unfold singStep
  rw [sigmaLoop_eq hlen (by length_omega), ok_bind, if_neg (fun h => h (sigmaV_length ..)),
    tkLoop_eq hlen hv1 hw, ok_bind, div'_ok hsM, ok_bind, if_neg (by omega),
    gamInit_eq hlen hv1 htkl, ok_bind, at'_ok (by rw [sigmaV_length]; omega), ok_bind]
  show (gamSolve _ m sigmaM _ >>= _) = _
  rw [gamSolve_eq (sigmaV_length ..) hsM (gam0V_length ..), ok_bind,
    twLoop_eq hw htkl (gamV_length _ (gam0V_length ..)), ok_bind]
  rfl

def stepV (syn : List Nat) (t : Nat) (st : LDSt) : Option LDSt :=
  if win syn (st.w ++ [1]) st.v ≠ 0 then
    some (regV syn st.v st.w st.y (win syn (st.w ++ [1]) st.v))
  else (firstSigma syn (st.w ++ [1]) t st.v).map fun p => singV syn st.v st.w st.y p.1 p.2

theorem ldStep_stepV (syn : List Nat) (t : Nat) (st : LDSt) (ht : 2 * t ≤ syn.length)
    (hv1 : 1 ≤ st.v) (hvt : st.v < t) (hw : st.w.length = st.v) (hy : st.y.length = st.v) :
    ldStep syn t st = match stepV syn t st with
      | none => pure none
      | some st' => ldCheck syn st'.w st'.y st'.v >>= fun _ => pure (some st') := by
  obtain ⟨v, w, y⟩ := st
  simp only at hv1 hvt hw hy
  rw [ldStep_eq, sliceDot_eq _ (by length_omega) (by omega)]
  unfold stepV
  simp only []
  split
  · exact regStep_eq (by omega) hv1 hw hy ‹_›
  · rw [findSigma_eq ht (by length_omega)]
    show (match firstSigma syn (w ++ [1]) t v with | none => _ | some (m, sigmaM) => _) = _
    rcases firstSigma_spec syn (w ++ [1]) t v with ⟨h, _⟩ | ⟨m, h, h1, h2, h3, _⟩
    · rw [h]; rfl
    · rw [h]
      exact singStep_eq (by omega) hv1 hw h3

/-- What one iteration of the locator search does, read off the rows `v, v + 1, …` of `[w, 1]`:
it stops when all of them below `t` vanish, takes the regular step when row `v` does not, and
otherwise jumps to the first row `v + m` that does not. -/
inductive StepV (syn : List Nat) (t : Nat) (st : LDSt) : Option LDSt → Prop
  | stop (hz : ∀ j, st.v ≤ j → j < t → win syn (st.w ++ [1]) j = 0) : StepV syn t st none
  | reg (hne : win syn (st.w ++ [1]) st.v ≠ 0) :
      StepV syn t st (some (regV syn st.v st.w st.y (win syn (st.w ++ [1]) st.v)))
  | sing (m : Nat) (h1 : 1 ≤ m) (hmt : st.v + m < t)
      (hz : ∀ j, st.v ≤ j → j < st.v + m → win syn (st.w ++ [1]) j = 0)
      (hne : win syn (st.w ++ [1]) (st.v + m) ≠ 0) :
      StepV syn t st (some (singV syn st.v st.w st.y m (win syn (st.w ++ [1]) (st.v + m))))

theorem stepV_cases (syn : List Nat) (t : Nat) (st : LDSt) : StepV syn t st (stepV syn t st) := by
  unfold stepV
  split
  · exact .reg ‹_›
  · rename_i h0
    have h0 := Decidable.not_not.1 h0
    -- with row `v`, the rows `v + i` for `1 ≤ i < m` are all the rows from `v` below `v + m`
    have rows : ∀ m, (∀ i, 1 ≤ i → i < m → win syn (st.w ++ [1]) (st.v + i) = 0) →
        ∀ j, st.v ≤ j → j < st.v + m → win syn (st.w ++ [1]) j = 0 := fun m hz j hj1 hj2 => by
      rcases Nat.eq_or_lt_of_le hj1 with rfl | hlt
      · exact h0
      · rw [← Nat.add_sub_cancel' hj1]; exact hz _ (by omega) (by omega)
    rcases firstSigma_spec syn (st.w ++ [1]) t st.v with ⟨h, hz⟩ | ⟨m, h, h1, h2, h3, hz⟩
    · rw [h]; exact .stop fun j hj1 hj2 => rows (t - st.v) hz j hj1 (by omega)
    · rw [h]; exact .sing m h1 (by omega) (rows m hz) h3

theorem stepV_shape (syn : List Nat) (t : Nat) (st st' : LDSt) (hv1 : 1 ≤ st.v)
    (hvt : st.v < t) (hw : st.w.length = st.v) (hy : st.y.length = st.v)
    (h : stepV syn t st = some st') :
    st.v < st'.v ∧ st'.v ≤ t ∧ st'.w.length = st'.v ∧ st'.y.length = st'.v := by
  have hc := stepV_cases syn t st
  rw [h] at hc
  cases hc with
  | reg => exact ⟨Nat.lt_succ_self _, hvt, regW_length _ _ _ _ _ hw hy, regY_length _ _ _ _ hw hy⟩
  | sing m h1 hmt =>
    exact ⟨by show st.v < m + st.v + 1; omega, by show m + st.v + 1 ≤ t; omega,
      twV_length _ (tkV_length hv1 hw), singY_length _ _ _⟩

theorem stepV_rows (syn : List Nat) (t : Nat) (st : LDSt) :
    (stepV syn t st = none ∧ ∀ j, st.v ≤ j → j < t → win syn (st.w ++ [1]) j = 0) ∨
    ∃ st', stepV syn t st = some st' ∧ st.v < st'.v ∧ win syn (st.w ++ [1]) (st'.v - 1) ≠ 0 ∧
      ∀ j, st.v ≤ j → j < st'.v - 1 → win syn (st.w ++ [1]) j = 0 := by
  have hc := stepV_cases syn t st
  generalize stepV syn t st = r at hc ⊢
  cases hc with
  | stop hz => exact .inl ⟨rfl, hz⟩
  | reg hne => exact .inr ⟨_, rfl, Nat.lt_succ_self _, hne, fun j h1 h2 => absurd h2 (by
      show ¬ j < st.v + 1 - 1; omega)⟩
  | sing m h1 hmt hz hne =>
    refine .inr ⟨_, rfl, by show st.v < m + st.v + 1; omega, ?_, fun j hj1 hj2 => hz j hj1 ?_⟩
    · show win syn (st.w ++ [1]) (m + st.v + 1 - 1) ≠ 0
      rwa [Nat.add_sub_cancel, Nat.add_comm]
    · have : j < m + st.v + 1 - 1 := hj2
      omega

/-! ### the initial triangular solve -/

def initRound (syn : List Nat) (v : Nat) (w : List Nat) (i : Nat) : List Nat :=
  w.set (v - 1 - i) (gdivD ((List.range' (v - i) i).foldl
    (fun acc j => gadd acc (gmul (syn.getD (i + j) 0) (w.getD j 0))) (w.getD (v - 1 - i) 0))
    (syn.getD (v - 1) 0))

def initWV (syn : List Nat) (v : Nat) : List Nat :=
  (List.range v).foldl (initRound syn v) ((syn.drop v).take v).reverse

theorem initWV_length (hlen : 2 * v ≤ syn.length) : (initWV syn v).length = v :=
  foldl_range_inv _ (fun _ (w : List Nat) => w.length = v) _ (by length_omega) _
    fun i _ w hw => by rw [initRound, List.length_set, hw]

theorem ldInitW_eq (hv : 1 ≤ v) (hlen : 2 * v ≤ syn.length) (hp : syn.getD (v - 1) 0 ≠ 0) :
    ldInitW syn v = .ok (initWV syn v) := by
  unfold ldInitW
  rw [slice_ok (by omega) (by omega), ok_bind, show 2 * v - 1 + 1 - v = v by omega,
    at'_ok (by omega), ok_bind]
  show ((forIn (List.range v) _ _ : R (List Nat)) >>= _) = _
  rw [(forIn_eq_foldl _ (initRound syn v) (fun w : List Nat => w.length = v) _ _
    (by length_omega) fun i hi w hw => ?_).1]
  · rfl
  · rw [List.mem_range] at hi
    refine ⟨?_, by rw [initRound, List.length_set, hw]⟩
    show (at' _ w (v - 1 - i) >>= _) = _
    rw [at'_ok (by omega), ok_bind, filter_ge_range, show v - (v - i) = i by omega]
    show ((forIn (List.range' (v - i) i) _ _ : R Nat) >>= _) = _
    rw [forIn_eq_foldl' _ (fun acc j => gadd acc (gmul (syn.getD (i + j) 0) (w.getD j 0)))]
    · show (div' _ _ (syn.getD (v - 1) 0) >>= _) = _
      rw [div'_ok hp]
      rfl
    · intro j hj acc
      rw [List.mem_range'_1] at hj
      show (at' _ w j >>= _) = _
      rw [at'_ok (by omega), ok_bind, at'_ok (by omega)]
      rfl

theorem getD_takeWhile_length (l : List Nat) (h : (l.takeWhile (· == 0)).length < l.length) :
    l.getD (l.takeWhile (· == 0)).length 0 ≠ 0 := by
  induction l with
  | nil => simp at h
  | cons a l ih =>
    by_cases ha : a = 0
    · subst ha
      simp only [List.takeWhile_cons, beq_self_eq_true, ↓reduceIte, List.length_cons,
        List.getD_cons_succ] at h ⊢
      exact ih (by omega)
    · have : (a == 0) = false := by simpa using ha
      simp only [List.takeWhile_cons, this, Bool.false_eq_true, ↓reduceIte, List.length_nil,
        List.getD_cons_zero]
      exact ha

def v0 (syn : List Nat) : Nat := (syn.takeWhile (· == 0)).length + 1

def initSt (syn : List Nat) : LDSt :=
  { v := v0 syn
    w := initWV syn (v0 syn)
    y := gdivD 1 (syn.getD (v0 syn - 1) 0) :: List.replicate (v0 syn - 1) 0 }

theorem levinsonDurbin_loop (syn : List Nat) :
    levinsonDurbin syn =
      if v0 syn > syn.length / 2 then .error .tooManyErrors
      else ldLoop syn (syn.length / 2) (syn.length / 2 + 1) (initSt syn) >>= fun st =>
        pure (st.w ++ [1]) := by
  unfold levinsonDurbin v0
  simp only []
  split
  · rfl
  · rename_i hvt
    have hp : syn.getD ((syn.takeWhile (· == 0)).length + 1 - 1) 0 ≠ 0 :=
      getD_takeWhile_length syn (by omega)
    rw [at'_ok (by omega), ok_bind, div'_ok hp, ok_bind, ldInitW_eq (by omega) (by omega) hp]
    rfl

end DM.Lemmas.LD

namespace DM.Lemmas.RSTot
open DM.Model DM.Model.RS DM.Lemmas DM.Lemmas.RSTotal

theorem ldInitW_one (syn : List Nat) (h : 2 ≤ syn.length) (h0 : syn.getD 0 0 ≠ 0) :
    ldInitW syn 1 = .ok [gdivD (syn.getD 1 0) (syn.getD 0 0)] := by
  rw [LD.ldInitW_eq (Nat.le_refl 1) h h0]
  match syn, h with
  | a :: b :: rest, _ => rfl

end DM.Lemmas.RSTot
