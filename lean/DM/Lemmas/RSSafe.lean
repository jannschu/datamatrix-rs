import DM.Model.RSDec
import DM.Lemmas.GFLaws
/-
The elementary operations of the Reed–Solomon decoder model as values: `at'`, `div'`, `sub'`, `slice`,
`dot` and `dot (← slice …)` (a row `win` of the Hankel matrix of the syndromes) are `.ok` of a closed
form under hypotheses on lengths alone, and a loop whose body cannot fail on the states it meets is
a fold.  The equations of LDEq, ChienEq, BPEq and CorrectParts are built from these; whether a
function can panic, and every fact about bytes or the field, is read off its value.
Namespace: `RSTotal`.
-/
namespace DM.Lemmas.RSTotal
open DM.Model DM.Model.RS DM.Lemmas

theorem at'_ok {site : String} {l : List Nat} {i : Nat} (hi : i < l.length) :
    at' site l i = .ok (l.getD i 0) := by
  unfold at'
  rw [List.getD_eq_getElem?_getD, List.getElem?_eq_getElem hi]
  rfl

theorem forIn_eq_foldl {α β} (f : α → β → R (ForInStep β)) (g : β → α → β) (I : β → Prop) :
    ∀ (l : List α) (init : β), I init →
      (∀ a ∈ l, ∀ b, I b → f a b = .ok (.yield (g b a)) ∧ I (g b a)) →
      forIn l init f = .ok (l.foldl g init) ∧ I (l.foldl g init)
  | [], _, h0, _ => ⟨rfl, h0⟩
  | a :: l, init, h0, hstep => by
    obtain ⟨he, hI⟩ := hstep a List.mem_cons_self init h0
    rw [List.forIn_cons, he]
    exact forIn_eq_foldl f g I l (g init a) hI fun a' ha' => hstep a' (List.mem_cons_of_mem _ ha')

theorem forIn_eq_foldl' {α β} (f : α → β → R (ForInStep β)) (g : β → α → β) (l : List α)
    (init : β) (hstep : ∀ a ∈ l, ∀ b, f a b = .ok (.yield (g b a))) :
    forIn l init f = .ok (l.foldl g init) :=
  (forIn_eq_foldl f g (fun _ => True) l init trivial fun a ha b _ => ⟨hstep a ha b, trivial⟩).1

theorem foldl_range'_inv {β} (g : β → Nat → β) (I : Nat → β → Prop) :
    ∀ (n s : Nat) (init : β), I s init →
      (∀ k, s ≤ k → k < s + n → ∀ b, I k b → I (k + 1) (g b k)) →
      I (s + n) ((List.range' s n).foldl g init)
  | 0, _, _, h0, _ => h0
  | n + 1, s, init, h0, hstep => by
    rw [List.range'_succ, List.foldl_cons, show s + (n + 1) = s + 1 + n by omega]
    exact foldl_range'_inv g I n (s + 1) _ (hstep s (Nat.le_refl _) (by omega) _ h0)
      fun k h1 h2 => hstep k (by omega) (by omega)

theorem foldl_range_inv {β} (g : β → Nat → β) (I : Nat → β → Prop) (init : β) (h0 : I 0 init)
    (n : Nat) (hstep : ∀ k, k < n → ∀ b, I k b → I (k + 1) (g b k)) :
    I n ((List.range n).foldl g init) := by
  rw [List.range_eq_range']
  simpa using foldl_range'_inv g I n 0 init h0 fun k _ hk => hstep k (by omega)

theorem foldl_snoc_map {α} (h : α → Nat) (l : List α) (init : List Nat) :
    l.foldl (fun s a => s ++ [h a]) init = init ++ l.map h := by
  induction l generalizing init with
  | nil => simp
  | cons a l ih => rw [List.foldl_cons, ih]; simp

theorem length_foldl {α} (g : List Nat → α → List Nat) (h : ∀ s a, (g s a).length = s.length)
    (l : List α) (s : List Nat) : (l.foldl g s).length = s.length := by
  induction l generalizing s with
  | nil => rfl
  | cons a l ih => rw [List.foldl_cons, ih, h]

theorem forIn_test {α} (f : α → PUnit → R (ForInStep PUnit)) (c : α → Bool) (e : RErr) :
    ∀ l : List α, (∀ a ∈ l, f a ⟨⟩ = if c a then .error e else .ok (.yield ⟨⟩)) →
      forIn l PUnit.unit f = if l.any c then .error e else .ok ⟨⟩
  | [], _ => rfl
  | a :: l, h => by
    rw [List.forIn_cons, h a List.mem_cons_self, List.any_cons]
    cases c a with
    | true => rfl
    | false =>
      exact forIn_test f c e l fun a' ha' => h a' (List.mem_cons_of_mem _ ha')

theorem forIn_guard {α β} (f : α → β → R (ForInStep β)) (c : α → Bool) (e : RErr)
    (g : β → α → β) : ∀ (l : List α) (init : β),
      (∀ a ∈ l, ∀ b, f a b = if c a then .error e else .ok (.yield (g b a))) →
      forIn l init f = if l.any c then .error e else .ok (l.foldl g init)
  | [], _, _ => rfl
  | a :: l, init, h => by
    rw [List.forIn_cons, h a List.mem_cons_self, List.any_cons]
    cases c a with
    | true => rfl
    | false => exact forIn_guard f c e g l _ fun a' ha' => h a' (List.mem_cons_of_mem _ ha')

theorem filter_ge_range (n a : Nat) :
    (List.range n).filter (fun x => decide (x ≥ a)) = List.range' a (n - a) := by
  induction n with
  | zero => simp
  | succ n ih =>
    rw [List.range_succ, List.filter_append, ih]
    by_cases h : n ≥ a
    · rw [show n + 1 - a = (n - a) + 1 by omega, List.range'_concat]
      simp [h]
    · rw [show n + 1 - a = 0 by omega, show n - a = 0 by omega]
      simp [h]

theorem findSome_range' {γ} (p : Nat → Option γ) : ∀ n s,
    ((List.range' s n).findSome? p = none ∧ ∀ i, s ≤ i → i < s + n → p i = none) ∨
    ∃ m c, (List.range' s n).findSome? p = some c ∧ s ≤ m ∧ m < s + n ∧ p m = some c ∧
      ∀ i, s ≤ i → i < m → p i = none
  | 0, s => .inl ⟨rfl, fun i h1 h2 => absurd h2 (by omega)⟩
  | n + 1, s => by
    rw [List.range'_succ, List.findSome?_cons]
    cases hs : p s with
    | some c => exact .inr ⟨s, c, rfl, Nat.le_refl _, by omega, hs, fun i h1 h2 => absurd h2 (by omega)⟩
    | none =>
      have first : ∀ i, s ≤ i → i < s + 1 → p i = none := fun i h1 h2 => by
        rw [show i = s by omega]; exact hs
      rcases findSome_range' p n (s + 1) with ⟨h, hz⟩ | ⟨m, c, h, h1, h2, h3, hz⟩
      · refine .inl ⟨h, fun i h1 h2 => ?_⟩
        by_cases hi : i < s + 1
        · exact first i h1 hi
        · exact hz i (by omega) (by omega)
      · refine .inr ⟨m, c, h, by omega, by omega, h3, fun i h1 h2 => ?_⟩
        by_cases hi : i < s + 1
        · exact first i h1 hi
        · exact hz i (by omega) h2

theorem foldl_findSome {α γ} (p : α → Option γ) (l : List α) :
    ∀ found : Option γ, l.foldl (fun found a => if found.isNone then (p a).or found else found)
      found = found.or (l.findSome? p) := by
  induction l with
  | nil => intro found; cases found <;> rfl
  | cons a l ih =>
    intro found
    rw [List.foldl_cons, ih, List.findSome?_cons]
    cases found with
    | some c => rfl
    | none => cases p a <;> rfl

theorem zipIdx_swap (gam : List Nat) :
    gam.zipIdx.map (fun p => (p.2, p.1)) = (List.range gam.length).map (fun i => (i, gam.getD i 0)) := by
  apply List.ext_getElem?
  intro i
  simp only [List.getElem?_map, List.getElem?_zipIdx, Option.map_map, List.getD_eq_getElem?_getD]
  by_cases h : i < gam.length
  · rw [List.getElem?_range h, List.getElem?_eq_getElem h]
    simp [h]
  · rw [List.getElem?_eq_none (by omega), List.getElem?_eq_none (by simp only [List.length_range]; omega)]
    rfl

theorem ok_bind {α β} (a : α) (f : α → R β) : (Except.ok a >>= f) = f a := rfl

theorem sub'_ok {site : String} {a b : Nat} (h : b ≤ a) : sub' site a b = .ok (a - b) := by
  unfold sub'; rw [if_pos h]

def dotV (a b : List Nat) : Nat := (List.zipWith gmul a b).foldl gadd 0

/-- row `j` of the Hankel matrix of `syn` against `lam`, the way the decoder computes it:
`Σ_{i < lam.length} syn[j+i]·lam[i]` -/
def win (syn lam : List Nat) (j : Nat) : Nat := dotV ((syn.drop j).take lam.length) lam

theorem zipWith_take_left {α β γ} (f : α → β → γ) (l : List α) (b : List β) :
    List.zipWith f (l.take b.length) b = List.zipWith f l b := by
  induction l generalizing b with
  | nil => simp
  | cons x l ih =>
    cases b with
    | nil => simp
    | cons y b => simp only [List.length_cons, List.take_succ_cons, List.zipWith_cons_cons, ih]

/-- the row of `syn` from `j` on against `lam`, without the slice: the malfunction test computes it this way -/
theorem dotV_drop (syn lam : List Nat) (j : Nat) : dotV (syn.drop j) lam = win syn lam j := by
  unfold win dotV
  rw [zipWith_take_left]

theorem slice_ok {site : String} {l : List Nat} {a b : Nat} (ha : a ≤ b + 1) (hb : b < l.length) :
    slice site l a b = .ok ((l.drop a).take (b + 1 - a)) := by
  unfold slice
  rw [if_pos ⟨ha, hb⟩]

theorem dot_ok {a b : List Nat} (hl : a.length = b.length) : dot a b = .ok (dotV a b) := by
  unfold dot
  rw [if_neg (fun h => h hl)]
  rfl

theorem sliceDot_eq {β} {site : String} {syn l : List Nat} {a b : Nat} (f : Nat → R β)
    (hab : b + 1 = a + l.length) (hb : b < syn.length) :
    (slice site syn a b >>= fun s => dot s l >>= f) = f (win syn l a) := by
  rw [slice_ok (by omega) hb, ok_bind, show b + 1 - a = l.length by omega,
    dot_ok (by simp only [List.length_take, List.length_drop]; omega), ok_bind]
  rfl

theorem glog_lt (a : Nat) : glog a < 255 := by
  by_cases h : a < 256
  · exact log_lt a h
  · have : glog a = 0 := byteAt_zero_of_lt DM.Gen.LOGP 256 a LOGP_lt (by omega)
    omega

def gdivD (a b : Nat) : Nat := (gdiv a b).getD 0

theorem gdiv_eq_some {a b : Nat} (hb : b ≠ 0) : gdiv a b = some (gdivD a b) := by
  unfold gdivD gdiv
  rw [if_neg hb]
  split <;> rfl

theorem div'_ok {site : String} {a b : Nat} (hb : b ≠ 0) :
    div' site a b = .ok (gdivD a b) := by
  unfold div'
  rw [gdiv_eq_some hb]

theorem gdivD_ne_zero {a b : Nat} (ha : a ≠ 0) (hb : b ≠ 0) : gdivD a b ≠ 0 := by
  unfold gdivD gdiv
  rw [if_neg hb, if_neg ha]
  have h1 := glog_lt a
  have h2 := glog_lt b
  simp only [Option.getD_some]
  exact (alog_pos _ (by split <;> omega)).1

theorem gdivD_lt (a b : Nat) : gdivD a b < 256 := by
  unfold gdivD gdiv
  have h1 := glog_lt a
  have h2 := glog_lt b
  split
  · simp
  · split
    · simp
    · simp only [Option.getD_some]
      exact (alog_pos _ (by split <;> omega)).2

theorem alog_inj {i j : Nat} (hi : i < 255) (hj : j < 255) (h : alog i = alog j) : i = j := by
  rw [← log_alog i hi, ← log_alog j hj, h]

theorem gdivD_one_inj {a b : Nat} (ha : a < 256) (hb : b < 256) (ha0 : a ≠ 0) (hb0 : b ≠ 0)
    (h : gdivD 1 a = gdivD 1 b) : a = b := by
  unfold gdivD gdiv at h
  rw [if_neg ha0, if_neg hb0, if_neg (by decide), if_neg (by decide)] at h
  simp only [Option.getD_some, log_one] at h
  have h1 := glog_lt a
  have h2 := glog_lt b
  have := alog_inj (by split <;> omega) (by split <;> omega) h
  have hl : glog a = glog b := by
    split at this <;> split at this <;> omega
  rw [← alog_log a ha ha0, ← alog_log b hb hb0, hl]

end DM.Lemmas.RSTotal
