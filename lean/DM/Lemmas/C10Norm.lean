import DM.Lemmas.PlanRounds
/-!
Costs modulo 12 (used by `DM/Props/C10Ascii.lean`). Every cost the planner compares is a multiple of 12
twelfths except inside a group: an ASCII plan inside a digit pair costs 6 mod 12 (6 per announced digit still
to be read), an X12 plan inside a triple 8 or 4 mod 12 (8 per value), an X12 plan in its ASCII end a multiple
of 6 (`NormX`, `NormG`). That every live plan is like this is read off its history (`Lemmas/ReachNorm.lean`). The X12
clause also records that an ASCII end, once a character of it has been read, has at most one character left.
-/
namespace DM.Lemmas.C10Norm
open DM.Model.Plan DM.Lemmas.PlanStep

def NormX (p : X12P) : Prop :=
  match p.asciiEnd with
  | none => (p.cost + 4 * p.values) % 12 = 0 ∧ p.values < 3
  | some _ => p.values = 0 ∧ p.cost % 6 = 0 ∧ p.ctx.charsLeft ≤ 1

def NormG (g : GPlan) : Prop :=
  g.extra % 12 = 0 ∧
  match g.plan with
  | .ascii P => (P.cost + 6 * P.digitsAhead) % 12 = 0
  | .x12 p => NormX p
  | .base256 p => p.cost % 12 = 0
  | _ => True

theorem normX_of_normG {g : GPlan} {p : X12P} (hn : NormG g) (hp : g.plan = .x12 p) : NormX p := by
  have := hn.2
  rw [hp] at this
  exact this

theorem normG_of_mode {g : GPlan} (he : g.extra % 12 = 0)
    (hm : g.current = .c40 ∨ g.current = .text ∨ g.current = .edifact) : NormG g := by
  refine ⟨he, ?_⟩
  cases hp : g.plan <;> simp [GPlan.current, hp, PlanImpl.mode] at hm ⊢

/-- near the end of the data: an X12 plan at a triple boundary with at most two characters left stays at one, and a
step is unbeatable only in the ASCII end, which begins there -/
theorem x12Step_near_end {p p' : X12P} {r : StepResult} (h : x12Step p = .ok (some (p', r))) :
    (p.values = 0 → p.ctx.charsLeft ≤ 2 → p'.values = 0) ∧
    (r.unbeatable = true → p.ctx.charsLeft ≤ 2 ∨ p.asciiEnd ≠ none) := by
  rcases x12Step_some h with ⟨hm, rfl, rfl⟩ | ⟨-, hr⟩
  · refine ⟨fun hv _ => hv, fun _ => .inl ?_⟩
    simp only [Ctx.hasMore, decide_eq_false_iff_not] at hm
    unfold Ctx.charsLeft; omega
  · cases hr with
    | asc f ha => exact ⟨fun hv _ => hv, fun _ => .inr (ha ▸ Option.some_ne_none f)⟩
    | fire c0 hv ha h2 hE => exact ⟨fun _ _ => hv, fun _ => .inl h2⟩
    | nat hc ha hn => exact ⟨fun hv hcl => absurd ⟨hv, hcl⟩ hc, fun h' => Bool.noConfusion h'⟩

theorem b256SwitchCost_mod {p : B256P} (h : p.cost % 12 = 0) : b256SwitchCost p % 12 = 0 := by
  unfold b256SwitchCost; split <;> omega

end DM.Lemmas.C10Norm
