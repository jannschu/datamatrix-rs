import DM.Lemmas.SpecB256
import DM.Lemmas.SpecPure
/-
The pure Base 256 plan against the reference decoder (continues `SpecB256`, same namespace): what the encoder
writes (`run_b256_shape`), the decoder's final state in closed form (`b256Final`) and the whole run (`spec_run_b256`).
-/
namespace DM.Lemmas.SpecB256
open DM.Model DM.Lemmas DM.Lemmas.AsciiRT DM.Lemmas.SpecStep DM.Lemmas.SpecAscii DM.Lemmas.Complete DM.Spec.Stream
open DM.Spec.Build (randomize255)

open DM.Lemmas.EncRT DM.Lemmas.X12RT DM.Lemmas.B256Gen DM.Lemmas.MainRT DM.Lemmas.SpecPure in
theorem run_b256_shape (list : List Sym) (pre body cw : List Nat) (sym : Sym) (hb : ByteList body) (hne : body ≠ [])
    (h : Enc.run list pre body [(body.length, .base256), (0, .base256)] = .ok (cw, sym)) :
    ∃ toEnd L, L = pre.length + 1 + (b256Hdr body toEnd).length + body.length ∧
      cw.length = dataCw sym ∧ cw.take L = pre ++ [231] ++ randFrom (pre.length + 2) (b256Hdr body toEnd ++ body) ∧
      (toEnd = true → L = dataCw sym) ∧ (toEnd = false → body.length ≤ 1555) ∧ Pads.Padded cw L := by
  obtain ⟨s3, sE, k, he, hm, hsym, hpad⟩ := pure_run_start list pre body cw sym .base256 231 hne rfl h
  obtain ⟨k, hk⟩ : ∃ k, body.length = k + 1 := ⟨body.length - 1, by have := List.length_pos_iff.mpr hne; omega⟩
  rw [b256Encode_run k (entered list pre body .base256 231) (at_ := 0) rfl rfl (show 0 + (k + 1) = body.length - 0 by omega)
    (fun h => absurd h (Nat.lt_irrefl 0)), if_neg (Nat.lt_irrefl 0)] at he
  obtain ⟨s2, hw, hs3⟩ := EncStep.b256Finish_ok he
  have hrest : (entered list pre body .base256 231).rest.take (k + 1) = body := by
    simp only [Enc.St.rest, entered, List.drop_zero, ← hk, List.take_length]
  rw [hrest, show (entered list pre body .base256 231).cw.length = pre.length + 1 from List.length_append] at hw
  rw [hrest, if_neg (by simp [Enc.St.hasMore, entered, hk])] at hs3
  obtain ⟨toEnd, hs2, hfit, hmax⟩ := writeLength_gen _ s2 pre body (by simp [entered]) hb hne hw
  subst hs2 hs3
  rw [mainLoop_end _ _ _ (by simp [Enc.St.hasMore, Enc.St.setAscii, entered, hk])] at hm
  cases hm
  simp only [Enc.St.setAscii] at hsym hpad
  have hcwlen : (pre ++ [231] ++ randFrom (pre.length + 2) (b256Hdr body toEnd ++ body)).length =
      pre.length + 1 + (b256Hdr body toEnd).length + body.length := by
    simp [randFrom_length]; omega
  have hcap := SymbolList.fbe_some_ge list _ sym hsym
  obtain ⟨holen, htake, hp⟩ := pad_shape _ cw _ (dataCw sym) hcap (Or.inl rfl) hpad
  rw [hcwlen] at htake hp
  refine ⟨toEnd, _, rfl, holen, htake, ?_, hmax, hp⟩
  intro ht
  obtain ⟨S, f1, f2⟩ := (hfit ht).2
  cases Option.some.inj (f1.symm.trans hsym)
  rw [← hcwlen]
  exact f2.symm

def b256Final (i0 n : Nat) (body : List Nat) (padAt : Option Nat) : DM.Spec.Stream.St :=
  { i := n, out := body.toArray, trace := Array.replicate body.length .base256, latches := #[(i0, .base256)],
    padAt := padAt }

theorem spec_run_b256 (cwl pre body : List Nat) (toEnd : Bool) (hb : ByteList body) (L : Nat)
    (hL : L = pre.length + 1 + (b256Hdr body toEnd).length + body.length)
    (htake : cwl.take L = pre ++ [231] ++ randFrom (pre.length + 2) (b256Hdr body toEnd ++ body))
    (hend : toEnd = true → L = cwl.length) (hmax : toEnd = false → 1 ≤ body.length ∧ body.length ≤ 1555)
    (hp : Pads.Padded cwl L) :
    run cwl.toArray (3 * cwl.length + 4) { i := pre.length } =
      .ok (b256Final pre.length cwl.length body (if L = cwl.length then none else some L)) := by
  have ho : Occurs cwl.toArray pre.length (231 :: randFrom (pre.length + 2) (b256Hdr body toEnd ++ body)) := by
    apply occurs_of_take
    rw [List.length_cons, randFrom_length, List.length_append,
      show pre.length + ((b256Hdr body toEnd).length + body.length + 1) = L by omega, htake, List.append_assoc]
    rfl
  have hsteps := steps_b256 cwl.toArray { i := pre.length } body toEnd rfl hb ho (by
    cases toEnd with
    | true =>
      have := hend rfl
      rw [hL] at this
      simp only [↓reduceIte, List.size_toArray, ← this, b256Hdr, List.length_singleton]
    | false => exact hmax rfl)
  have hs1 : afterStretch ({ i := pre.length } : DM.Spec.Stream.St) (1 + (b256Hdr body toEnd).length + body.length) {} body
      .base256 .ascii = b256Final pre.length L body none := by
    simp [afterStretch, b256Final, hL, Nat.add_assoc]
  rw [hs1] at hsteps
  exact hsteps.finish_pad hp (fun _ => rfl) (by have := hp.le; omega)

end DM.Lemmas.SpecB256
