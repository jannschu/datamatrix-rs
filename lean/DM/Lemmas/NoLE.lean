import DM.Lemmas.PlanProv
/-
`SymbolListEmpty` is answered only for an empty symbol list: no function of the encoder model
below `run` can produce that error (C11's "if and only if").  This is the walk through the encoder
of `PlanProv` with the trivial predicate.
-/
namespace DM.Lemmas.NoLE
open DM.Model DM.Model.Enc DM.Lemmas.PlanProv

def NoLE {α : Type} (r : R α) : Prop := r ≠ .error .listEmpty

theorem nole_of_res {α : Type} {P : α → Prop} {r : R α} (h : EncStep.Res P r) : NoLE r :=
  fun hr => h.err hr rfl

theorem closed_true : Closed (fun _ => True) :=
  ⟨fun _ _ => trivial, fun _ _ _ _ _ => trivial, fun _ _ => trivial⟩

theorem nole_mainLoop (f : Nat) (s : St) (nw : Nat) : NoLE (Enc.mainLoop f s nw) :=
  nole_of_res (mainLoop_res closed_true f s nw trivial)

end DM.Lemmas.NoLE
