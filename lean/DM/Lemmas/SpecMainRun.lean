import DM.Lemmas.SpecMain
import DM.Lemmas.SpecPure
/-
The main loop over the invariant `SpecMain.SInv` (`mainLoop_SInvB`) and the whole run up to `decode`'s treatment of the
header (`run_specB`), over the step interface `StepB`.

Why not `ModeStep P Q .edifact`: `ModeStep P Q m` quantifies over *all* messages `body` behind a fixed
predicate `Q` of (plan, mode, pending latch). The EDIFACT encoder does not check its characters (it
masks them with `% 64`), so for every `Q` that admits one state in EDIFACT mode with data left,
`ModeStep P Q .edifact` is false (take a body with a byte outside 32‥94 there). The condition "the
characters from the current position on are EDIFACT characters" is a property of the whole encoder
state; `StepB` is `ModeStep` with such a state invariant `R` in place of `Q`.
Namespaces: `SpecMain` (`Final`, `run_of_sInv`), `SpecMainEdi`.
-/
namespace DM.Lemmas.SpecMain
open DM.Model DM.Lemmas DM.Lemmas.AsciiRT DM.Lemmas.SpecStep DM.Lemmas.SpecAscii DM.Lemmas.Complete
open DM.Lemmas.EncRT DM.Lemmas.MainRT DM.Spec.Stream

structure Final (P : Mode → Prop) (i0 : Nat) (body cw : List Nat) (sF : St) (L : Nat) : Prop where
  i : sF.i = cw.length
  out : sF.out.toList = body
  trlen : sF.trace.toList.length = body.length
  trP : ∀ m ∈ sF.trace.toList, P m
  latP : ∀ l ∈ sF.latches.toList, P l.2 ∧ l.2 ≠ .ascii ∧ i0 ≤ l.1 ∧ l.1 < L
  ecis : sF.ecis = #[]
  padAt : sF.padAt = if L = cw.length then none else some L

theorem run_of_sInv (P : Mode → Prop) (list : List Sym) (pre body cw : List Nat) (sym : Sym) (sE : Enc.St)
    (hinv : SInv P list pre.length pre body sE) (hmf : sE.hasMore = false)
    (hsym : firstBigEnough list sE.cw.length = some sym)
    (hpad : addPadding sE.cw (sE.mode == .ascii) (dataCw sym) = some cw) :
    cw.length = dataCw sym ∧ ∃ L sF, pre.length ≤ L ∧ L ≤ cw.length ∧ cw.take pre.length = pre ∧
      HeadOK (cw.drop pre.length) ∧ (L < cw.length → cw.getD L 0 = 129) ∧
      run cw.toArray (3 * cw.length + 4) { i := pre.length } = .ok sF ∧ Final P pre.length body cw sF L := by
  obtain ⟨room, lo, tr, lat, mi⟩ := hinv
  have hposl : sE.pos = body.length := by
    have := of_decide_eq_false hmf
    rw [mi.inp] at this
    have := mi.le
    omega
  have hcap := DM.Lemmas.SymbolList.fbe_some_ge list _ sym hsym
  have hsize : ∀ r, room = some r → dataCw sym = sE.cw.length + r := by
    intro r hr
    obtain ⟨_, S, hS, hc⟩ := mi.closing r hr
    rw [hposl, List.drop_length] at hS
    simp only [Enc.asciiSize, Nat.add_zero] at hS
    rw [hS] at hsym
    cases hsym
    exact hc
  have hmode : sE.mode = .ascii ∨ sE.cw.length = dataCw sym := by
    rcases mi.ctl with ⟨h0, _⟩ | hc
    · exact Or.inr (hsize 0 h0).symm
    · exact Or.inl (C40Gen.ascii_at_end hc mi.more hmf)
  obtain ⟨hlen, htake, hpd⟩ := SpecPure.pad_shape sE.cw cw _ _ hcap (hmode.imp (fun h => by rw [h]; rfl) id) hpad
  have hLle := hpd.le
  have h129 := hpd.first
  have hnext : ∀ x, cw[sE.cw.length]? = some x → x = 129 := by
    intro x hx
    have hlt : sE.cw.length < cw.length := (List.getElem?_eq_some_iff.mp hx).1
    have := h129 hlt
    rw [List.getD_eq_getElem?_getD, hx] at this
    exact this
  have ho : Occurs cw.toArray 0 sE.cw := by
    have := occurs_of_take cw [] sE.cw (by simpa using htake)
    simpa using this
  obtain ⟨k, sD, hk, hs, hat, hmD⟩ := mi.dec cw.toArray ho
    (by
      simp only [List.size_toArray, hlen]
      by_cases hl0 : lo = 0
      · omega
      · exact mi.low hl0 sE sym (Reach.done sE hmf) hsym)
    (fun r hr => ⟨by simp only [List.size_toArray, hlen, hsize r hr], by
      rw [List.getElem?_toArray]; intro hx; have := hnext _ hx; omega⟩)
  have hrun := hs.finish_pad (fuel := 3 * cw.length + 4) (by rw [hat.i]; exact hpd)
    (fun hlt => hmD.resolve_right (fun h => by have := hsize 0 h.1; rw [hat.i] at hlt; omega))
    (by have := mi.i0le; omega)
  have hXl : pre.length + (sE.cw.drop pre.length).length = sE.cw.length := by
    rw [List.length_drop]; have := mi.i0le; omega
  have hsplit : pre ++ sE.cw.drop pre.length = sE.cw := by
    conv => lhs; lhs; rw [← mi.pfx]
    exact List.take_append_drop _ _
  obtain ⟨hpfx, hhd⟩ := pfx_headOK (pre := pre) (X := sE.cw.drop pre.length) (cw := cw)
    (by rw [hXl, hsplit]; exact htake) mi.hd (by rw [hXl]; exact hpd)
  exact ⟨hlen, sE.cw.length, _, mi.i0le, hLle, hpfx, hhd, h129, hrun,
    ⟨rfl, by rw [hat.out, hposl]; simp, by rw [hat.trace]; exact mi.trlen.trans hposl,
      by rw [hat.trace]; exact mi.trP, by rw [hat.latches]; exact mi.latP, hat.ecis, by rw [hat.i, hat.padAt]⟩⟩

end DM.Lemmas.SpecMain

namespace DM.Lemmas.SpecMainEdi
open DM.Model DM.Lemmas DM.Lemmas.AsciiRT DM.Lemmas.SpecStep DM.Lemmas.SpecAscii DM.Lemmas.SpecB256 DM.Lemmas.Complete
open DM.Lemmas.EncRT DM.Lemmas.C40Gen DM.Lemmas.B256Gen DM.Lemmas.PlanProv DM.Lemmas.MainRT DM.Spec.Stream
open DM.Lemmas.SpecMain

def StepB (P : Mode → Prop) (list : List Sym) (i0 : Nat) (pre body : List Nat) (R : Enc.St → Prop) : Prop :=
  ∀ s s' : Enc.St, SInv P list i0 pre body s → R s → s.hasMore = true → Enc.encodeMode (latched s) = .ok s' →
    SInv P list i0 pre body s' ∧ R s'

theorem mainLoop_SInvB (P : Mode → Prop) (list : List Sym) (i0 : Nat) (pre body : List Nat) (R : Enc.St → Prop)
    (hstep : StepB P list i0 pre body R) :
    ∀ (f : Nat) (s : Enc.St) (k : Nat) (sE : Enc.St), Enc.mainLoop f s k = .ok sE → SInv P list i0 pre body s → R s →
      SInv P list i0 pre body sE ∧ sE.hasMore = false := by
  intro f s k sE h mi hr
  obtain ⟨⟨a, _⟩, c⟩ := mainLoop_ind (M := fun s => SInv P list i0 pre body s ∧ R s)
    (fun s s' m hmore he => hstep s s' m.1 m.2 hmore he) f s k sE h ⟨mi, hr⟩
  exact ⟨a, c⟩

theorem run_specB (P : Mode → Prop) (list : List Sym) (pre body cw : List Nat) (plan : List (Nat × Enc.EMode)) (sym : Sym)
    (R : Enc.St → Prop) (hstep : StepB P list pre.length pre body R)
    (hR0 : R { input := body, pos := 0, mode := .ascii, plan := plan, newMode := none, cw := pre, list := list })
    (h : Enc.run list pre body plan = .ok (cw, sym)) :
    cw.length = dataCw sym ∧ ∃ L sF, pre.length ≤ L ∧ L ≤ cw.length ∧ cw.take pre.length = pre ∧
      HeadOK (cw.drop pre.length) ∧ (L < cw.length → cw.getD L 0 = 129) ∧
      run cw.toArray (3 * cw.length + 4) { i := pre.length } = .ok sF ∧ Final P pre.length body cw sF L := by
  obtain ⟨sE, hmain, hsym, hpad⟩ := run_unfoldP list pre body cw plan sym h
  obtain ⟨hinv, hmf⟩ := mainLoop_SInvB P list pre.length pre body R hstep _ _ 0 sE hmain (sInv_init P list pre body plan) hR0
  exact run_of_sInv P list pre body cw sym sE hinv hmf hsym hpad

end DM.Lemmas.SpecMainEdi
