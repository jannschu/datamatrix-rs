import DM.Lemmas.DecSeg
import DM.Lemmas.Pack
import DM.Spec.Build
import DM.Lemmas.Bytes
/-
Decoder completeness, EDIFACT runs (complete quadruples; ended by the UNLATCH value, by the end of
the symbol, or by at most two trailing ASCII codewords).
Namespace: `Complete`.
-/
namespace DM.Lemmas.Complete
open DM.Model.Dec DM.Gen DM.Lemmas DM.Lemmas.DecRun DM.Spec.Build

theorem edi_char (x : Nat) (h : 32 ≤ x ∧ x ≤ 94) : x % 64 < 64 ∧ x % 64 ≠ 31 ∧ decEdifactChar (x % 64) = x := by
  unfold decEdifactChar
  refine ⟨by omega, by omega, ?_⟩
  split <;> omega

/-- three codewords hold four 6-bit values, as the decoder takes them apart -/
theorem edi_unpack (v1 v2 v3 v4 : Nat) (h1 : v1 < 64) (h2 : v2 < 64) (h3 : v3 < 64) (h4 : v4 < 64) :
    (v1 * 4 + v2 / 16) % 256 / 4 = v1 ∧
    (v1 * 4 + v2 / 16) % 256 % 4 * 16 + (v2 % 16 * 16 + v3 / 4) % 256 / 16 = v2 ∧
    (v2 % 16 * 16 + v3 / 4) % 256 % 16 * 4 + (v3 % 4 * 64 + v4) % 256 / 64 = v3 ∧
    (v3 % 4 * 64 + v4) % 256 % 64 = v4 := by
  obtain ⟨a1, a2⟩ := Pack.field 4 v1 (v2 / 16) (by omega) (by omega)
  obtain ⟨b1, b2⟩ := Pack.field 16 (v2 % 16) (v3 / 4) (by omega) (by omega)
  obtain ⟨c1, c2⟩ := Pack.field 64 (v3 % 4) v4 h4 (by omega)
  exact ⟨a1, by rw [a2, b1, Nat.div_add_mod'], by rw [b2, c1, Nat.div_add_mod'], c2⟩

theorem decodeEdifact_quad (f : Nat) (x1 x2 x3 x4 : Nat) (h1 : 32 ≤ x1 ∧ x1 ≤ 94) (h2 : 32 ≤ x2 ∧ x2 ≤ 94)
    (h3 : 32 ≤ x3 ∧ x3 ≤ 94) (h4 : 32 ≤ x4 ∧ x4 ≤ 94) (tail : List Nat) (e : Nat) (out : List Nat) :
    decodeEdifact (f + 1) (packEdifact [x1 % 64, x2 % 64, x3 % 64, x4 % 64] ++ tail) e out =
      decodeEdifact f tail (e + 3) (out ++ [x1, x2, x3, x4]) := by
  obtain ⟨l1, n1, d1⟩ := edi_char x1 h1
  obtain ⟨l2, n2, d2⟩ := edi_char x2 h2
  obtain ⟨l3, n3, d3⟩ := edi_char x3 h3
  obtain ⟨l4, n4, d4⟩ := edi_char x4 h4
  generalize x1 % 64 = v1 at *
  generalize x2 % 64 = v2 at *
  generalize x3 % 64 = v3 at *
  generalize x4 % 64 = v4 at *
  simp only [packEdifact, List.cons_append, List.nil_append]
  rw [decodeEdifact]
  obtain ⟨e1, e2, e3, e4⟩ := edi_unpack v1 v2 v3 v4 l1 l2 l3 l4
  simp only [e1, e2, e3, e4, n1, n2, n3, n4, ↓reduceIte, d1, d2, d3, d4]
  simp only [List.append_assoc, List.cons_append, List.nil_append]

theorem quads_rec {α : Type} {P : Nat → List α → Prop} (nil : P 0 [])
    (step : ∀ q a b c d t, t.length = 4 * q → P q t → P (q + 1) (a :: b :: c :: d :: t)) :
    ∀ (q : Nat) (l : List α), l.length = 4 * q → P q l
  | 0, l, h => by rw [List.length_eq_zero_iff.mp h]; exact nil
  | q + 1, a :: b :: c :: d :: t, h =>
    have ht : t.length = 4 * q := by simp only [List.length_cons] at h; omega
    step q a b c d t ht (quads_rec nil step q t ht)
  | _ + 1, [], h | _ + 1, [_], h | _ + 1, [_, _], h | _ + 1, [_, _, _], h => by
    simp only [List.length_cons, List.length_nil] at h; omega

theorem decodeEdifact_quads : ∀ (q : Nat) (b : List Nat), b.length = 4 * q → EdiChars b →
    ∀ (f : Nat) (tail : List Nat) (e : Nat) (out : List Nat),
      decodeEdifact (f + q) (packEdifact (b.map (· % 64)) ++ tail) e out =
        decodeEdifact f tail (e + 3 * q) (out ++ b) := by
  refine quads_rec (fun _ f tail e out => by simp [packEdifact]) fun q x1 x2 x3 x4 t _ ih hc f tail e out => ?_
  have hsplit : packEdifact ((x1 :: x2 :: x3 :: x4 :: t).map (· % 64)) =
      packEdifact [x1 % 64, x2 % 64, x3 % 64, x4 % 64] ++ packEdifact (t.map (· % 64)) := by
    simp [packEdifact]
  rw [hsplit, List.append_assoc, show f + (q + 1) = (f + q) + 1 from rfl,
    decodeEdifact_quad (f + q) x1 x2 x3 x4 (hc x1 (by simp)) (hc x2 (by simp)) (hc x3 (by simp)) (hc x4 (by simp)),
    ih fun w hw => hc w (by simp [hw])]
  simp only [List.append_assoc, List.cons_append, List.nil_append]
  congr 1
  omega

theorem packEdifact_length : ∀ (q : Nat) (v : List Nat), v.length = 4 * q → (packEdifact v).length = 3 * q :=
  quads_rec rfl fun q a b c d t _ ih => by
    simp only [packEdifact, List.length_cons, ih]
    omega

theorem packEdifact_append : ∀ (q : Nat) (v w : List Nat), v.length = 4 * q →
    packEdifact (v ++ w) = packEdifact v ++ packEdifact w := by
  intro q v w
  exact quads_rec (P := fun _ v => packEdifact (v ++ w) = packEdifact v ++ packEdifact w) (by simp [packEdifact])
    (fun q a b c d t _ ih => by simp only [List.cons_append, packEdifact, ih]) q v

/-- the codewords of the last, incomplete group: the remaining `r ≤ 3` characters, the UNLATCH
value and zero fill, cut after the codeword that holds the UNLATCH value -/
def ediLast : List Nat → List Nat
  | [] => [(31 * 4 + 0 / 16) % 256]
  | [x1] => [(x1 % 64 * 4 + 31 / 16) % 256, (31 % 16 * 16 + 0 / 4) % 256]
  | [x1, x2] => [(x1 % 64 * 4 + x2 % 64 / 16) % 256, (x2 % 64 % 16 * 16 + 31 / 4) % 256, (31 % 4 * 64 + 0) % 256]
  | [x1, x2, x3] =>
    [(x1 % 64 * 4 + x2 % 64 / 16) % 256, (x2 % 64 % 16 * 16 + x3 % 64 / 4) % 256, (x3 % 64 % 4 * 64 + 31) % 256]
  | _ => []

/-- the reference builder's expression for the last group -/
theorem ediLast_eq (br : List Nat) (hr : br.length ≤ 3) :
    (packEdifact (br.map (· % 64) ++ [31] ++ List.replicate ((4 - (br.length + 1) % 4) % 4) 0)).take
      ((6 * (br.length + 1) + 7) / 8) = ediLast br := by
  match br, hr with
  | [], _ => simp [ediLast, packEdifact, List.replicate]
  | [_], _ => simp [ediLast, packEdifact, List.replicate]
  | [_, _], _ => simp [ediLast, packEdifact]
  | [_, _, _], _ => simp [ediLast, packEdifact]
  | _ :: _ :: _ :: _ :: _, h => simp at h

/-- the group with the UNLATCH value: at least three codewords must be there to be looked at -/
theorem decodeEdifact_last (f : Nat) (br tail : List Nat) (hr : br.length ≤ 3) (hc : EdiChars br)
    (hlen : (ediLast br).length + tail.length ≥ 3) (e : Nat) (out : List Nat) :
    decodeEdifact (f + 1) (ediLast br ++ tail) e out = (tail, e + (ediLast br).length, out ++ br) := by
  match br, hr, hc with
  | [], _, _ =>
    simp only [ediLast, List.length_singleton] at hlen ⊢
    match tail, hlen with
    | b :: c :: t, _ => simp [decodeEdifact]
    | [], h => simp at h
    | [_], h => simp at h
  | [x1], _, hc =>
    obtain ⟨l1, n1, d1⟩ := edi_char x1 (hc x1 (by simp))
    simp only [ediLast, List.length_cons, List.length_nil] at hlen ⊢
    generalize x1 % 64 = v1 at *
    match tail, hlen with
    | c :: t, _ =>
      simp only [List.cons_append, List.nil_append]
      rw [decodeEdifact]
      obtain ⟨e1, e2, _, _⟩ := edi_unpack v1 31 0 0 l1 (by omega) (by omega) (by omega)
      simp only [e1, e2, n1, ↓reduceIte, d1]
    | [], h => simp at h
  | [x1, x2], _, hc =>
    obtain ⟨l1, n1, d1⟩ := edi_char x1 (hc x1 (by simp))
    obtain ⟨l2, n2, d2⟩ := edi_char x2 (hc x2 (by simp))
    simp only [ediLast, List.length_cons, List.length_nil]
    generalize x1 % 64 = v1 at *
    generalize x2 % 64 = v2 at *
    simp only [List.cons_append, List.nil_append]
    rw [decodeEdifact]
    obtain ⟨e1, e2, e3, _⟩ := edi_unpack v1 v2 31 0 l1 l2 (by omega) (by omega)
    simp only [e1, e2, e3, n1, n2, ↓reduceIte, d1, d2, List.append_assoc, List.cons_append, List.nil_append]
  | [x1, x2, x3], _, hc =>
    obtain ⟨l1, n1, d1⟩ := edi_char x1 (hc x1 (by simp))
    obtain ⟨l2, n2, d2⟩ := edi_char x2 (hc x2 (by simp))
    obtain ⟨l3, n3, d3⟩ := edi_char x3 (hc x3 (by simp))
    simp only [ediLast, List.length_cons, List.length_nil]
    generalize x1 % 64 = v1 at *
    generalize x2 % 64 = v2 at *
    generalize x3 % 64 = v3 at *
    simp only [List.cons_append, List.nil_append]
    rw [decodeEdifact]
    obtain ⟨e1, e2, e3, e4⟩ := edi_unpack v1 v2 v3 31 l1 l2 l3 (by omega)
    simp only [e1, e2, e3, e4, n1, n2, n3, ↓reduceIte, d1, d2, d3, List.append_assoc, List.cons_append, List.nil_append]
  | _ :: _ :: _ :: _ :: _, h, _ => simp at h

theorem decodeEdifact_short (f : Nat) (tail : List Nat) (h : tail.length ≤ 2) (e : Nat) (out : List Nat) :
    decodeEdifact f tail e out = (tail, e, out) := by
  cases f with
  | zero => rfl
  | succ f =>
    match tail, h with
    | [], _ => rfl
    | [_], _ => rfl
    | [_, _], _ => rfl
    | _ :: _ :: _ :: _, h => simp at h

def ediCw (b : List Nat) (un : Bool) : List Nat :=
  packEdifact ((b.take (4 * (b.length / 4))).map (· % 64)) ++ (if un then ediLast (b.drop (4 * (b.length / 4))) else [])

def EdiOK (b : List Nat) (un : Bool) (tail : List Nat) : Prop :=
  EdiChars b ∧
  (if un then (ediLast (b.drop (4 * (b.length / 4)))).length + tail.length ≥ 3
   else b.length % 4 = 0 ∧ tail.length ≤ 2)

theorem exists_quads (b : List Nat) : ∃ q bq br, b = bq ++ br ∧ bq.length = 4 * q ∧ br.length ≤ 3 :=
  ⟨b.length / 4, b.take (4 * (b.length / 4)), b.drop (4 * (b.length / 4)), (List.take_append_drop _ _).symm,
    by rw [List.length_take]; omega, by rw [List.length_drop]; omega⟩

theorem quads_cut {q : Nat} {bq br : List Nat} (hq : bq.length = 4 * q) (hr : br.length ≤ 3) :
    (bq ++ br).take (4 * ((bq ++ br).length / 4)) = bq ∧ (bq ++ br).drop (4 * ((bq ++ br).length / 4)) = br := by
  have : 4 * ((bq ++ br).length / 4) = bq.length := by rw [List.length_append]; omega
  rw [this, List.take_left, List.drop_left]
  exact ⟨rfl, rfl⟩

theorem ediCw_append {q : Nat} {bq br : List Nat} (hq : bq.length = 4 * q) (hr : br.length ≤ 3) (un : Bool) :
    ediCw (bq ++ br) un = packEdifact (bq.map (· % 64)) ++ (if un then ediLast br else []) := by
  unfold ediCw
  rw [(quads_cut hq hr).1, (quads_cut hq hr).2]

/-- the reference builder's EDIFACT item in the normal form used here -/
theorem ediEmit_eq (b : List Nat) (un : Bool) (hun : un = false → b.length % 4 = 0) :
    (if un then
      (packEdifact (b.map (· % 64) ++ [31] ++
        List.replicate ((4 - (b.map (· % 64) ++ [31]).length % 4) % 4) 0)).take ((6 * (b.map (· % 64) ++ [31]).length + 7) / 8)
     else packEdifact (b.map (· % 64))) = ediCw b un := by
  obtain ⟨q, bq, br, rfl, hlq, hr3⟩ := exists_quads b
  rw [ediCw_append hlq hr3]
  cases un with
  | false =>
    simp only [Bool.false_eq_true, ↓reduceIte, List.append_nil]
    have h0 := hun rfl
    rw [List.length_append] at h0
    rw [List.length_eq_zero_iff.mp (by omega : br.length = 0), List.append_nil]
  | true =>
    simp only [↓reduceIte]
    simp only [List.map_append, List.length_append, List.length_map, List.length_singleton, List.append_assoc]
    rw [packEdifact_append q (bq.map (· % 64)) _ (by simpa using hlq)]
    have hl3 : (packEdifact (bq.map (· % 64))).length = 3 * q := packEdifact_length q _ (by simpa using hlq)
    have hcnt : (6 * (bq.length + (br.length + 1)) + 7) / 8 = 3 * q + (6 * (br.length + 1) + 7) / 8 := by omega
    have hmod : (bq.length + (br.length + 1)) % 4 = (br.length + 1) % 4 := by omega
    rw [hcnt, hmod, List.take_append, hl3]
    simp only [Nat.add_sub_cancel_left]
    rw [List.take_of_length_le (by omega)]
    have := ediLast_eq br hr3
    simp only [List.append_assoc] at this
    rw [this]

theorem edifact_Seg (b : List Nat) (un : Bool) (e : Nat) : Seg e (240 :: ediCw b un) b (EdiOK b un) :=
  Seg.latched (m := .edifact) (r := fun l e out => .ok (decodeEdifact l.length l e out)) rfl (fun _ => rfl)
    (fun _ _ _ => rfl) fun tail h out => congrArg Except.ok <| by
  obtain ⟨q, bq, br, rfl, hlq, hr3⟩ := exists_quads b
  obtain ⟨hc, hcond⟩ := h
  rw [(quads_cut hlq hr3).2] at hcond
  rw [ediCw_append hlq hr3]
  have hcq : EdiChars bq := fun x hx => hc x (by simp [hx])
  have hcr : EdiChars br := fun x hx => hc x (by simp [hx])
  have hl3 : (packEdifact (bq.map (· % 64))).length = 3 * q := packEdifact_length q _ (by simpa using hlq)
  cases un with
  | true =>
    simp only [↓reduceIte] at hcond ⊢
    have hlen : (packEdifact (bq.map (· % 64)) ++ ediLast br ++ tail).length
        = ((ediLast br).length + tail.length - 1 + 2 * q) + 1 + q := by
      simp only [List.length_append, hl3]; omega
    rw [hlen, List.append_assoc, decodeEdifact_quads q bq hlq hcq, decodeEdifact_last _ br tail hr3 hcr hcond,
      List.length_append, hl3, List.append_assoc]
    congr 2
    omega
  | false =>
    simp only [Bool.false_eq_true, ↓reduceIte, List.append_nil] at hcond ⊢
    have hbr0 : br = [] := List.length_eq_zero_iff.mp (by have := hcond.1; rw [List.length_append] at this; omega)
    have hlen : (packEdifact (bq.map (· % 64)) ++ tail).length = (2 * q + tail.length) + q := by
      simp only [List.length_append, hl3]; omega
    rw [hlen, decodeEdifact_quads q bq hlq hcq, decodeEdifact_short _ tail hcond.2, hl3, hbr0, List.append_nil]

theorem seg_edifact (b : List Nat) (un : Bool) (tail : List Nat) (e : Nat) (out : List Nat) (ecis : List (Nat × Nat))
    (h : EdiOK b un tail) :
    decRun .ascii { rest := [240] ++ ediCw b un ++ tail, eaten := e, out := out, ecis := ecis } =
    decRun .ascii { rest := tail, eaten := e + (1 + (ediCw b un).length), out := out ++ b, ecis := ecis } := by
  exact ((edifact_Seg b un e).frame h out ecis).trans (by rw [List.length_cons, Nat.add_comm 1])

end DM.Lemmas.Complete
