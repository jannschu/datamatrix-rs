import DM.Lemmas.PlanRounds
import DM.Lemmas.PlanRunAscii
/-!
The potential "cost of finishing in ASCII" (used by `DM/Props/C10Ascii.lean`): for an ASCII plan `finA`
(`Lemmas/PlanRunAscii.lean`: cost so far + the cost of encoding the unread rest in ASCII), for a plan `g` of any mode
`phi data k g` (for another mode: the cost of leaving it now + the ASCII cost of the rest). One `step()` of an ASCII plan
keeps `phi`, at the end of the data it is the cost (`phi_step_ascii`, `phi_end_ascii`), so the plan that is ASCII from the
start ends with cost `12 * asciiSize data` (`round_pure`). `C10AB` carries `phi` through Base 256 and through pruning.
-/
namespace DM.Lemmas.C10Pot
open DM.Model DM.Model.Plan DM.Model.Enc DM.Lemmas.PlanInv DM.Lemmas.PlanLoop
open DM.Lemmas.PlanStep DM.Lemmas.PlanRounds

def phi (data : List Nat) (k : Nat) (g : GPlan) : Nat :=
  match g.plan with
  | .ascii P => g.extra + finA data k P
  | _ => g.switchCost.getD 0 + 12 * asciiSize (data.drop k)

theorem phi_start (body : List Nat) (list : List Sym) (w : Nat) :
    phi body 0 (CoupleReach.startPlan body list w) = 12 * asciiSize body := by
  simp [phi, CoupleReach.startPlan, Couple.ctxAt, newPlan, finA]

theorem phi_step_ascii {data : List Nat} {list : List Sym} {k : Nat} {g g' : GPlan} {r : StepResult}
    (hcore : Core data list k g.plan) (hcur : g.current = .ascii) (hs : g.step = .ok (some (g', r))) :
    g'.current = .ascii ∧ phi data (nxt data k) g' = phi data k g := by
  obtain ⟨hc, hk, hl⟩ := hcore
  obtain ⟨P, hp⟩ := hcur ▸ plan_of_current g
  rw [hp] at hc hl
  obtain ⟨hx1, _, P1, hs1, hp1⟩ := hp ▸ gstep_cases hs
  refine ⟨by simp [GPlan.current, hp1, PlanImpl.mode], ?_⟩
  simp only [phi, hp, hp1, hx1]
  obtain ⟨p', r', e1, _, _, e4, _⟩ := asciiStep_spec P hc hl
  rw [hs1] at e1
  simp only [Except.ok.injEq, Prod.mk.injEq] at e1
  by_cases hlt : k < data.length
  · have he : r.end = false := by rw [e1.2, e4]; simpa using hlt
    rw [nxt_lt hlt, finA_step P P1 r hc hl hs1 he]
  · obtain ⟨c1, c2⟩ := asciiStep_at_end P P1 r hc hl hlt hs1
    have hl' : P.digitsAhead ≤ digitsFrom data k := hl
    rw [nxt_end hlt, finA_end hlt hl', finA_end hlt (by rw [c2]; exact Nat.zero_le _), c1]

theorem phi_end_ascii {data : List Nat} {list : List Sym} {k : Nat} {g : GPlan}
    (hcore : Core data list k g.plan) (hcur : g.current = .ascii) (hk : ¬ k < data.length) :
    phi data k g = g.cost := by
  obtain ⟨hc, _, hl⟩ := hcore
  obtain ⟨P, hp⟩ := hcur ▸ plan_of_current g
  rw [hp] at hl
  simp only [phi, hp, GPlan.cost, finA_end hk hl]

/-- the invariant of a plan that has been ASCII from the start -/
def PureA (data : List Nat) (k : Nat) (g : GPlan) : Prop :=
  g.current = .ascii ∧ phi data k g = 12 * asciiSize data

theorem round_pure {data : List Nat} {list : List Sym} {modes k w : Nat} {plans cands live : List GPlan}
    (honly : ∀ m, enabledMode modes m = true → m = .ascii) (hI : ∀ g ∈ plans, PureA data k g)
    (R : Round data list modes k plans cands live) :
    RoundGoal data w (fun k plans => ∀ g ∈ plans, PureA data k g)
      (fun p c => ∀ q, p = some q → c = 12 * asciiSize data) k live := by
  have hpure : ∀ c ∈ cands, PureA data (nxt data k) c :=
    R.each hI (fun g _ _ hg hl hs => have ⟨h1, h2⟩ := phi_step_ascii hl.1 hg.1 hs; ⟨h1, h2.trans hg.2⟩) fun g _ _ m _ _ hl _ hch =>
      -- there is no other mode to switch to
      absurd ((honly _ hl.2.1).trans (honly m hch.enabled).symm) hch.ne
  refine ⟨?_, ?_, ?_⟩
  · intro _ p hp
    cases hp
  · intro _ hlt g hg
    have := hpure g (R.live_sub g hg)
    rwa [nxt_lt hlt] at this
  · intro hnk best hb q _
    have hbm := R.live_sub best (pickBest_mem live best hb)
    have h1 := (R.cands_live best hbm).1
    have h2 := hpure best hbm
    rw [nxt_end hnk] at h1 h2
    show ceil12 best.cost = 12 * asciiSize data
    rw [← phi_end_ascii h1 h2.1 hnk, h2.2]
    exact PlanStep.ceil12_mul _

end DM.Lemmas.C10Pot
