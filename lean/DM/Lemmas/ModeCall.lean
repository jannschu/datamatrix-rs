import DM.Lemmas.X12Gen
import DM.Lemmas.B256Gen
import DM.Lemmas.EdiGen
/-!
The call `encodeMode (latched s)` of the encoder's main loop with a latch pending, per mode, in terms of `s`: the latch
is written, the mode encoder runs from `s.pos` behind `s.cw`, and leaves what `TEnd` / `BEnd` / `EEnd` say.
(The call without a pending latch is `EncRT.ascii_call`, `X12RT.asciiRest_call`.)  `pending_call` puts them together: by what is
pending, which of these one iteration of the main loop is (`Call`).  `c40_call_end`, `x12_callP`, `edi_call` and
`B256Gen.b256_call` say nothing of a decoder: the frame against the reference decoder (`SpecMain*`) reads them its own way.
-/
namespace DM.Lemmas.ModeCall
open DM.Model DM.Model.Enc DM.Lemmas.Complete
open DM.Lemmas.EncRT DM.Lemmas.C40RT DM.Lemmas.C40Gen DM.Lemmas.B256Gen DM.Lemmas.EdiGen DM.Lemmas.MainRT

variable {list : List Sym} {body : List Nat} {s s' : St}

theorem c40_call_end (text : Bool) (hb : ByteList body) (hin : s.input = body) (hli : s.list = list) (hle : s.pos ≤ body.length)
    (hmode : s.mode = modeOf text) (hnm : s.newMode = some (latchOf text)) (hpl : PlanOKE body s.plan)
    (h : encodeMode (latched s) = .ok s') : End text list body s.pos s.cw s' ∧ Handed body (modeOf text) s' := by
  have hL := latched_spec hnm
  generalize latched s = sL at h hL
  have hLmode : sL.mode = modeOf text := hL.mode.trans hmode
  have henc : c40Encode text sL = .ok s' := by
    cases text
    · have hm' : sL.mode = .c40 := hLmode
      simpa only [encodeMode, hm'] using h
    · have hm' : sL.mode = .text := hLmode
      simpa only [encodeMode, hm'] using h
  exact c40Encode_gen text list body hb s.pos s.cw sL s' (hL.input.trans hin) (hL.list.trans hli) hL.pos hle hLmode hL.newMode
    hL.cw (by rw [hL.plan]; exact hpl) henc

theorem c40_call (text : Bool) (hb : ByteList body) (hin : s.input = body) (hli : s.list = list) (hle : s.pos ≤ body.length)
    (hmode : s.mode = modeOf text) (hnm : s.newMode = some (latchOf text)) (hpl : PlanOKE body s.plan)
    (h : encodeMode (latched s) = .ok s') : TEnd list body s.pos s.cw (latchOf text) s' :=
  c40_to_TEnd text list body s.pos s.cw s' (c40_call_end text hb hin hli hle hmode hnm hpl h)

/-- the X12 call, whatever reads the packed triples back (`Q`) -/
theorem x12_callP (Q : List Nat → List Nat → Prop)
    (hQ : ∀ (n : Nat) (b : List Nat), b.length = 3 * n → X12Native b → Q (DM.Spec.Build.packTriples (b.filterMap DM.Spec.Build.x12Val)) b)
    (hin : s.input = body) (hli : s.list = list) (hle : s.pos ≤ body.length)
    (hmode : s.mode = .x12) (hnm : s.newMode = some 238) (hpl : PlanOKE body s.plan)
    (h : encodeMode (latched s) = .ok s') : SpecX12.TEndQ Q list body s.pos s.cw 238 s' := by
  have hL := latched_spec hnm
  generalize latched s = sL at h hL
  simp only [encodeMode, hL.mode.trans hmode] at h
  exact x12Encode_genP Q hQ list body s.pos s.cw sL s' (hL.input.trans hin) (hL.list.trans hli) hL.pos hle hL.newMode
    hL.cw (by rw [hL.plan]; exact hpl) h

theorem x12_call (hin : s.input = body) (hli : s.list = list) (hle : s.pos ≤ body.length)
    (hmode : s.mode = .x12) (hnm : s.newMode = some 238) (hpl : PlanOKE body s.plan)
    (h : encodeMode (latched s) = .ok s') : TEnd list body s.pos s.cw 238 s' :=
  ⟨(x12_callP (SegDec 238) (fun n b hl hnat => segDec_iff.mpr fun un e => x12_Seg b un e n hl hnat) hin hli hle hmode hnm hpl h).out⟩

theorem base256_call (hb : ByteList body) (hin : s.input = body) (hli : s.list = list)
    (hmore : s.hasMore = true) (hmode : s.mode = .base256) (hnm : s.newMode = some 231) (hpl : PlanOKE body s.plan)
    (h : encodeMode (latched s) = .ok s') : BEnd list body s.pos s.cw s' := by
  obtain ⟨f, sB, hBplan, inv0, hBmore, hloop⟩ := b256_call hin hli hmore hmode hnm h
  exact b256Loop_gen list body hb s.pos s.cw f sB s' inv0 (by rw [hBplan]; exact hpl) (Or.inl hBmore) hloop

theorem edi_call (hin : s.input = body) (hli : s.list = list) (hle : s.pos ≤ body.length)
    (hmode : s.mode = .edifact) (hnm : s.newMode = some 240) (hpl : ∀ e ∈ s.plan, e.2 = .edifact)
    (hc : EdiChars (body.drop s.pos)) (h : encodeMode (latched s) = .ok s') : EEnd list body s.pos s.cw s' := by
  have hL := latched_spec hnm
  generalize latched s = sL at h hL
  have hLmode := hL.mode.trans hmode
  simp only [encodeMode, hLmode] at h
  exact edifactEncode_gen list body s.pos s.cw sL s' (hL.input.trans hin) (hL.list.trans hli) hL.pos hle hLmode hL.newMode
    hL.cw (by rw [hL.plan]; exact hpl) hc h

/-- the call of one iteration of the main loop while plan and pending latch are consistent (`Pending`, `PlanOKE`): by
what is pending, the ASCII loop from `s` or the latch and a run of that mode's encoder -/
inductive Call (list : List Sym) (body : List Nat) (s s' : St) : Prop
  | ascii (nm : s.newMode = none) (mode : s.mode = .ascii) (run : asciiLoop (s.charsLeft + 2) s = .ok s')
  | tend (l : Nat) (hl : l = 230 ∨ l = 239 ∨ l = 238) (nm : s.newMode = some l) (out : TEnd list body s.pos s.cw l s')
  | bend (nm : s.newMode = some 231) (out : BEnd list body s.pos s.cw s')
  | eend (mode : s.mode = .edifact) (nm : s.newMode = some 240) (chars : EdiChars (body.drop s.pos))
      (out : EEnd list body s.pos s.cw s')

theorem pending_call (hb : ByteList body) (hin : s.input = body) (hli : s.list = list)
    (hmore : s.hasMore = true) (pend : Pending s) (hpl : PlanOKE body s.plan) (h : encodeMode (latched s) = .ok s') :
    Call list body s s' := by
  have hle : s.pos ≤ body.length := hin ▸ Nat.le_of_lt (of_decide_eq_true hmore)
  rcases id pend with ⟨hmode, hnm⟩ | ⟨l, hlat, hnm, _⟩
  · exact .ascii hnm hmode (by rw [← ascii_call hnm hmode]; exact h)
  · cases hm : s.mode with
    | ascii => rw [hm] at hlat; cases hlat
    | c40 => rw [hm] at hlat; cases hlat; exact .tend 230 (by omega) hnm (c40_call false hb hin hli hle hm hnm hpl h)
    | text => rw [hm] at hlat; cases hlat; exact .tend 239 (by omega) hnm (c40_call true hb hin hli hle hm hnm hpl h)
    | x12 => rw [hm] at hlat; cases hlat; exact .tend 238 (by omega) hnm (x12_call hin hli hle hm hnm hpl h)
    | base256 => rw [hm] at hlat; cases hlat; exact .bend hnm (base256_call hb hin hli hmore hm hnm hpl h)
    | edifact =>
      rw [hm] at hlat; cases hlat
      obtain ⟨hallE, hchars⟩ := pend.edi hm hin hle
      exact .eend hm hnm hchars (edi_call hin hli hle hm hnm hallE hchars h)

end DM.Lemmas.ModeCall
