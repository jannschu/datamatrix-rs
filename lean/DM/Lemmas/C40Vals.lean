import DM.Lemmas.X12RT
import DM.Lemmas.C40Defs
import DM.Lemmas.CompleteC40
/-
C40 / Text at the level of values, over the per-byte facts of `C40Table`: the decoder's value automaton on
the values of a byte without the last, on shifts and on the fill values of `handle_end`; flushing complete
triples. What `C40Gen` rests on.
Namespace: `C40RT`.
-/
namespace DM.Lemmas.C40RT
open DM.Model.Enc DM.Model.Dec DM.Lemmas.DecRun DM.Lemmas.Complete
open DM.Lemmas.EncRT DM.Spec.Build

/-- Upper Shift (values 1, 30) and a shift value are consumed without output -/
theorem shifts_ok (text : Bool) (up sh : List Nat) (hup : up = [] ∨ up = [1, 30])
    (hsh : sh = [] ∨ sh = [0] ∨ sh = [1] ∨ sh = [2]) :
    ∃ st, ∀ out, c40Values (tabs text).1 (tabs text).2 (up ++ sh) st0 out = .ok (st, out) := by
  rcases hup with rfl | rfl <;> rcases hsh with rfl | rfl | rfl | rfl <;>
    exact ⟨_, fun out => by simp [c40Values, c40Value, st0]; rfl⟩

/-- all values of a byte but the last are consumed without output and without error (so a run may end
one value short: `handle_end` drops a last single value and re-encodes its character in ASCII). By the
shape of `c40Vals`: Upper Shift or not, then a basic-set value alone or a shift value and one more. -/
theorem init_ok (text : Bool) (b : Nat) :
    ∃ st, ∀ out, c40Values (tabs text).1 (tabs text).2 (c40Vals text b).dropLast st0 out = .ok (st, out) := by
  unfold c40Vals
  simp only []
  have hup : (if b ≥ 128 then [1, 30] else ([] : List Nat)) = [] ∨ (if b ≥ 128 then [1, 30] else ([] : List Nat)) = [1, 30] := by
    by_cases h : b ≥ 128 <;> simp [h]
  generalize (if b ≥ 128 then [1, 30] else ([] : List Nat)) = up at hup ⊢
  have hU : ∀ (sh : List Nat), sh = [] ∨ sh = [0] ∨ sh = [1] ∨ sh = [2] → ∀ a : Nat, ∃ st, ∀ out,
      c40Values (tabs text).1 (tabs text).2 (up ++ (sh ++ [a])).dropLast st0 out = .ok (st, out) := by
    intro sh hsh a
    rw [← List.append_assoc, List.dropLast_concat]
    exact shifts_ok text up sh hup hsh
  split
  · exact hU [] (by simp) _
  · split
    · exact hU [0] (by simp) _
    · split
      · exact hU [1] (by simp) _
      · split
        · exact hU [2] (by simp) _
        · -- no value at all (not the case for a byte)
          rcases hup with rfl | rfl
          · exact shifts_ok text [] [] (by simp) (by simp)
          · exact shifts_ok text [] [1] (by simp) (by simp)

theorem c40_vals_Seg (text : Bool) {V chars : List Nat} {st' : CSt} {n : Nat} (hl : V.length = 3 * n)
    (hlt : ∀ v ∈ V, v < 40) (hv : ∀ out, c40Values (tabs text).1 (tabs text).2 V st0 out = .ok (st', out ++ chars))
    (un : Bool) (e : Nat) :
    Seg e ((if text then 239 else 230) :: (packTriples V ++ (if un then [254] else []))) chars (TripleTail un) := by
  cases text
  · exact c40like_Seg (m := .c40) rfl (fun _ => rfl) hl hlt hv un e
  · exact c40like_Seg (m := .text) rfl (fun _ => rfl) hl hlt hv un e

theorem flush_spec : ∀ (f : Nat) (s : St) (buf : List Nat), buf.length < 3 * f + 3 → (∀ v ∈ buf, v < 40) →
    ∃ k, 3 * k ≤ buf.length ∧ buf.length - 3 * k < 3 ∧
      flushTriples f s buf = ({ s with cw := s.cw ++ packTriples (buf.take (3 * k)) }, buf.drop (3 * k)) := by
  intro f
  induction f with
  | zero =>
    intro s buf hl _
    exact ⟨0, by omega, by omega, by simp [flushTriples, packTriples]⟩
  | succ f ih =>
    intro s buf hl hlt
    match buf, hl, hlt with
    | a :: b :: c :: t, hl, hlt =>
      have ha := hlt a (by simp)
      have hb := hlt b (by simp)
      have hc := hlt c (by simp)
      obtain ⟨w1, w2, w3, w4, w5, w6, w7⟩ := writeThree_cw s a b c ha hb hc
      obtain ⟨k, k1, k2, k3⟩ := ih (writeThree s a b c) t (by simp only [List.length_cons] at hl; omega)
        (fun v hv => hlt v (by simp [hv]))
      refine ⟨k + 1, by simp only [List.length_cons]; omega, by simp only [List.length_cons]; omega, ?_⟩
      simp only [flushTriples]
      rw [k3]
      have h3 : 3 * (k + 1) = 3 * k + 3 := by omega
      rw [h3]
      simp only [List.take_succ_cons, List.drop_succ_cons, packTriples, Prod.mk.injEq, and_true]
      apply EncStep.St_ext <;> simp [w1, w2, w3, w4, w5, w6, w7, packTriples, List.append_assoc]
    | [], _, _ => exact ⟨0, by simp, by simp, by simp [flushTriples, packTriples]⟩
    | [_], _, _ => exact ⟨0, by simp, by simp, by simp [flushTriples, packTriples]⟩
    | [_, _], _, _ => exact ⟨0, by simp, by simp, by simp [flushTriples, packTriples]⟩

theorem vals_ne (text : Bool) (b : Nat) (hb : b < 256) : c40Vals text b ≠ [] := by
  intro h
  have := (c40_byte text b hb).1
  rw [h] at this
  simp [c40Values] at this

/-- the fill values of `handle_end` are consumed without output -/
theorem fill_ok (text : Bool) (pad : List Nat) (hp : pad = [] ∨ pad = [0] ∨ pad = [1] ∨ pad = [1, 30]) :
    ∃ st, ∀ out, c40Values (tabs text).1 (tabs text).2 pad st0 out = .ok (st, out) := by
  rcases hp with rfl | rfl | rfl | rfl
  · exact shifts_ok text [] [] (Or.inl rfl) (by simp)
  · exact shifts_ok text [] [0] (Or.inl rfl) (by simp)
  · exact shifts_ok text [] [1] (Or.inl rfl) (by simp)
  · exact shifts_ok text [1, 30] [] (Or.inr rfl) (by simp)

end DM.Lemmas.C40RT
