import DM.Lemmas.SpecMainSeg
import DM.Lemmas.SpecC40Gen
import DM.Lemmas.ModeCall
/-
The C40 / Text encoder preserves the main-loop invariant against the reference decoder
(`SpecMain.SInv`), under arbitrary plans: `ModeStep P Q .c40`, `ModeStep P Q .text` for every `Q`
that implies `C40Gen.PlanOKE` (no latch to a non-ASCII mode planned for the last four characters).
One development, generic in `text : Bool` (`stepC`): the decoder on a segment (`SpecC40Gen.dec_c40`), the outcome of
`c40::encode` (`ModeCall.c40_call_end`, read by `c40_to_TEndQ`), and the book-keeping of the invariant for a latched
segment (`SpecMainSeg.step_seg`).
-/
namespace DM.Lemmas.SpecMainC40
open DM.Model DM.Lemmas.SpecStep
open DM.Lemmas.EncRT DM.Lemmas.C40Gen DM.Lemmas.PlanProv DM.Spec.Stream
open DM.Lemmas.SpecMain DM.Lemmas.SpecMainSeg DM.Lemmas.SpecC40Gen
open DM.Lemmas.C40RT (latchOf modeOf)
open DM.Lemmas.SpecC40 (cmode)
open DM.Lemmas.SpecX12 (TEndQ)

theorem stepC_core (text : Bool) (P : Mode → Prop) (hP : P (cmode text)) (list : List Sym) (i0 : Nat) (pre body : List Nat)
    (s s' : Enc.St) (hb : ByteList body) (hinv : SInv P list i0 pre body s) (hpl : PlanOKE body s.plan)
    (hmore : s.hasMore = true) (hmode : s.mode = modeOf text) (h : Enc.encodeMode (latched s) = .ok s') :
    SInv P list i0 pre body s' := by
  obtain ⟨hnm, lo, tr, lat, mi⟩ :=
    sInv_latched hinv hmore (latch := latchOf text) (by rw [hmode]; cases text <;> rfl)
  exact step_seg mi (cmode text) (by cases text <;> simp [cmode]) hP (latchOf text) (by cases text <;> simp [latchOf])
    (SpecSegC40 text) (C40Tail text) (fun _ _ => .unlatch) (fun _ _ c hc hsz => .single c hc hsz) (fun _ _ hsz => .exact hsz)
    (fun hseg => dec_c40 text hseg) hmore h
    (c40_to_TEndQ text list body s.pos s.cw s' (ModeCall.c40_call_end text hb mi.inp mi.lst mi.le hmode hnm hpl h))

theorem stepC (text : Bool) (P : Mode → Prop) (Q : Key → Prop) (hQ : ∀ (body : List Nat) (k : Key), Q k → PlanOKE body k.1)
    (hP : P (cmode text)) : ModeStep P Q (modeOf text) := by
  intro list i0 pre body s s' hb hinv hq hmore hmode h
  exact stepC_core text P hP list i0 pre body s s' hb hinv (hQ body _ hq) hmore hmode h

theorem step_c40 (P : Mode → Prop) (Q : Key → Prop) (hQ : ∀ (body : List Nat) (k : Key), Q k → PlanOKE body k.1)
    (hP : P .c40) : ModeStep P Q .c40 := stepC false P Q hQ hP

theorem step_text (P : Mode → Prop) (Q : Key → Prop) (hQ : ∀ (body : List Nat) (k : Key), Q k → PlanOKE body k.1)
    (hP : P .text) : ModeStep P Q .text := stepC true P Q hQ hP

theorem step_c40_planOK (P : Mode → Prop) (hP : P .c40) : ModeStep P (fun k => PlanOK k.1) .c40 :=
  step_c40 P _ (fun body _ h => planOKE_of_planOK body h) hP

theorem step_text_planOK (P : Mode → Prop) (hP : P .text) : ModeStep P (fun k => PlanOK k.1) .text :=
  step_text P _ (fun body _ h => planOKE_of_planOK body h) hP

end DM.Lemmas.SpecMainC40
