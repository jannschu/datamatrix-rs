import DM.Lemmas.EncStep
import DM.Lemmas.EncRT
/-!
The X12 encoder: what a triple of values is written as (`writeThree_cw`, shared with C40 / Text), the loop of
`x12::encode` under any plan in closed form (`EncRT.X12Run`, `EncRT.x12Loop_gen`), and what `x12::encode` leaves when the
plan names no other mode (`x12Encode_stay`).  Last, the main loop's ASCII ending: under the plan "ASCII until the end"
the call of the main loop writes the rest of the message (`asciiRest_call`) and the loop stops; and its beginning under
the pure plan of another mode: the first call takes the switch at once (`run_pure_first`).
Namespaces: `EncRT`, `X12RT`.
-/
namespace DM.Lemmas.EncRT
open DM.Model DM.Model.Enc DM.Lemmas DM.Lemmas.AsciiRT DM.Lemmas.Complete

open DM.Spec.Build in
/-- `x12::enc` is the specification's value table; outside it the Rust code runs into `unreachable!` -/
theorem x12Enc_eq (ch : Nat) :
    x12Enc ch = (x12Val ch).elim (.error (.panic "unreachable x12 enc")) .ok := by
  simp only [x12Enc, x12Val, apply_ite (fun o : Option Nat => o.elim (Except.error (EErr.panic "unreachable x12 enc")) Except.ok)]
  rfl

open DM.Spec.Build in
theorem x12Enc_val (ch v : Nat) (h : x12Enc ch = .ok v) : x12Val ch = some v := by
  rw [x12Enc_eq] at h
  cases hx : x12Val ch with
  | none => rw [hx] at h; cases h
  | some w => rw [hx] at h; cases h; rfl
open DM.Spec.Build in
theorem writeThree_cw (s : St) (v1 v2 v3 : Nat) (h1 : v1 < 40) (h2 : v2 < 40) (h3 : v3 < 40) :
    (writeThree s v1 v2 v3).cw = s.cw ++ packTriples [v1, v2, v3] ∧ (writeThree s v1 v2 v3).pos = s.pos ∧
    (writeThree s v1 v2 v3).input = s.input ∧ (writeThree s v1 v2 v3).list = s.list ∧
    (writeThree s v1 v2 v3).plan = s.plan ∧ (writeThree s v1 v2 v3).mode = s.mode ∧
    (writeThree s v1 v2 v3).newMode = s.newMode := by
  have : (1600 * v1 + 40 * v2 + v3 + 1) % 65536 = 1600 * v1 + 40 * v2 + v3 + 1 := Nat.mod_eq_of_lt (by omega)
  simp [writeThree, St.push, packTriples, this]

open DM.Spec.Build in
theorem packTriples_append : ∀ (n : Nat) (v w : List Nat), v.length = 3 * n →
    packTriples (v ++ w) = packTriples v ++ packTriples w := by
  intro n
  induction n with
  | zero => intro v w h; have : v = [] := List.length_eq_zero_iff.mp (by omega); subst this; simp [packTriples]
  | succ n ih =>
    intro v w h
    match v, h with
    | a :: b :: c :: t, h =>
      simp only [List.cons_append, packTriples]
      rw [ih t w (by simp only [List.length_cons] at h; omega)]
    | [], h => simp at h
    | [_], h => simp at h; omega
    | [_, _], h => simp at h; omega

structure X12Run (s s' : St) (sw : Bool) (n : Nat) : Prop where
  pos : s'.pos = s.pos + 3 * n
  le : s.pos ≤ s.input.length → s'.pos ≤ s.input.length
  native : X12Native ((s.input.drop s.pos).take (3 * n))
  cw : s'.cw = s.cw ++ DM.Spec.Build.packTriples (((s.input.drop s.pos).take (3 * n)).filterMap DM.Spec.Build.x12Val)
  same : SameRun s s'
  plan : ∀ e ∈ s'.plan, e ∈ s.plan
  stay : sw = false → s'.charsLeft < 3 ∧ s'.mode = s.mode ∧ s'.newMode = s.newMode
  switch : sw = true → s'.mode ≠ s.mode ∧ s'.hasMore = true ∧ (∃ p, (p, s'.mode) ∈ s.plan) ∧
    s'.newMode = (match s'.mode.latch with | some l => some l | none => s.newMode)

open DM.Spec.Build in
theorem x12Loop_gen : ∀ (f : Nat) (s s' : St) (sw : Bool), x12Loop f s = .ok (s', sw) → ∃ n, X12Run s s' sw n := by
  intro f
  induction f with
  | zero => intro s s' sw h; cases h
  | succ f ih =>
    intro s s' sw h
    rw [EncStep.x12Loop_eq] at h
    split at h
    case h_2 hno =>
      cases h
      refine ⟨0, ⟨by simp, fun h => h, by intro x hx; simp at hx, by simp [packTriples], SameRun.refl _, fun e he => he,
        fun _ => ⟨?_, rfl, rfl⟩, by simp⟩⟩
      rw [← EncStep.rest_length]
      rcases hr : s.rest with _ | ⟨a, _ | ⟨b, _ | ⟨c, t⟩⟩⟩ <;> simp
      exact (hno a b c t hr).elim
    case h_1 a b c t hr =>
      split at h
      case h_2 | h_3 | h_4 => cases h
      rename_i v1 v2 v3 h1 h2 h3
      have hlt : s.pos + 2 < s.input.length := by
        have := congrArg List.length hr
        rw [EncStep.rest_length] at this
        simp only [List.length_cons, St.charsLeft] at this
        omega
      have hv1 := x12Enc_val a v1 h1
      have hv2 := x12Enc_val b v2 h2
      have hv3 := x12Enc_val c v3 h3
      have l1 := (x12Val_lt a v1 hv1).1
      have l2 := (x12Val_lt b v2 hv2).1
      have l3 := (x12Val_lt c v3 hv3).1
      obtain ⟨w1, w2, w3, w4, w5, w6, w7⟩ := writeThree_cw { s with pos := s.pos + 3 } v1 v2 v3 l1 l2 l3
      have htake3 : (s.input.drop s.pos).take 3 = [a, b, c] := by
        have : s.input.drop s.pos = a :: b :: c :: t := hr
        rw [this]; rfl
      have hnat3 : X12Native [a, b, c] := by
        intro x hx
        simp only [List.mem_cons, List.not_mem_nil, or_false] at hx
        rcases hx with rfl | rfl | rfl
        · rw [hv1]; rfl
        · rw [hv2]; rfl
        · rw [hv3]; rfl
      have hfm3 : [a, b, c].filterMap x12Val = [v1, v2, v3] := by simp [hv1, hv2, hv3]
      generalize hW : writeThree { s with pos := s.pos + 3 } v1 v2 v3 = sW at h w1 w2 w3 w4 w5 w6 w7
      dsimp only at w1 w2 w3 w4 w5 w6 w7
      rcases EncStep.onSwitch_ok h with ⟨pl, hpl, h⟩ | ⟨m, pl, hpl, hpos, hne, h⟩
      · have hsub : ∀ e ∈ pl, e ∈ s.plan := fun e he => by
          rw [← w5]
          rcases hpl with rfl | hpl
          · exact he
          · rw [hpl]; exact List.mem_cons_of_mem _ he
        obtain ⟨n, r⟩ := ih _ s' sw h
        have hsplit : (s.input.drop s.pos).take (3 * (n + 1)) = [a, b, c] ++ (sW.input.drop sW.pos).take (3 * n) := by
          rw [w3, w2, ← htake3, show 3 * (n + 1) = 3 + 3 * n by omega, List.take_add, List.drop_drop]
        refine ⟨n + 1, ⟨by rw [r.pos]; simp only [w2]; omega, fun hle => by rw [← w3]; exact r.le (by simp only [w3, w2]; omega), ?_, ?_,
          ⟨r.same.1.trans w3, r.same.2.trans w4⟩, fun e he => hsub e (r.plan e he),
          fun hs => by obtain ⟨a1, a2, a3⟩ := r.stay hs; exact ⟨a1, by rw [a2, w6], by rw [a3, w7]⟩,
          fun hs => ?_⟩⟩
        · rw [hsplit]
          intro x hx
          rcases List.mem_append.mp hx with hx | hx
          · exact hnat3 x hx
          · exact r.native x hx
        · rw [r.cw, w1, hsplit, List.filterMap_append, hfm3, packTriples_append 1 [v1, v2, v3] _ rfl, List.append_assoc]
        · obtain ⟨a1, a2, ⟨p, hp⟩, a4⟩ := r.switch hs
          exact ⟨by rw [← w6]; exact a1, a2, ⟨p, hsub _ hp⟩, by rw [a4, w7]⟩
      · simp only [Except.ok.injEq, Prod.mk.injEq] at h
        obtain ⟨rfl, rfl⟩ := h
        exact ⟨1, ⟨w2, fun _ => by rw [w2]; omega, by rw [htake3]; exact hnat3,
          by rw [w1, htake3, hfm3], ⟨w3, w4⟩, fun e he => by rw [← w5, hpl]; exact List.mem_cons_of_mem _ he,
          nofun, fun _ => ⟨by rw [← w6]; exact hne, (EncStep.hasMore_charsLeft _).mpr hpos,
            ⟨_, by rw [← w5, hpl]; exact List.mem_cons_self ..⟩, by dsimp only; rw [w7]; rfl⟩⟩⟩

end DM.Lemmas.EncRT

namespace DM.Lemmas.X12RT
open DM.Model DM.Model.Enc DM.Lemmas.AsciiRT
open DM.Lemmas.EncRT

theorem x12Encode_stay {sL s3 : St} (hplan : ∀ e ∈ sL.plan, e.2 = sL.mode) (h : x12Encode sL = .ok s3) :
    sL.input.length < s3.pos + 3 ∧ s3.newMode = sL.newMode ∧
      ((s3.mode = .ascii ∧ s3.plan = [(0, .ascii)]) ∨ (s3.mode = sL.mode ∧ s3.hasMore = false)) := by
  obtain ⟨s2, sw, hl, hs⟩ := EncStep.x12Encode_ok h
  obtain ⟨n, run⟩ := x12Loop_gen _ sL s2 sw hl
  have hsw : sw = false := by
    cases sw with
    | false => rfl
    | true =>
      obtain ⟨a1, _, ⟨p, hp⟩, _⟩ := run.switch rfl
      exact absurd (hplan _ hp) a1
  subst hsw
  obtain ⟨a1, a2, a3⟩ := run.stay rfl
  have hnear : sL.input.length < s2.pos + 3 := by
    rw [St.charsLeft, run.same.1] at a1
    omega
  rcases hs with ⟨_, _, _, rfl⟩ | rfl | ⟨h1, _, rfl⟩
  · exact ⟨hnear, a3, .inl ⟨rfl, rfl⟩⟩
  · exact ⟨hnear, a3, .inl ⟨rfl, rfl⟩⟩
  · exact ⟨hnear, a3, .inr ⟨a2, h1⟩⟩

theorem asciiRest_call {s s' : St} (hnm : s.newMode = none) (hmode : s.mode = .ascii) (hplan : s.plan = [(0, .ascii)])
    (hle : s.pos ≤ s.input.length) (h : encodeMode (latched s) = .ok s') :
    s' = { s with pos := s.input.length, cw := s.cw ++ asciiEnc s.rest } := by
  rw [ascii_call hnm hmode, asciiLoop_until_end _ s hplan hle (by omega)] at h
  exact (Except.ok.inj h).symm

theorem mainLoop_ascii_rest (f k : Nat) (s sE : St) (hp : s.plan = [(0, .ascii)]) (hm : s.mode = .ascii)
    (hn : s.newMode = none) (hpos : s.pos ≤ s.input.length) (h : Enc.mainLoop f s k = .ok sE) :
    sE = { s with pos := s.input.length, cw := s.cw ++ asciiEnc s.rest } := by
  cases f with
  | zero => cases h
  | succ f =>
    by_cases hmore : s.hasMore = true
    · obtain ⟨s4, k3, he3, hm3⟩ := mainLoop_step f s sE k h hmore
      cases asciiRest_call hn hm hp hpos he3
      cases f with
      | zero => cases hm3
      | succ f =>
        rw [mainLoop_end _ _ _ (by simp [St.hasMore])] at hm3
        cases hm3
        rfl
    · have hmf : s.hasMore = false := by simpa using hmore
      rw [mainLoop_end _ _ _ hmf] at h
      cases h
      have hlen : s.input.length = s.pos := by have := of_decide_eq_false hmf; omega
      simp [EncStep.rest_nil s (by omega), asciiEnc, hlen]

theorem run_pure_first {list : List Sym} {pre body cw : List Nat} {sym : Sym} {m : EMode} {c : Nat} (hne : body ≠ [])
    (hc : m.latch = some c) (h : run list pre body [(body.length, m), (0, m)] = .ok (cw, sym)) :
    ∃ sE k, Enc.mainLoop (2 * body.length + 7)
        { input := body, pos := 0, mode := m, plan := [(0, m)], newMode := some c, cw := pre, list := list } k = .ok sE ∧
      firstBigEnough list sE.cw.length = some sym ∧ addPadding sE.cw (sE.mode == .ascii) (dataCw sym) = some cw := by
  obtain ⟨sE, hmain, hsym, hpad⟩ := run_unfoldP list pre body cw _ sym h
  have hlen : 0 < body.length := List.length_pos_iff.mpr hne
  obtain ⟨s1, k1, he1, hm1⟩ := mainLoop_step (2 * body.length + 7) _ sE 0 hmain (by simp [St.hasMore, hlen])
  simp only [latched, encodeMode] at he1
  rw [asciiLoop_latch_first m c hc list pre body hne [(0, m)] _] at he1
  cases he1
  exact ⟨sE, k1, hm1, hsym, hpad⟩

end DM.Lemmas.X12RT
