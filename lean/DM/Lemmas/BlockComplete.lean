import DM.Lemmas.LDReach
import DM.Lemmas.ChienSpec
import DM.Lemmas.CorrectParts
/-
`correctBlock` on the syndromes of an error pattern with `1 ≤ ν ≤ t` errors inside the block:
it answers Ok (`correctBlock_ok`). The locator comes from `LDReach.levinsonDurbin_locator`, the Chien search
finds its `ν` inverse roots, the malfunction test passes, and the inverted roots are locations inside
the block: the three tests of `RSTotal.correctV_ok_iff`. What it answers is not needed: soundness of
`decodeBlock` and the distance of the code decide the block (`C03.decodeBlock_complete`).
-/
namespace DM.Lemmas.BlockComplete
open DM.Model DM.Model.RS DM.Lemmas.RSTotal DM.Lemmas.RSTot DM.Lemmas.Locator
open DM.Lemmas.LDReach

theorem X_ne_zero (p : ℕ) : X p ≠ 0 := alpha_pow_ne_zero p

theorem X_eq_alog (p : ℕ) (hp : p < 255) : X p = GF.ofNat (alog p) := (ofNat_alog p hp).symm

theorem gdivD_of_inv (r p : ℕ) (h1 : r < 256) (h2 : r ≠ 0) (hp : p < 255)
    (hx : X p = (GF.ofNat r)⁻¹) : gdivD 1 r = alog p := by
  apply ofNat_inj (gdivD_lt _ _) (alog_pos p hp).2
  rw [ofNat_gdivD (by decide) h1 h2, ofNat_one, one_div, ← hx, X_eq_alog p hp]

variable {syn : List Nat} {I : Finset ℕ} {E : ℕ → GF}

section chien
variable (pat : Pattern syn I E)
include pat

theorem syndromes_not_all_zero : ¬ (syn.all (· == 0) = true) := by
  intro hall
  obtain ⟨j, hj, hjne⟩ := first_nonzero I E X pat.inj pat.x0 pat.val pat.ne
  have hjl : j < syn.length :=
    lt_of_lt_of_le hj (le_trans (Nat.le_mul_of_pos_left _ Nat.two_pos) pat.card)
  apply hjne
  rw [← pat.synd j hjl]
  have := List.all_eq_true.mp hall _ (List.getElem_mem hjl)
  unfold gF
  rw [← List.getElem_eq_getD (h := hjl) 0, beq_iff_eq.mp this]
  rfl

omit pat in
theorem chien_finds_locators (lam : List Nat) (hlen : lam.length = I.card + 1) (hb : Bytes lam)
    (hlam : ∀ i, i ≤ I.card → gF lam i = (locPoly I X).coeff i) :
    ∀ r, r ∈ chienRoots lam ↔ (r < 256 ∧ r ≠ 0 ∧ ∃ p ∈ I, X p = (GF.ofNat r)⁻¹) := by
  -- read as a polynomial, `lam` is the reversed locator
  have key : ∀ y : GF, y ≠ 0 → (evalH (toG lam) y = 0 ↔ ∃ p ∈ I, X p = y⁻¹) := by
    intro y hy
    rw [evalH_toG_reflect lam I.card hlen y hy,
      Finset.sum_congr rfl fun i hi => by
        rw [show GF.ofNat (lam.getD i 0) = gF lam i from rfl, hlam i (Nat.le_of_lt_succ (Finset.mem_range.mp hi))],
      locPoly_eval_sum, mul_eq_zero, locPoly_eval_eq_zero_iff]
    exact or_iff_right (pow_ne_zero _ hy)
  -- its constant term is the leading coefficient `1` of the locator
  have hlast : lam.getLast? ≠ some 0 := by
    intro h
    have h1 := hlam I.card (le_refl _)
    rw [List.getLast?_eq_getElem?, hlen, Nat.add_sub_cancel] at h
    rw [locPoly_coeff_card, gF, List.getD_eq_getElem?_getD, h] at h1
    exact zero_ne_one h1
  have hne : lam ≠ [] := fun h => by rw [h] at hlen; exact nomatch hlen
  intro r
  rw [ChienSpec.mem_chienRoots_iff lam hb hne hlast r]
  exact and_congr_right fun h1 => and_congr_right fun h2 => key _ (LD.ofNat_ne_zero h1 h2)

theorem root_positions (roots : List Nat) (hnd : roots.Nodup)
    (hmem : ∀ r, r ∈ roots ↔ (r < 256 ∧ r ≠ 0 ∧ ∃ p ∈ I, X p = (GF.ofNat r)⁻¹)) :
    ∃ ps : List ℕ, ps.Nodup ∧ (∀ p, p ∈ ps ↔ p ∈ I) ∧ roots.map (gdivD 1) = ps.map alog := by
  have hloc : ∀ r ∈ roots, glog (gdivD 1 r) ∈ I ∧ gdivD 1 r = alog (glog (gdivD 1 r)) := by
    intro r hr
    obtain ⟨h1, h2, p, hp, hx⟩ := (hmem r).mp hr
    rw [gdivD_of_inv r p h1 h2 (pat.pos p hp) hx, log_alog p (pat.pos p hp)]
    exact ⟨hp, rfl⟩
  refine ⟨roots.map fun r => glog (gdivD 1 r), hnd.map_on ?_, fun p => ?_, ?_⟩
  · intro r hr r' hr' h
    have e := (hloc r hr).2
    rw [h, ← (hloc r' hr').2] at e
    obtain ⟨a1, a2, _⟩ := (hmem r).mp hr
    obtain ⟨b1, b2, _⟩ := (hmem r').mp hr'
    exact gdivD_one_inj a1 b1 a2 b2 e
  · rw [List.mem_map]
    constructor
    · rintro ⟨r, hr, rfl⟩
      exact (hloc r hr).1
    · -- the root belonging to `p` is the byte of `(X p)⁻¹`
      intro hp
      have hv : ((X p)⁻¹).val ≠ 0 := fun h0 => inv_ne_zero (X_ne_zero p) (GF.ext h0)
      have hx : X p = (GF.ofNat ((X p)⁻¹).val)⁻¹ := by
        rw [GF.ext (GF.ofNat_val ((X p)⁻¹).lt), inv_inv]
      refine ⟨_, (hmem _).mpr ⟨((X p)⁻¹).lt, hv, p, hp, hx⟩, ?_⟩
      rw [gdivD_of_inv _ p ((X p)⁻¹).lt hv (pat.pos p hp) hx, log_alog p (pat.pos p hp)]
  · rw [List.map_map]
    exact List.map_congr_left fun r hr => (hloc r hr).2

end chien

section block
variable (pat : Pattern syn I E)
include pat

theorem correctBlock_ok (dataB errB : List Nat) (hpn : ∀ p ∈ I, p < dataB.length + errB.length) :
    ∃ p, correctBlock dataB errB syn.length syn = .ok p := by
  have hcard := pat.card
  have hpos := pat.card_pos
  obtain ⟨lam, hLDeq, hlen, hb, hlam⟩ := levinsonDurbin_locator pat
  have hmem := chien_finds_locators lam hlen hb hlam
  obtain ⟨ps, hpnd, hps, hlocs⟩ := root_positions pat _ (ChienSpec.chienRoots_nodup lam) hmem
  have hpl : ps.length = I.card := by
    classical
    rw [← List.toFinset_card_of_nodup hpnd]
    exact congrArg _ (Finset.ext fun p => by rw [List.mem_toFinset, hps])
  have hrl : (chienRoots lam).length = ps.length := by simpa using congrArg List.length hlocs
  have hhead : (chienRoots lam).head? ≠ some 0 := fun h =>
    ((hmem 0).mp (List.mem_of_mem_head? h)).2.1 rfl
  have h255 : ∀ p ∈ ps, p < 255 := fun p hp => pat.pos p ((hps p).mp hp)
  obtain ⟨w, rfl, hw1, hwt⟩ := Safe_val (levinsonDurbin_safe syn) hLDeq
  rw [List.length_append, List.length_singleton, Nat.add_right_cancel_iff] at hlen
  rw [correctBlock_eq dataB errB syn.length syn w rfl hLDeq hw1 hwt]
  refine ⟨_, correctV_ok_iff.2 ⟨⟨by rw [hrl, hpl, hlen], hhead⟩, fun j _ hj => ?_, ?_, rfl⟩⟩
  · exact locator_windows pat (w ++ [1]) (by rw [List.length_append, hlen]; rfl) hb hlam j
      (by rw [List.length_append, List.length_singleton]; omega)
  · unfold corrPairs
    rw [hlocs]
    rintro ⟨c, v⟩ hpr
    obtain ⟨p, hp, rfl⟩ := List.mem_map.mp (List.of_mem_zip hpr).1
    rw [log_alog p (h255 p hp)]
    exact hpn p ((hps p).mp hp)

end block

end DM.Lemmas.BlockComplete
