import DM.Lemmas.MainRT
import DM.Lemmas.PlanProv
/-!
The segment structure of the encoder's output (C13 / C18, encoder side).

Along a run of the encoder model the codewords split into segments, one per call of a mode
encoder: a stretch of ASCII codewords, or the latch of a non-ASCII mode followed by what that
mode's encoder wrote.  At the start of every segment the decoder model, run on the stream so far
followed by a legal continuation, is at the top of its ASCII loop and has produced exactly the
characters encoded so far (`EncRT.Sync`); inside an ASCII segment no codeword is a latch; the
latch that opens a non-ASCII segment is the latch of a mode the plan names (`PlanProv.PV`).
-/
namespace DM.Lemmas.Trace
open DM.Model DM.Model.Enc DM.Model.Dec DM.Gen DM.Lemmas DM.Lemmas.DecRun DM.Lemmas.AsciiRT DM.Lemmas.Complete
open DM.Lemmas.EncRT DM.Lemmas.X12RT DM.Lemmas.EdiRT DM.Lemmas.C40RT DM.Lemmas.C40Gen DM.Lemmas.B256Gen
open DM.Lemmas.MainRT DM.Lemmas.PlanProv DM.Lemmas.ModeCall
open DM.Spec.Build

/-- codewords the ASCII encoder can write: character + 1, digit pair, upper shift -/
def AsciiCw (c : Nat) : Prop := c ≤ 229 ∨ c = 235

theorem asciiCw_enc (l : List Nat) (hb : ByteList l) : ∀ c ∈ asciiEnc l, AsciiCw c := by
  intro c hc
  have := asciiEnc_range l hb c hc
  unfold AsciiCw
  omega

/-- what may follow a segment: any legal continuation, or (`b`, behind a run that ended without UNLATCH) at most one more codeword -/
def TailB (b : Bool) (t : List Nat) : Prop := (b = true → t.length ≤ 1) ∧ NiceTail t

/-- one call of a mode encoder from `s`: behind the pending latch it appends `X`, ASCII codewords only if no latch was
pending; before it the decoder stands in ASCII context at `s.pos`, for any legal continuation or (`b`: the call that
writes the last characters of a run ending without UNLATCH) for at most one more codeword -/
structure Shape (pre out0 : List Nat) (list : List Sym) (body : List Nat) (s s' : St) (X : List Nat) (b : Bool) : Prop where
  cw : s'.cw = (latched s).cw ++ X
  ascii : s.newMode = none → ∀ c ∈ X, AsciiCw c
  sync : SyncT (TailB b) pre out0 body s.cw s.pos
  last : b = true → s.newMode = none ∧ X.length ≤ 1 ∧ s'.hasMore = false ∧ ExactFit list s'.cw.length

theorem cw_tend {list : List Sym} {body : List Nat} {latch : Nat} {s s' : St}
    (hn : s.newMode = some latch) (h : TEnd list body s.pos s.cw latch s') : ∃ X, s'.cw = (latched s).cw ++ X := by
  obtain ⟨X, p, un, _, _, _, hcw, _⟩ := h.out
  exact ⟨X ++ (if un then [254] else []), by rw [hcw]; simp [latched, hn, St.push]⟩

theorem cw_bend {list : List Sym} {body : List Nat} {s s' : St}
    (hn : s.newMode = some 231) (h : BEnd list body s.pos s.cw s') : ∃ X, s'.cw = (latched s).cw ++ X := by
  obtain ⟨p, toEnd, _, _, hcw, _⟩ := h.out
  exact ⟨randFrom (s.cw.length + 2) (b256Hdr (seg body s.pos p) toEnd ++ seg body s.pos p),
    by rw [hcw]; simp [latched, hn, St.push]⟩

theorem step_shape (pre out0 : List Nat) (list : List Sym) (body : List Nat) (hb : ByteList body) (s s' : St)
    (mi : MI false pre out0 list body s)
    (hmore : s.hasMore = true) (h : encodeMode (latched s) = .ok s') : ∃ X b, Shape pre out0 list body s s' X b := by
  cases mi.phase with
  | done nomore _ _ _ => rw [hmore] at nomore; cases nomore
  | ediAscii he _ _ _ _ _ _ _ _ => cases he
  | final he _ _ _ _ _ => cases he
  | endgame _ sync mode plan nm one fit =>
    cases asciiRest_call nm mode plan (by rw [mi.inp]; exact mi.le) h
    have hrest : s.rest = body.drop s.pos := by simp [St.rest, mi.inp]
    have hlen := asciiEnc_size (body.drop s.pos)
    exact ⟨asciiEnc (body.drop s.pos), true, by simp [latched, nm, hrest], fun _ => asciiCw_enc _ (hb.drop _),
      sync.syncT.mono fun _ h => ⟨h.1 rfl, h.2⟩,
      fun _ => ⟨nm, by rw [hlen]; exact one, by simp [St.hasMore], by simp only [List.length_append, hrest, hlen]; exact fit⟩⟩
  | normal sync pend plan more =>
    have hs : SyncT (TailB false) pre out0 body s.cw s.pos := SyncT.mono sync fun _ h => h.2
    cases pending_call hb mi.inp mi.lst hmore pend plan h with
    | tend l _ hnm out =>
      obtain ⟨X, hX⟩ := cw_tend hnm out
      exact ⟨X, false, hX, by rw [hnm]; nofun, hs, nofun⟩
    | bend hnm out =>
      obtain ⟨X, hX⟩ := cw_bend hnm out
      exact ⟨X, false, hX, by rw [hnm]; nofun, hs, nofun⟩
    | eend hm _ _ _ => exact absurd hm (mi.noE rfl).2.1
    | ascii hnm _ h =>
      obtain ⟨c1, _⟩ := asciiLoop_enc _ s s' h
      rw [mi.inp] at c1
      exact ⟨_, false, by rw [show latched s = s by simp [latched, hnm]]; exact c1,
        fun _ => asciiCw_enc _ (seg_bytes body hb s.pos s'.pos), hs, nofun⟩

/-- one call of a mode encoder: the position in the message at which it started, the latch the
main loop wrote in front of it (none for ASCII), the codewords it wrote -/
structure Seg where
  start : Nat
  latch : Option Nat
  X : List Nat

def Seg.cw (g : Seg) : List Nat :=
  match g.latch with
  | some l => l :: g.X
  | none => g.X

def flatCw : List Seg → List Nat
  | [] => []
  | g :: t => g.cw ++ flatCw t

theorem flatCw_append (a b : List Seg) : flatCw (a ++ b) = flatCw a ++ flatCw b := by
  induction a with
  | nil => rfl
  | cons g t ih => simp [flatCw, ih]

def SegOK (plan0 : List (Nat × EMode)) (g : Seg) : Prop :=
  match g.latch with
  | some l => ∃ p m, (p, m) ∈ plan0 ∧ m.latch = some l
  | none => ∀ c ∈ g.X, AsciiCw c

structure TR (pre out0 : List Nat) (list : List Sym) (body : List Nat) (plan0 : List (Nat × EMode)) (s : St) (segs : List Seg) : Prop where
  cw : s.cw = pre ++ flatCw segs
  ok : ∀ g ∈ segs, SegOK plan0 g
  pv : PV plan0 (key s)
  walk : ∀ (k : Nat) (hk : k < segs.length), ∃ b, SyncT (TailB b) pre out0 body (pre ++ flatCw (segs.take k)) segs[k].start ∧
    (b = true → k + 1 = segs.length ∧ segs[k].cw.length ≤ 1 ∧ s.hasMore = false ∧ ExactFit list s.cw.length)

theorem step_TR_seg (pre out0 : List Nat) (list : List Sym) (body : List Nat) (hb : ByteList body) (plan0 : List (Nat × EMode))
    (s s' : St) (segs : List Seg) (mi : MI false pre out0 list body s) (tr : TR pre out0 list body plan0 s segs)
    (hmore : s.hasMore = true) (h : encodeMode (latched s) = .ok s') :
    ∃ X, TR pre out0 list body plan0 s' (segs ++ [(⟨s.pos, s.newMode, X⟩ : Seg)]) := by
  obtain ⟨X, b, sh⟩ := step_shape pre out0 list body hb s s' mi hmore h
  refine ⟨X, ?_, ?_, q_encodeMode (pv_closed plan0) _ _ h (q_latched (pv_closed plan0) s tr.pv), ?_⟩
  · rw [sh.cw, flatCw_append]
    simp only [flatCw, List.append_nil, Seg.cw]
    cases hn : s.newMode with
    | none => simp [latched, hn, tr.cw]
    | some l => simp [latched, hn, St.push, tr.cw]
  · intro g hg
    rcases List.mem_append.mp hg with hg | hg
    · exact tr.ok g hg
    · simp only [List.mem_singleton] at hg
      subst hg
      unfold SegOK
      cases hn : s.newMode with
      | none => simp only []; exact sh.ascii hn
      | some l => simp only []; exact tr.pv.2 l (by simp [key, hn])
  · intro k hk
    simp only [List.length_append, List.length_singleton] at hk
    by_cases hlt : k < segs.length
    · -- an earlier segment: a call followed it, so it was not the last of a run without UNLATCH
      obtain ⟨b', hs, hb'⟩ := tr.walk k hlt
      have hbf : b' = false := by
        cases b' with
        | false => rfl
        | true => have := (hb' rfl).2.2.1; rw [hmore] at this; cases this
      subst hbf
      refine ⟨false, ?_, nofun⟩
      rw [List.take_append_of_le_length (by omega), List.getElem_append_left hlt]
      exact hs
    · have hk' : k = segs.length := by omega
      subst hk'
      have htake : (segs ++ [(⟨s.pos, s.newMode, X⟩ : Seg)]).take segs.length = segs := by simp
      have hget : (segs ++ [(⟨s.pos, s.newMode, X⟩ : Seg)])[segs.length]'(by simp) = ⟨s.pos, s.newMode, X⟩ := by simp
      rw [htake, hget, ← tr.cw]
      refine ⟨b, sh.sync, fun hbt => ?_⟩
      obtain ⟨nm, h1, h2, h3⟩ := sh.last hbt
      exact ⟨by simp, by simp only [Seg.cw, nm]; exact h1, h2, h3⟩

/-- the trace invariant along the main loop, together with any `J` on state and segments that one iteration keeps
(`LatchSeq.LI` for the exact latch sequence; `True` for the segments alone) -/
theorem mainLoop_TR (pre out0 : List Nat) (list : List Sym) (body : List Nat) (hb : ByteList body) (plan0 : List (Nat × EMode))
    {J : St → List Seg → Prop}
    (hJ : ∀ s s' segs X, J s segs → encodeMode (latched s) = .ok s' → J s' (segs ++ [(⟨s.pos, s.newMode, X⟩ : Seg)])) :
    ∀ (f : Nat) (s : St) (k : Nat) (sE : St) (segs : List Seg), Enc.mainLoop f s k = .ok sE → MI false pre out0 list body s →
      TR pre out0 list body plan0 s segs → J s segs → ∃ segsE, TR pre out0 list body plan0 sE segsE ∧ J sE segsE := by
  intro f s k sE segs h mi tr j
  refine (mainLoop_ind (M := fun s => MI false pre out0 list body s ∧ ∃ segs, TR pre out0 list body plan0 s segs ∧ J s segs)
    (fun s s' m hm he => ?_) f s k sE h ⟨mi, segs, tr, j⟩).1.2
  obtain ⟨mi, segs, tr, j⟩ := m
  obtain ⟨X, tr'⟩ := step_TR_seg pre out0 list body hb plan0 s s' segs mi tr hm he
  exact ⟨step_MI false pre out0 list body hb s s' mi hm he, _, tr', hJ s s' segs X j he⟩

end DM.Lemmas.Trace
