import DM.Lemmas.Placement
/-
The kernel evaluates `Nat` arithmetic on literals natively, `Int` arithmetic only by unfolding its
definition, so the traversal of `DM.Model.Placement` (on `Int`, as the Rust code is on `isize`) is
dear to evaluate. Here it is once more on `Nat`: coordinates are shifted by 8 (`I = i + 8`,
`J = j + 8`; wrapping reaches −5 at most), tests are in `Bool`, an octet is marked without a fold,
and inside the matrix its eight indices need no wrapping. `nFinal_eq` says that this traversal ends
in the state of the model's, for every matrix size; the per-size certificate `placementOK`
evaluates it.
Namespace: `DM.Lemmas`.
-/
namespace DM.Lemmas
open DM.Model

/-- last step of `pIdx`: row wrap, then the index; the truncating subtraction is the `toNat` -/
def nIdx3 (h w I J : Nat) : Nat := (bif Nat.ble (h + 8) I then I - h else I) * w + J - (8 * w + 8)

def nIdx2 (h w I J : Nat) : Nat :=
  bif Nat.blt J 8 then nIdx3 h w (I + 4 - (w + 4) % 8) (J + w) else nIdx3 h w I J

/-- `pIdx`, in stages, so that each test is evaluated once -/
def nIdx (h w I J : Nat) : Nat :=
  bif Nat.blt I 8 then nIdx2 h w (I + h) (J + 4 - (h + 4) % 8) else nIdx2 h w I J

def visit8 (s : PSt) (a b c d e f g k : Nat) : PSt :=
  ⟨s.visited ||| 1 <<< a ||| 1 <<< b ||| 1 <<< c ||| 1 <<< d ||| 1 <<< e ||| 1 <<< f ||| 1 <<< g ||| 1 <<< k,
   [a, b, c, d, e, f, g, k] :: s.acc⟩

def nUtah (h w I J : Nat) (s : PSt) : PSt :=
  visit8 s (nIdx h w (I-2) (J-2)) (nIdx h w (I-2) (J-1)) (nIdx h w (I-1) (J-2)) (nIdx h w (I-1) (J-1))
    (nIdx h w (I-1) J) (nIdx h w I (J-2)) (nIdx h w I (J-1)) (nIdx h w I J)

/-- `nUtah` for the sweeps. Where the eight modules lie inside the matrix nothing wraps, and their
indices are sums of a row part and a column part. -/
def nUtahFast (h w I J : Nat) (s : PSt) : PSt :=
  bif Nat.ble 10 I && Nat.ble 10 J && Nat.blt I (h + 8) then
    let r2 := (I - 10) * w
    let r1 := (I - 9) * w
    let r0 := (I - 8) * w
    let c2 := J - 10
    let c1 := J - 9
    let c0 := J - 8
    visit8 s (r2 + c2) (r2 + c1) (r1 + c2) (r1 + c1) (r1 + c0) (r0 + c2) (r0 + c1) (r0 + c0)
  else nUtah h w I J s

def nSeen (s : PSt) (w I J : Nat) : Bool := s.visited.testBit (I * w + J - (8 * w + 8))

/-- `k n`; the match makes the kernel evaluate `n` to a literal before `k` gets it. A coordinate
that goes from round to round as `I - 2` is otherwise a term as deep as the traversal is long, and
equal to the one the traversal of the next size builds as long as the two take the same way: the
kernel's cache then compares the two in full at every look-up. -/
def strict {α : Type} (n : Nat) (k : Nat → α) : α :=
  match n with
  | 0 => k 0
  | m + 1 => k m.succ

/-- `k s`; the match makes the kernel evaluate the test in `s` where it stands. With a `let` the
states of all rounds of a sweep pile up unevaluated and are forced from the last one backwards, by
a recursion as deep as the traversal is long. -/
def strictSt {α : Type} (s : PSt) (k : PSt → α) : α :=
  match s with
  | ⟨v, a⟩ => k ⟨v, a⟩

def nUp (h w : Nat) : Nat → Nat → Nat → PSt → Nat × Nat × PSt
  | 0, I, J, s => (I, J, s)
  | f+1, I, J, s =>
    strict I fun I => strict J fun J =>
    strictSt (bif Nat.blt I (h + 8) && Nat.ble 8 J && !(nSeen s w I J) then nUtahFast h w I J s else s) fun s =>
    bif Nat.ble 10 I && Nat.blt (J + 2) (w + 8) then nUp h w f (I-2) (J+2) s else (I-2, J+2, s)

def nDown (h w : Nat) : Nat → Nat → Nat → PSt → Nat × Nat × PSt
  | 0, I, J, s => (I, J, s)
  | f+1, I, J, s =>
    strict I fun I => strict J fun J =>
    strictSt (bif Nat.ble 8 I && Nat.blt J (w + 8) && !(nSeen s w I J) then nUtahFast h w I J s else s) fun s =>
    bif Nat.blt (I + 2) (h + 8) && Nat.ble 10 J then nDown h w f (I+2) (J-2) s else (I+2, J-2, s)

/-- `pCorners`. A corner octet is visited at most once in a traversal, so it is taken from the model as it is. -/
def nCorners (h w I J : Nat) (s : PSt) : PSt :=
  let s := bif I == h + 8 && J == 8 then s.visit (pCorner1 h w) else s
  let s := bif I == h + 6 && J == 8 && w % 4 != 0 then s.visit (pCorner2 h w) else s
  let s := bif I == h + 6 && J == 8 && w % 8 == 4 then s.visit (pCorner3 h w) else s
  bif I == h + 12 && J == 10 && w % 8 == 0 then s.visit (pCorner4 h w) else s

def nOuter (h w : Nat) : Nat → Nat → Nat → PSt → PSt
  | 0, _, _, s => s
  | f+1, I, J, s =>
    let u := nUp h w (h + w) I J (nCorners h w I J s)
    let d := nDown h w (h + w) (u.1 + 1) (u.2.1 + 3) u.2.2
    bif Nat.blt (d.1 + 3) (h + 8) || Nat.blt (d.2.1 + 1) (w + 8) then nOuter h w f (d.1 + 3) (d.2.1 + 1) d.2.2
    else d.2.2

def nFinal (h w : Nat) : PSt := nOuter h w (h + w) 12 8 ⟨0, []⟩

theorem strict_eq {α : Type} (n : Nat) (k : Nat → α) : strict n k = k n := by
  cases n <;> rfl

theorem strictSt_eq {α : Type} (s : PSt) (k : PSt → α) : strictSt s k = k s := rfl

theorem cond_iff {α : Type} {b : Bool} {p : Prop} [Decidable p] (hb : b = true ↔ p) (x y : α) :
    (bif b then x else y) = if p then x else y := by
  cases b <;> simp_all

theorem toNat_cell {a b : Int} {A B : Nat} (w : Nat) (ha : a + 8 = A) (hb : b + 8 = B) :
    (a * w + b).toNat = A * w + B - (8 * w + 8) := by
  obtain rfl : a = A - 8 := by omega
  obtain rfl : b = B - 8 := by omega
  rw [Int.sub_mul]; omega

variable {h w I J : Nat} {i j : Int}

theorem nIdx3_eq (hi : i + 8 = I) (hj : j + 8 = J) :
    nIdx3 h w I J = ((if i ≥ h then i - h else i) * w + j).toNat := by
  rw [nIdx3, cond_iff (p := i ≥ h) (by rw [Nat.ble_eq]; omega)]
  split
  · exact (toNat_cell w (by omega) hj).symm
  · exact (toNat_cell w hi hj).symm

theorem nIdx2_eq (hi : i + 8 = I) (hj : j + 8 = J) (hI : 3 ≤ I) :
    nIdx2 h w I J =
      (let i2 := if j < 0 then i + (4 - ((w : Int) + 4) % 8) else i
       let j2 := if j < 0 then j + w else j
       let i3 := if i2 ≥ h then i2 - h else i2
       (i3 * w + j2).toNat) := by
  rw [nIdx2, cond_iff (p := j < 0) (by rw [Nat.blt_eq]; omega)]
  split
  · exact nIdx3_eq (by omega) (by omega)
  · exact nIdx3_eq hi hj

theorem nIdx_eq (hi : i + 8 = I) (hj : j + 8 = J) (hI : 3 ≤ I) (hJ : 3 ≤ J) :
    nIdx h w I J = pIdx h w i j := by
  rw [nIdx, cond_iff (p := i < 0) (by rw [Nat.blt_eq]; omega), pIdx]
  split
  · exact nIdx2_eq (by omega) (by omega) (by omega)
  · exact nIdx2_eq hi hj hI

theorem visit8_eq (s : PSt) (a b c d e f g k : Nat) : visit8 s a b c d e f g k = s.visit [a, b, c, d, e, f, g, k] := rfl

theorem nSeen_eq (s : PSt) (hi : i + 8 = I) (hj : j + 8 = J) : nSeen s w I J = s.seen h w i j :=
  congrArg s.visited.testBit (toNat_cell w hi hj).symm

theorem nUtah_eq (s : PSt) (hi : i + 8 = I) (hj : j + 8 = J) (hI : 5 ≤ I) (hJ : 5 ≤ J) :
    nUtah h w I J s = s.visit (pUtah h w i j) := by
  rw [nUtah, visit8_eq, pUtah]
  congr <;> exact nIdx_eq (by omega) (by omega) (by omega) (by omega)

theorem nIdx_inside (hI : 8 ≤ I) (hJ : 8 ≤ J) (hh : I < h + 8) : nIdx h w I J = (I - 8) * w + (J - 8) := by
  rw [nIdx, cond_iff (p := I < 8) (by rw [Nat.blt_eq]), if_neg (by omega),
    nIdx2, cond_iff (p := J < 8) (by rw [Nat.blt_eq]), if_neg (by omega),
    nIdx3, cond_iff (p := h + 8 ≤ I) (by rw [Nat.ble_eq]), if_neg (by omega)]
  obtain ⟨I, rfl⟩ := Nat.exists_eq_add_of_le hI
  rw [Nat.add_mul, Nat.add_sub_cancel_left]
  omega

theorem nUtahFast_eq (s : PSt) : nUtahFast h w I J s = nUtah h w I J s := by
  rw [nUtahFast, cond_iff (p := 10 ≤ I ∧ 10 ≤ J ∧ I < h + 8)
    (by simp only [Bool.and_eq_true, Nat.ble_eq, Nat.blt_eq, and_assoc])]
  split
  · rw [nUtah]
    dsimp only
    congr <;> rw [nIdx_inside (by omega) (by omega) (by omega)] <;> simp only [Nat.sub_sub, Nat.reduceAdd]
  · rfl

theorem nCorners_eq (s : PSt) (hi : i + 8 = I) (hj : j + 8 = J) : nCorners h w I J s = pCorners h w i j s := by
  have c1 : (I == h + 8 && J == 8) = true ↔ i = h ∧ j = 0 := by
    simp only [Bool.and_eq_true, beq_iff_eq]; omega
  have c2 : (I == h + 6 && J == 8 && w % 4 != 0) = true ↔ i = h - 2 ∧ j = 0 ∧ (w : Int) % 4 ≠ 0 := by
    simp only [Bool.and_eq_true, beq_iff_eq, bne_iff_ne]; omega
  have c3 : (I == h + 6 && J == 8 && w % 8 == 4) = true ↔ i = h - 2 ∧ j = 0 ∧ (w : Int) % 8 = 4 := by
    simp only [Bool.and_eq_true, beq_iff_eq]; omega
  have c4 : (I == h + 12 && J == 10 && w % 8 == 0) = true ↔ i = h + 4 ∧ j = 2 ∧ (w : Int) % 8 = 0 := by
    simp only [Bool.and_eq_true, beq_iff_eq]; omega
  simp only [nCorners, pCorners, cond_iff c1, cond_iff c2, cond_iff c3, cond_iff c4]

theorem guard_eq {b c x : Bool} {p q : Prop} [Decidable p] [Decidable q] (hb : b = true ↔ p) (hc : c = true ↔ q)
    {t t' s : PSt} (ht : t = t') :
    (bif b && c && !x then t else s) = if p ∧ q ∧ !x then t' else s := by
  rw [cond_iff (p := p ∧ q ∧ !x) (by rw [Bool.and_eq_true, Bool.and_eq_true, hb, hc, and_assoc]), ht]

def Shifted (p : Int × Int × PSt) (n : Nat × Nat × PSt) : Prop :=
  p.1 + 8 = n.1 ∧ p.2.1 + 8 = n.2.1 ∧ p.2.2 = n.2.2

theorem nUp_eq : ∀ (f : Nat) {I J : Nat} {i j : Int} (s : PSt), i + 8 = I → j + 8 = J → 0 ≤ i → -1 ≤ j →
    Shifted (pUp h w f i j s) (nUp h w f I J s) ∧ -2 ≤ (pUp h w f i j s).1 ∧ -1 ≤ (pUp h w f i j s).2.1
  | 0, _, _, _, _, _, hi, hj, h0, h1 => ⟨⟨hi, hj, rfl⟩, Int.le_trans (by decide) h0, h1⟩
  | f + 1, I, J, i, j, s, hi, hj, h0, h1 => by
    have hv : (bif Nat.blt I (h + 8) && Nat.ble 8 J && !(s.seen h w i j) then nUtahFast h w I J s else s)
        = if i < h ∧ j ≥ 0 ∧ !(s.seen h w i j) then s.visit (pUtah h w i j) else s :=
      guard_eq (by rw [Nat.blt_eq]; omega) (by rw [Nat.ble_eq]; omega)
        ((nUtahFast_eq s).trans (nUtah_eq s hi hj (by omega) (by omega)))
    have hc : (Nat.ble 10 I && Nat.blt (J + 2) (w + 8)) = true ↔ i - 2 ≥ 0 ∧ j + 2 < w := by
      simp only [Bool.and_eq_true, Nat.ble_eq, Nat.blt_eq]; omega
    simp only [nUp, strict_eq, strictSt_eq, pUp, nSeen_eq (h := h) s hi hj, hv, cond_iff hc]
    split
    · exact nUp_eq f _ (by omega) (by omega) (by omega) (by omega)
    · simp only [Shifted, and_true]; omega

theorem nDown_eq : ∀ (f : Nat) {I J : Nat} {i j : Int} (s : PSt), i + 8 = I → j + 8 = J → -1 ≤ i → 0 ≤ j →
    Shifted (pDown h w f i j s) (nDown h w f I J s) ∧ -1 ≤ (pDown h w f i j s).1 ∧ -2 ≤ (pDown h w f i j s).2.1
  | 0, _, _, _, _, _, hi, hj, h0, h1 => ⟨⟨hi, hj, rfl⟩, h0, Int.le_trans (by decide) h1⟩
  | f + 1, I, J, i, j, s, hi, hj, h0, h1 => by
    have hv : (bif Nat.ble 8 I && Nat.blt J (w + 8) && !(s.seen h w i j) then nUtahFast h w I J s else s)
        = if i ≥ 0 ∧ j < w ∧ !(s.seen h w i j) then s.visit (pUtah h w i j) else s :=
      guard_eq (by rw [Nat.ble_eq]; omega) (by rw [Nat.blt_eq]; omega)
        ((nUtahFast_eq s).trans (nUtah_eq s hi hj (by omega) (by omega)))
    have hc : (Nat.blt (I + 2) (h + 8) && Nat.ble 10 J) = true ↔ i + 2 < h ∧ j - 2 ≥ 0 := by
      simp only [Bool.and_eq_true, Nat.ble_eq, Nat.blt_eq]; omega
    simp only [nDown, strict_eq, strictSt_eq, pDown, nSeen_eq (h := h) s hi hj, hv, cond_iff hc]
    split
    · exact nDown_eq f _ (by omega) (by omega) (by omega) (by omega)
    · simp only [Shifted, and_true]; omega

theorem nOuter_eq : ∀ (f : Nat) {I J : Nat} {i j : Int} (s : PSt), i + 8 = I → j + 8 = J → 0 ≤ i → -1 ≤ j →
    nOuter h w f I J s = pOuter h w f i j s
  | 0, _, _, _, _, _, _, _, _, _ => rfl
  | f + 1, I, J, i, j, s, hi, hj, h0, h1 => by
    simp only [nOuter, pOuter_succ, Int.toNat_natCast, nCorners_eq s hi hj]
    obtain ⟨⟨u1, u2, u3⟩, _, _⟩ := nUp_eq (h := h) (w := w) (h + w) (pCorners h w i j s) hi hj h0 h1
    generalize pUp h w (h + w) i j (pCorners h w i j s) = u at *
    generalize nUp h w (h + w) I J (pCorners h w i j s) = U at *
    rw [← u3]
    obtain ⟨⟨d1, d2, d3⟩, _, _⟩ := nDown_eq (h := h) (w := w) (h + w) u.2.2 (i := u.1 + 1) (j := u.2.1 + 3)
      (I := U.1 + 1) (J := U.2.1 + 3) (by omega) (by omega) (by omega) (by omega)
    generalize pDown h w (h + w) (u.1 + 1) (u.2.1 + 3) u.2.2 = d at *
    generalize nDown h w (h + w) (U.1 + 1) (U.2.1 + 3) u.2.2 = D at *
    have hc : (Nat.blt (D.1 + 3) (h + 8) || Nat.blt (D.2.1 + 1) (w + 8)) = true ↔ d.1 + 3 < h ∨ d.2.1 + 1 < w := by
      simp only [Bool.or_eq_true, Nat.blt_eq]; omega
    simp only [cond_iff hc, ← d3]
    split
    · exact nOuter_eq f _ (by omega) (by omega) (by omega) (by omega)
    · rfl

theorem nFinal_eq (h w : Nat) : nFinal h w = pFinal h w :=
  nOuter_eq (h + w) _ rfl rfl (by decide) (by decide)

def cornerCells (h w : Nat) : List Nat :=
  [(h - 2) * w + (w - 2), (h - 2) * w + (w - 1), (h - 1) * w + (w - 2), (h - 1) * w + (w - 1)]

def fixedCells (s : Sym) : List Nat :=
  if (row s).padding then cornerCells (contentHeight s) (contentWidth s) else []

/-- What the kernel evaluates for each size: the traversal makes `totalCw` visits, which together
with the four corner cells of the sizes with a fixed pattern are exactly as many positions as the
mapping matrix has cells, and it marks every cell but those four. -/
def placementOK (s : Sym) : Bool :=
  let h := contentHeight s
  let w := contentWidth s
  match nFinal h w with
  | ⟨visited, acc⟩ =>
    acc.length == totalCw s
    && 8 * totalCw s + (fixedCells s).length == h * w
    && setBits visited (fixedCells s) == 2 ^ (h * w) - 1
    && visited.testBit (h * w - 1) == !(row s).padding

end DM.Lemmas
