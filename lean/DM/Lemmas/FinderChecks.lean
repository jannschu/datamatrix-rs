import DM.Lemmas.Finder
/-
The alignment checks of `try_from_bits` ask, at every pixel on the border of a region and nowhere else,
for the value the standard gives that pixel.
Namespace: `DM.Lemmas`.
-/
namespace DM.Lemmas
open DM.Model DM.Spec

section
-- `r` is the row of the standard's table for `s`; as a variable it keeps the statements about `r.rows`, `r.cols`,
-- `r.hRegions` and not about what `toStdRow (row s)` unfolds to (the proofs that open the programs `subst` it)
variable {s : Sym} {r : StdRow} {rh rw : Nat} (hr : toStdRow (row s) = r) (G : Regions r rh rw)
include hr G

/-- `c` numbers the rows of regions: the bottom and
the top border of each are checked pixel by pixel, and on each pixel row `t + 1` in between the left and
the right border pixel of every region `pc`. -/
theorem mem_alignChecks {q : Nat × Bool} : q ∈ alignChecks s ↔
    ∃ c, c < r.vRegions ∧
      ((∃ x, x < r.cols ∧ ((c * rh + (rh - 1)) * r.cols + x, true) = q) ∨
        (∃ x, x < r.cols ∧ (c * rh * r.cols + x, x % 2 == 0) = q) ∨
        ∃ t, t < rh - 2 ∧ ∃ pc, pc < r.hRegions ∧
          (q = ((c * rh + (t + 1)) * r.cols + pc * rw, true) ∨
            q = ((c * rh + (t + 1)) * r.cols + (pc * rw + (rw - 1)), t % 2 == 0))) := by
  subst hr
  have hh := G.rh_gt
  have hw := G.rw_gt
  have bottom : ∀ a x, a * (toStdRow (row s)).cols + (rh - 2 + 1) * (toStdRow (row s)).cols + x =
      (a + (rh - 1)) * (toStdRow (row s)).cols + x := fun a x => by
    rw [← Nat.add_mul, show rh - 2 + 1 = rh - 1 by omega]
  have right : ∀ a b, a + b + (rw - 2) + 1 = a + (b + (rw - 1)) := fun a b => by omega
  rw [alignChecks, fdims_eq G]
  simp only [Nat.mul_div_cancel_left _ (Nat.succ_pos _), Nat.sub_add_cancel (Nat.le_of_succ_le hh),
    Nat.sub_add_cancel (Nat.le_of_succ_le hw), List.mem_flatMap, List.mem_append, List.mem_map, List.mem_range,
    List.mem_cons, List.not_mem_nil, or_false, or_assoc]
  simp only [show (row s).extraV + 1 = (toStdRow (row s)).hRegions from rfl]
  -- the positions as pixels: the `j`-th piece of `rw` pixels below the top border is on pixel row
  -- `j / hRegions + 1` and in region `j % hRegions` (`piece_eq`); these pairs are all `t < rh - 2`, `pc < hRegions`
  simp only [← G.cols, bottom, piece_eq G.cols, right]
  refine exists_congr fun c => and_congr_right fun _ => or_congr_right (or_congr_right (Iff.symm ?_))
  exact exists_lt_mul

theorem alignChecks_fixed {q : Nat × Bool} (hq : q ∈ alignChecks s) : Fixed r q := by
  have hh := G.rh_gt
  obtain ⟨c, hc, ⟨x, hx, rfl⟩ | ⟨x, hx, rfl⟩ | ⟨t, ht, pc, hpc, hq⟩⟩ := (mem_alignChecks hr G).mp hq
  · exact fixed_bottom G hc hx
  · exact fixed_top G hc hx
  · have hi := G.rows ▸ block_lt hc (show t + 1 < rh by omega)
    rcases hq with rfl | rfl
    · exact fixed_left G hi hpc
    · -- row `t + 1` of a region is odd iff `t` is even, the regions being of even height
      have hb : ((c * rh + (t + 1)) % 2 == 1) = (t % 2 == 0) := by
        have : c * rh % 2 = 0 := by rw [Nat.mul_mod, G.rh_even, Nat.mul_zero]
        exact Bool.eq_iff_iff.mpr (by simp only [beq_iff_eq]; omega)
      exact hb ▸ fixed_right G hi hpc

theorem border_checked {c ri pc rj : Nat} (hc : c < r.vRegions) (hri : ri < rh)
    (hpc : pc < r.hRegions) (hrj : rj < rw) (hb : ri = 0 ∨ ri = rh - 1 ∨ rj = 0 ∨ rj = rw - 1) :
    (c * rh + ri) * r.cols + (pc * rw + rj) ∈ (alignChecks s).map Prod.fst := by
  have hh := G.rh_gt
  have hj := G.cols ▸ block_lt hpc hrj
  refine List.mem_map.mpr ?_
  by_cases h1 : ri = rh - 1
  · exact ⟨(_, true), (mem_alignChecks hr G).mpr ⟨c, hc, .inl ⟨_, hj, rfl⟩⟩, by rw [h1]⟩
  by_cases h0 : ri = 0
  · exact ⟨(_, _), (mem_alignChecks hr G).mpr ⟨c, hc, .inr (.inl ⟨_, hj, rfl⟩)⟩, by rw [h0]; rfl⟩
  have ht : ri - 1 < rh - 2 := by omega
  have e : ri - 1 + 1 = ri := by omega
  rcases hb with hb | hb | hb | hb
  · exact absurd hb h0
  · exact absurd hb h1
  · exact ⟨(_, _), (mem_alignChecks hr G).mpr ⟨c, hc, .inr (.inr ⟨_, ht, pc, hpc, .inl rfl⟩)⟩, by rw [e, hb]; rfl⟩
  · exact ⟨(_, _), (mem_alignChecks hr G).mpr ⟨c, hc, .inr (.inr ⟨_, ht, pc, hpc, .inr rfl⟩)⟩, by rw [e, hb]⟩

theorem cell_or_checked {p : Nat} (hp : p < r.rows * r.cols) :
    p ∈ finderCells r ∨ p ∈ (alignChecks s).map Prod.fst := by
  obtain ⟨i, j, hi, hj, rfl⟩ := exists_block hp
  obtain ⟨c, ri, hc, hri, rfl⟩ := exists_block (G.rows ▸ hi)
  obtain ⟨pc, rj, hpc, hrj, rfl⟩ := exists_block (G.cols ▸ hj)
  by_cases hb : ri = 0 ∨ ri = rh - 1 ∨ rj = 0 ∨ rj = rw - 1
  · exact .inr (border_checked hr G hc hri hpc hrj hb)
  · simp only [not_or] at hb
    obtain ⟨t, rfl⟩ := Nat.exists_eq_succ_of_ne_zero hb.1
    obtain ⟨x, rfl⟩ := Nat.exists_eq_succ_of_ne_zero hb.2.2.1
    refine .inl ?_
    simp only [finderCells_eq_regions G, List.mem_flatMap, List.mem_map, List.mem_range]
    exact ⟨c, hc, t, by omega, pc, hpc, x, by omega, rfl⟩

end

end DM.Lemmas
