import DM.Lemmas.LDBase
import DM.Lemmas.LDEq
/-
The algebraic invariant of the Levinson–Durbin iteration (equations (3) and (4) of the
Schmidt–Fettweis recursion, in the field), "`ldCheck` passes exactly when they hold"
(`ldCheck_ok_iff`), and the initial triangular solve (`initWV_alg`).
Namespace: `LD`.
-/
namespace DM.Lemmas.LD
open DM.Model DM.Model.RS DM.Lemmas.RSTotal DM.Lemmas.RSTot

def LDAlg (syn : List Nat) (t : Nat) (st : LDSt) : Prop :=
  LDInv t st ∧ Bytes st.w ∧ Bytes st.y ∧ Eq3 syn st.v st.y ∧ Eq4 syn st.v st.w

theorem rowV_ofNat (syn l : List Nat) (i v : Nat) (hs : Bytes syn) (hl : Bytes l) :
    rowV syn l i v < 256 ∧ GF.ofNat (rowV syn l i v) = H syn i v (V l) :=
  foldl_range_inv _ (fun k (row : Nat) => row < 256 ∧ GF.ofNat row = H syn i k (V l)) 0
    ⟨by omega, by simp [H, ofNat_zero]⟩ v fun k _ row hI => by
      have h1 := Bytes.getD hs (i + k)
      have h2 := Bytes.getD hl k
      refine ⟨xor_lt_256 hI.1 (gmul_lt' _ _), ?_⟩
      rw [H_succ, GF.ofNat_xor, GF.ofNat_gmul h1 h2, hI.2]
      rfl

theorem ldCheck_ok_iff (syn w y : List Nat) (v : Nat) (hw : w.length = v) (hy : y.length = v)
    (hlen : 2 * v ≤ syn.length) (hs : Bytes syn) (hbw : Bytes w) (hby : Bytes y) :
    ldCheck syn w y v = .ok () ↔ Eq3 syn v y ∧ Eq4 syn v w := by
  have e3 : bad3 syn y v = false ↔ Eq3 syn v y := by
    unfold bad3 Eq3
    rw [List.any_eq_false]
    refine forall_congr' fun i => ?_
    rw [List.mem_range, bne_iff_ne, Decidable.not_not]
    refine imp_congr_right fun _ => ?_
    obtain ⟨hb, he⟩ := rowV_ofNat syn y i v hs hby
    rw [← he]
    split
    · exact (ofNat_eq_iff hb (by omega)).symm
    · exact (ofNat_eq_iff hb (by omega)).symm
  have e4 : bad4 syn w v = false ↔ Eq4 syn v w := by
    unfold bad4 Eq4
    rw [List.any_eq_false]
    refine forall_congr' fun i => ?_
    rw [List.mem_range, bne_iff_ne, Decidable.not_not]
    refine imp_congr_right fun _ => ?_
    obtain ⟨hb, he⟩ := rowV_ofNat syn w i v hs hbw
    rw [← he]
    exact (ofNat_eq_iff hb (Bytes.getD hs _)).symm
  rw [ldCheck_eq hw hy hlen, ← e3, ← e4]
  cases bad3 syn y v <;> cases bad4 syn w v <;> simp

theorem H_eq_zero (syn : List Nat) (a L : Nat) (f : Nat → GF) (h : ∀ j, j < L → V syn (a + j) = 0) :
    H syn a L f = 0 := by
  unfold H
  apply Finset.sum_eq_zero
  intro j hj
  rw [h j (Finset.mem_range.mp hj)]; ring

theorem H_set (syn l : List Nat) (a L p x : Nat) (hpL : p < L) (hpl : p < l.length) :
    H syn a L (V (l.set p x)) = H syn a L (V l) + V syn (a + p) * (GF.ofNat x + V l p) := by
  have : ∀ j, V (l.set p x) j = V l j + (if j = p then GF.ofNat x + V l p else 0) := by
    intro j
    rw [V_set]
    by_cases h : j = p
    · subst h
      rw [if_pos ⟨rfl, hpl⟩, if_pos rfl]
      linear_combination (-(V l j)) * two_eq_zero
    · rw [if_neg (by tauto), if_neg h]; ring
  rw [H_congr (fun j _ => this j), H_add]
  congr 1
  unfold H
  rw [Finset.sum_eq_single p]
  · beta_reduce; rw [if_pos rfl]
  · intro j _ hj; beta_reduce; rw [if_neg hj]; ring
  · intro h; exact absurd (Finset.mem_range.mpr hpL) h

theorem initW_getD (syn : List Nat) (v j : Nat) (hlen : 2 * v ≤ syn.length) (hj : j < v) :
    ((syn.drop v).take v).reverse.getD j 0 = syn.getD (2 * v - 1 - j) 0 := by
  have hl : ((syn.drop v).take v).length = v := by
    rw [List.length_take, List.length_drop]; omega
  rw [getD_reverse _ _ (by omega), hl, getD_take, if_pos (by omega), getD_drop]
  congr 1; omega

theorem initWV_alg (syn : List Nat) (v : Nat) (hv : 1 ≤ v) (hlen : 2 * v ≤ syn.length)
    (hs : Bytes syn) (hz : ∀ k, k < v - 1 → syn.getD k 0 = 0) (hp : syn.getD (v - 1) 0 ≠ 0) :
    Bytes (initWV syn v) ∧ Eq4 syn v (initWV syn v) := by
  have hS0 : ∀ k, k < v - 1 → V syn k = 0 := by
    intro k hk; unfold V; rw [hz k hk]; rfl
  have hpiv : V syn (v - 1) ≠ 0 := ofNat_ne_zero (Bytes.getD hs _) hp
  have := foldl_range_inv (initRound syn v) (fun i (w : List Nat) => i ≤ v → w.length = v ∧
      Bytes w ∧ (∀ j, j < v - i → w.getD j 0 = syn.getD (2 * v - 1 - j) 0) ∧
      (∀ i', i' < i → H syn i' v (V w) = V syn (v + i'))) ((syn.drop v).take v).reverse
    (fun _ => ⟨by rw [List.length_reverse, List.length_take, List.length_drop]; omega,
      fun x hx => hs x (List.mem_of_mem_drop (List.mem_of_mem_take (List.mem_reverse.mp hx))),
      fun j hj => initW_getD syn v j hlen hj, fun i' hi' => absurd hi' (Nat.not_lt_zero _)⟩) v
    fun i hi w hI _ => by
      obtain ⟨hwl, hwb, hun, hdone⟩ := hI (by omega)
      -- the inner loop adds the rows `v - i ≤ k < v` to the entry it started from
      obtain ⟨hacc, hval⟩ := foldl_range'_inv
        (fun acc j => gadd acc (gmul (syn.getD (i + j) 0) (w.getD j 0)))
        (fun k (acc : Nat) => acc < 256 ∧ GF.ofNat acc
          = V w (v - 1 - i) + H syn i (v - i) (V w) + H syn i k (V w)) i (v - i)
        (w.getD (v - 1 - i) 0)
        ⟨Bytes.getD hwb _, by
          show V w (v - 1 - i) = _
          linear_combination (-(H syn i (v - i) (V w))) * two_eq_zero⟩
        fun k _ _ acc ⟨hacc, hval⟩ => by
          have h1 := Bytes.getD hs (i + k)
          have h2 := Bytes.getD hwb k
          refine ⟨xor_lt_256 hacc (gmul_lt' _ _), ?_⟩
          rw [H_succ, GF.ofNat_xor, GF.ofNat_gmul h1 h2, hval]
          unfold V
          ring
      rw [show v - i + i = v by omega] at hval
      unfold initRound
      generalize (List.range' (v - i) i).foldl _ (w.getD (v - 1 - i) 0) = acc at hacc hval
      have hq := gdivD_lt acc (syn.getD (v - 1) 0)
      refine ⟨by simp only [List.length_set]; exact hwl, hwb.set _ hq, ?_, ?_⟩
      · intro j hj
        rw [getD_set, if_neg (by omega)]
        exact hun j (by omega)
      · intro i' hi'
        rw [H_set _ _ _ _ _ _ (by omega) (by omega)]
        by_cases hlt : i' < i
        · rw [hdone i' hlt, hS0 (i' + (v - 1 - i)) (by omega)]; ring
        · have : i' = i := by omega
          subst this
          have e1 : i' + (v - 1 - i') = v - 1 := by omega
          have e2 : V w (v - 1 - i') = V syn (v + i') := by
            unfold V; rw [hun _ (by omega)]; congr 2; omega
          have e3 : H syn i' (v - i') (V w) = V syn (v - 1) * V w (v - 1 - i') := by
            rw [show v - i' = (v - 1 - i') + 1 by omega, H_succ, e1,
              H_eq_zero _ _ _ _ (fun j hj => hS0 _ (by omega))]
            ring
          have hq' : V syn (v - 1) * GF.ofNat (gdivD acc (syn.getD (v - 1) 0)) = GF.ofNat acc := by
            rw [ofNat_gdivD hacc (Bytes.getD hs _) hp, mul_comm]
            exact div_mul_cancel₀ _ hpiv
          rw [e1]
          linear_combination hq' + hval + e3 + e2
            + (H syn i' v (V w) + V syn (v - 1) * V w (v - 1 - i')) * two_eq_zero
  obtain ⟨_, hwb, _, hdone⟩ := this (Nat.le_refl _)
  exact ⟨hwb, fun i hi => hdone i hi⟩

end DM.Lemmas.LD
