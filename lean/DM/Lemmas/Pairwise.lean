/-
Two facts about lists sorted by a strict relation: on `List.range n` it is enough to compare neighbours, and a
strictly sorted list has no two members with the same place in the order.
Namespace: `DM.Lemmas`.
-/
namespace DM.Lemmas

theorem rel_of_step {R : Nat → Nat → Prop} {n : Nat} (htr : ∀ {a b c}, R a b → R b c → R a c)
    (hs : ∀ i, i < n → R i (i + 1)) (a : Nat) : ∀ b, a < b → b ≤ n → R a b
  | b + 1, hab, hb => by
    rcases Nat.lt_succ_iff_lt_or_eq.mp hab with h | h
    · exact htr (rel_of_step (R := R) htr hs a b h (Nat.le_of_succ_le hb)) (hs b hb)
    · exact h ▸ hs a (h ▸ hb)

theorem eq_of_pairwise {α : Type} {lt : α → α → Bool} : ∀ {l : List α}, l.Pairwise (fun a b => lt a b = true) →
    ∀ {a b}, a ∈ l → b ∈ l → lt a b = false → lt b a = false → a = b
  | _ :: _, hp, a, b, ha, hb, hab, hba => by
    obtain ⟨h1, hp⟩ := List.pairwise_cons.mp hp
    rcases List.mem_cons.mp ha with ha | ha <;> rcases List.mem_cons.mp hb with hb | hb
    · rw [ha, hb]
    · exact absurd (h1 b hb) (by rw [← ha, hab]; decide)
    · exact absurd (h1 a ha) (by rw [← hb, hba]; decide)
    · exact eq_of_pairwise hp ha hb hab hba

end DM.Lemmas
