import DM.Lemmas.DecFrame
/-
Segments. Every statement about what the decoder reads between two ASCII boundaries has the shape `Seg e X chunk T`;
segments compose (`Seg.append`), and the ECI spans seen before are carried along (`Seg.frame`).
Namespace: `DecRun`.
-/
namespace DM.Lemmas.DecRun
open DM.Model.Dec DM.Lemmas.EciFrame

/-- met at an ASCII boundary after `e` codewords, the codewords `X` are read as the bytes `chunk` and the decoder is at
an ASCII boundary again behind them, whatever tail among `T` follows -/
def Seg (e : Nat) (X chunk : List Nat) (T : List Nat → Prop) : Prop :=
  ∀ tail, T tail → ∀ out : List Nat,
    decRun .ascii { rest := X ++ tail, eaten := e, out := out, ecis := [] } =
    decRun .ascii { rest := tail, eaten := e + X.length, out := out ++ chunk, ecis := [] }

theorem Seg.nil (e : Nat) (T : List Nat → Prop) : Seg e [] [] T := fun tail _ out => by simp

theorem Seg.mono {e : Nat} {X chunk : List Nat} {T T' : List Nat → Prop} (h : Seg e X chunk T) (hT : ∀ t, T' t → T t) :
    Seg e X chunk T' := fun tail ht => h tail (hT tail ht)

theorem Seg.append {e : Nat} {X Y c d : List Nat} {T U : List Nat → Prop} (hX : Seg e X c T)
    (hY : Seg (e + X.length) Y d U) (hT : ∀ t, U t → T (Y ++ t)) : Seg e (X ++ Y) (c ++ d) U := fun tail ht out => by
  rw [List.append_assoc, hX _ (hT tail ht), hY tail ht, List.length_append, Nat.add_assoc, List.append_assoc]

theorem Seg.frame {e : Nat} {X chunk : List Nat} {T : List Nat → Prop} (h : Seg e X chunk T) {tail : List Nat}
    (ht : T tail) (out : List Nat) (ecis : List (Nat × Nat)) :
    decRun .ascii { rest := X ++ tail, eaten := e, out := out, ecis := ecis } =
    decRun .ascii { rest := tail, eaten := e + X.length, out := out ++ chunk, ecis := ecis } := by
  have := congrArg (liftS ecis) (h tail ht out)
  rwa [← decRun_frame, ← decRun_frame, addEcis, addEcis, List.append_nil] at this

theorem Seg.latched {c : Nat} {m : DMode} (hc : asciiAct false c = .latch m)
    {r : List Nat → Nat → List Nat → R (List Nat × Nat × List Nat)}
    (hm : ∀ st, modeStep m st = backTo st (r st.rest st.eaten st.out)) {e : Nat} {X chunk : List Nat}
    (hnil : X = [] → ∀ e out, r [] e out = .ok ([], e, out)) {T : List Nat → Prop}
    (hr : ∀ tail, T tail → ∀ out, r (X ++ tail) (e + 1) out = .ok (tail, e + 1 + X.length, out ++ chunk)) :
    Seg e (c :: X) chunk T := fun tail ht out => by
  rw [List.cons_append, decRun_latch hc,
    decRun_seg (hm _) fun h => by rw [h]; exact hnil (List.append_eq_nil_iff.mp h).1 _ _]
  simp only [hr tail ht, Except.bind, List.length_cons]
  congr 2
  omega

end DM.Lemmas.DecRun
