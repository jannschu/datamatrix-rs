import DM.Lemmas.SpecStep
import DM.Lemmas.CompleteX12
/-
The reference decoder (`DM.Spec.Stream`) in X12 mode: a pair of codewords is three Table 5 values (the table is the
crate decoder's, `x12Value_eq`, so it is inverted once, in `CompleteX12`),
UNLATCH 254, the end-of-symbol rules (one codeword left: back to ASCII without consuming it unless it
is UNLATCH; nothing left: the decoder stops in X12 mode); a whole segment `238, triples, ending` from
any position (`steps_x12`).
-/
namespace DM.Lemmas.SpecX12
open DM.Model DM.Lemmas DM.Lemmas.SpecStep DM.Spec.Stream
open DM.Spec.Build (packTriples x12Val)
open DM.Lemmas.Complete (X12Native packTriples_length filterMap_native_length)

theorem step_x12_unlatch (cw : Array Nat) (s : St) (hc : cw[s.i]? = some 254) (hm : s.mode = .x12) :
    step cw s = .ok (some { s with i := s.i + 1, mode := .ascii }) := by
  obtain ⟨h, hc⟩ := idx hc
  rw [step_x12_eq cw s hm h, hc]
  split <;> rfl

theorem step_x12_last (cw : Array Nat) (s : St) (c : Nat) (hc : cw[s.i]? = some c) (hm : s.mode = .x12)
    (hlast : s.i + 1 = cw.size) (h254 : c ≠ 254) :
    step cw s = .ok (some { s with mode := .ascii }) := by
  obtain ⟨h, hc⟩ := idx hc
  rw [step_x12_eq cw s hm h, hc, if_pos (by omega), if_neg h254]

theorem step_x12_triple (cw : Array Nat) (s : St) (c d b1 b2 b3 : Nat) (hc : cw[s.i]? = some c) (hd : cw[s.i + 1]? = some d)
    (hm : s.mode = .x12) (h254 : c ≠ 254) (h0 : c * 256 + d ≠ 0) (hbig : (c * 256 + d - 1) / 1600 < 40)
    (h1 : x12Value ((c * 256 + d - 1) / 1600) = .ok b1) (h2 : x12Value ((c * 256 + d - 1) / 40 % 40) = .ok b2)
    (h3 : x12Value ((c * 256 + d - 1) % 40) = .ok b3) :
    step cw s = .ok (some (emit s 2 [b1, b2, b3] .x12)) := by
  obtain ⟨h, hc⟩ := idx hc
  obtain ⟨h', hd⟩ := idx hd
  rw [step_x12_eq cw s hm h, hc, hd, if_neg (by omega), if_neg h254, if_neg h0, if_neg (by omega), h1, h2, h3, emit_eq_pushes]
  rfl

theorem x12Value_eq (v : Nat) : x12Value v = (Dec.decX12 v).mapError fun _ => "x12 value >= 40" := by
  unfold x12Value Dec.decX12
  by_cases h3 : v ≤ 3
  · obtain rfl | rfl | rfl | rfl : v = 0 ∨ v = 1 ∨ v = 2 ∨ v = 3 := by omega
    all_goals rfl
  simp only [show v ≠ 0 by omega, show v ≠ 1 by omega, show v ≠ 2 by omega, show v ≠ 3 by omega, if_false]
  by_cases h13 : v ≤ 13
  · rw [if_pos (by omega), if_pos h13, show 48 + v - 4 = 48 + (v - 4) by omega]; rfl
  by_cases h39 : v ≤ 39
  · rw [if_neg (by omega), if_pos (by omega), if_neg h13, if_pos h39, show 65 + v - 14 = 65 + (v - 14) by omega]; rfl
  · rw [if_neg (by omega), if_neg (by omega), if_neg h13, if_neg h39]; rfl

theorem x12Val_value (b v : Nat) (h : x12Val b = some v) : v < 40 ∧ x12Value v = .ok b :=
  (Complete.x12Val_lt b v h).imp_right fun hd => by rw [x12Value_eq, hd]; rfl

theorem steps_x12_one (cw : Array Nat) (s : St) (x y z vx vy vz : Nat) (hx : x12Val x = some vx) (hy : x12Val y = some vy)
    (hz : x12Val z = some vz) (hm : s.mode = .x12) (ho : Occurs cw s.i (packTriples [vx, vy, vz])) :
    Steps cw 1 s (emit s 2 [x, y, z] .x12) := by
  obtain ⟨lx, dx⟩ := x12Val_value x vx hx
  obtain ⟨ly, dy⟩ := x12Val_value y vy hy
  obtain ⟨lz, dz⟩ := x12Val_value z vz hz
  simp only [packTriples] at ho
  obtain ⟨v, hw, hlt, e2, e3, _, e4⟩ := Pack.packed vx vy vz lx ly lz
  rw [hw] at ho
  have e1 : (v + 1) / 256 * 256 + (v + 1) % 256 - 1 = v := by rw [Nat.div_add_mod']; rfl
  apply Steps.one
  rw [step_x12_triple cw s ((v + 1) / 256) ((v + 1) % 256) x y z ho.head ho.tail.head hm
    (by omega) (by omega)
    (by rw [e1, e2]; exact lx) (by rw [e1, e2]; exact dx) (by rw [e1, e3]; exact dy) (by rw [e1, e4]; exact dz)]

theorem steps_x12_triples (cw : Array Nat) : ∀ (n : Nat) (b : List Nat), b.length = 3 * n → X12Native b → ∀ (s : St),
    s.mode = .x12 → Occurs cw s.i (packTriples (b.filterMap x12Val)) → Steps cw n s (emit s (2 * n) b .x12) := by
  refine Complete.triples_rec (fun _ s _ _ => by rw [emit_zero]; exact Steps.refl cw s) fun n x y z t _ ih hn s hm ho => ?_
  obtain ⟨vx, hvx⟩ := Option.isSome_iff_exists.mp (hn x (by simp))
  obtain ⟨vy, hvy⟩ := Option.isSome_iff_exists.mp (hn y (by simp))
  obtain ⟨vz, hvz⟩ := Option.isSome_iff_exists.mp (hn z (by simp))
  have hfm : (x :: y :: z :: t).filterMap x12Val = vx :: vy :: vz :: t.filterMap x12Val := by
    simp [hvx, hvy, hvz]
  rw [hfm] at ho
  have hsplit : packTriples (vx :: vy :: vz :: t.filterMap x12Val) =
      packTriples [vx, vy, vz] ++ packTriples (t.filterMap x12Val) := by simp [packTriples]
  rw [hsplit] at ho
  have h1 := steps_x12_one cw s x y z vx vy vz hvx hvy hvz hm ho.left
  have h2 := ih (fun w hw => hn w (by simp [hw])) (emit s 2 [x, y, z] .x12) (by simpa using hm)
    (by simpa [packTriples] using ho.right)
  have := h1.trans h2
  rw [emit_emit] at this
  have e : 2 + 2 * n = 2 * (n + 1) := by omega
  have e' : 1 + n = n + 1 := by omega
  rw [e, e'] at this
  simpa using this

def x12Done (s : St) (n : Nat) (b : List Nat) (k : Nat) (m : Mode) : St :=
  { s with i := s.i + 1 + 2 * n + k, mode := m, cst := {}, out := s.out ++ b.toArray,
           trace := s.trace ++ Array.replicate b.length .x12, latches := s.latches.push (s.i, .x12) }

theorem x12Done_eq (s : St) (n : Nat) (b : List Nat) (k : Nat) (m : Mode) :
    x12Done s n b k m = afterStretch s (1 + 2 * n + k) {} b .x12 m := by
  simp [x12Done, afterStretch, Nat.add_assoc]

theorem steps_x12_body (cw : Array Nat) (n : Nat) (b : List Nat) (hl : b.length = 3 * n) (hn : X12Native b) (s : St)
    (hm : s.mode = .ascii) (ho : Occurs cw s.i (238 :: packTriples (b.filterMap x12Val))) :
    Steps cw (1 + n) s (x12Done s n b 0 .x12) := by
  have h1 := Steps.one (step_latch cw s 238 .x12 ho.head hm (by simp))
  have h2 := steps_x12_triples cw n b hl hn (latch s .x12) rfl ho.tail
  have := h1.trans h2
  have e : emit (latch s .x12) (2 * n) b .x12 = x12Done s n b 0 .x12 := by
    simp [emit, latch, x12Done]
  rw [e] at this
  exact this

/-- the three ways an X12 segment ends, as the reference decoder sees them at position `p` (behind
the triples): `E` the codewords standing there that belong to the ending, `k` how many of them the
X12 rules consume, `m` the mode afterwards -/
inductive X12Tail (cw : Array Nat) (p : Nat) : List Nat → Nat → Mode → Prop
  /-- UNLATCH (also when it is the last codeword of the symbol) -/
  | unlatch : X12Tail cw p [254] 1 .ascii
  /-- exactly one codeword is left and it is not UNLATCH: it is an ASCII codeword, not consumed here -/
  | single (c : Nat) (hc : c ≠ 254) (hsz : cw.size = p + 1) : X12Tail cw p [c] 0 .ascii
  | exact (hsz : cw.size = p) : X12Tail cw p [] 0 .x12

theorem steps_x12 (cw : Array Nat) (n : Nat) (b : List Nat) (hl : b.length = 3 * n) (hn : X12Native b) (s : St)
    (hm : s.mode = .ascii) (E : List Nat) (k : Nat) (m : Mode) (ht : X12Tail cw (s.i + 1 + 2 * n) E k m)
    (ho : Occurs cw s.i (238 :: packTriples (b.filterMap x12Val) ++ E)) :
    ∃ j, j ≤ 1 + n + 1 ∧ Steps cw j s (x12Done s n b k m) ∧
      (m = .x12 → step cw (x12Done s n b k m) = .ok none) := by
  have hpl : (238 :: packTriples (b.filterMap x12Val)).length = 1 + 2 * n := by
    rw [List.length_cons, packTriples_length n _ (by rw [filterMap_native_length b hn, hl])]; omega
  have hbody := steps_x12_body cw n b hl hn s hm ho.left
  have hE : Occurs cw (s.i + 1 + 2 * n) E := by
    have := ho.right; rw [hpl] at this
    rw [Nat.add_assoc]; exact this
  cases ht with
  | unlatch =>
    refine ⟨1 + n + 1, Nat.le_refl _, ?_, fun h => by cases h⟩
    have h2 := step_x12_unlatch cw (x12Done s n b 0 .x12) (by simpa [x12Done] using hE.head) rfl
    exact hbody.trans (Steps.one h2)
  | single c hc hsz =>
    refine ⟨1 + n + 1, Nat.le_refl _, ?_, fun h => by cases h⟩
    have h2 := step_x12_last cw (x12Done s n b 0 .x12) c (by simpa [x12Done] using hE.head) rfl
      (by simp [x12Done]; omega) hc
    exact hbody.trans (Steps.one h2)
  | exact hsz =>
    exact ⟨1 + n, by omega, hbody, fun _ => step_end _ _ (by simp [x12Done]; omega)⟩

end DM.Lemmas.SpecX12
