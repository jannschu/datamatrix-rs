import DM.Lemmas.X12RT
import DM.Lemmas.ListSeg
import DM.Lemmas.CompleteEdifact
/-
The EDIFACT encoder's parts: the codewords `write4` assembles without bit operations (the decision of `try_ascii_end`,
`AsciiEndOK`, is in `AsciiSize.lean`), and the codewords and final state of a run of `edifact::encode` (`ediC`, `stAscii`;
the loop itself is analysed in `EdiGen`).
-/
namespace DM.Lemmas.EdiRT
open DM.Model DM.Model.Enc DM.Model.Dec DM.Lemmas DM.Lemmas.DecRun DM.Lemmas.AsciiRT DM.Lemmas.Complete
open DM.Lemmas.EncRT DM.Lemmas.X12RT DM.Spec.Build

theorem w1 (x0 s1 : Nat) (h1 : s1 < 64) : (x0 * 4) % 256 ||| (s1 / 16) = (x0 % 64 * 4 + s1 / 16) % 256 :=
  Pack.byte_or 2 x0 (s1 / 16) (by decide) (Nat.div_lt_of_lt_mul h1)

theorem w1' (s1 : Nat) (h1 : s1 < 64) : (31 * 4) % 256 ||| (s1 / 16) = (31 * 4 + s1 / 16) % 256 := w1 31 s1 h1

theorem w2 (s1 s2 : Nat) (h2 : s2 < 64) :
    (s1 * 16) % 256 ||| (s2 / 4) = (s1 % 16 * 16 + s2 / 4) % 256 :=
  Pack.byte_or 4 s1 (s2 / 4) (by decide) (Nat.div_lt_of_lt_mul h2)

theorem w3 (s2 s3 : Nat) (h3 : s3 < 64) :
    (s2 * 64) % 256 ||| s3 = (s2 % 4 * 64 + s3) % 256 :=
  Pack.byte_or 6 s2 s3 (by decide) h3


theorem write4_1 (s : St) (a : Nat) : write4 s [a] = s.push ((a * 4) % 256 ||| (0 % 64 / 16)) := rfl

theorem write4_2 (s : St) (a b : Nat) : write4 s [a, b] =
    (s.push ((a * 4) % 256 ||| (b % 64 / 16))).push ((b % 64 * 16) % 256 ||| (0 % 64 / 4)) := rfl

theorem write4_3 (s : St) (a b c : Nat) : write4 s [a, b, c] =
    ((s.push ((a * 4) % 256 ||| (b % 64 / 16))).push ((b % 64 * 16) % 256 ||| (c % 64 / 4))).push
      ((c % 64 * 64) % 256 ||| 0 % 64) := rfl

theorem write4_4 (s : St) (a b c d : Nat) : write4 s [a, b, c, d] =
    ((s.push ((a * 4) % 256 ||| (b % 64 / 16))).push ((b % 64 * 16) % 256 ||| (c % 64 / 4))).push
      ((c % 64 * 64) % 256 ||| d % 64) := rfl

theorem mod64_lt (x : Nat) : x % 64 < 64 := Nat.mod_lt _ (by decide)

/-- the codewords `write4` appends: those of the group of the 6-bit values of its (up to four)
symbols, cut after the one that holds the last symbol -/
theorem write4_cw (s : St) (sym : List Nat) :
    (write4 s sym).cw = s.cw ++
      (packEdifact [sym.getD 0 0 % 64, sym.getD 1 0 % 64, sym.getD 2 0 % 64, sym.getD 3 0 % 64]).take
        (if sym.length ≥ 3 then 3 else if sym.length ≥ 2 then 2 else 1) := by
  unfold write4
  simp only [w1 _ _ (mod64_lt (sym.getD 1 0)), w2 _ _ (mod64_lt (sym.getD 2 0)), w3 _ _ (mod64_lt (sym.getD 3 0)),
    packEdifact]
  by_cases h3 : sym.length ≥ 3
  · have h2 : sym.length ≥ 2 := by omega
    simp [h3, h2, St.push]
  · by_cases h2 : sym.length ≥ 2 <;> simp [h3, h2, St.push]

theorem write4_quad (s : St) (x0 x1 x2 x3 : Nat) :
    (write4 s [x0, x1, x2, x3]).cw = s.cw ++ packEdifact ([x0, x1, x2, x3].map (· % 64)) := by
  rw [write4_cw]; simp [packEdifact]

theorem write4_last (s : St) (br : List Nat) (hr : br.length ≤ 3) :
    (write4 s (br ++ [31])).cw = s.cw ++ ediLast br := by
  rw [write4_cw]
  match br, hr with
  | [], _ | [_], _ | [_, _], _ | [_, _, _], _ => simp [packEdifact, ediLast]
  | _ :: _ :: _ :: _ :: _, h => simp at h

/-- codewords after `q` complete quadruples -/
def ediC (body : List Nat) (q : Nat) : List Nat := 240 :: packEdifact ((body.take (4 * q)).map (· % 64))

theorem ediC_length (body : List Nat) (q : Nat) (h : 4 * q ≤ body.length) : (ediC body q).length = 1 + 3 * q := by
  unfold ediC
  rw [List.length_cons, packEdifact_length q _ (by simp; omega)]
  omega

def stAscii (list : List Sym) (body : List Nat) (pos : Nat) (cw : List Nat) : St :=
  { input := body, pos := pos, mode := .ascii, plan := [(0, .ascii)], newMode := none, cw := cw, list := list }

theorem ediC_succ (body : List Nat) (q : Nat) (h : 4 * q + 4 ≤ body.length) :
    ediC body (q + 1) = ediC body q ++ packEdifact (((body.drop (4 * q)).take 4).map (· % 64)) := by
  unfold ediC
  have : body.take (4 * (q + 1)) = body.take (4 * q) ++ (body.drop (4 * q)).take 4 := by
    have : 4 * (q + 1) = 4 * q + 4 := by omega
    rw [this, List.take_add]
  rw [this, List.map_append, packEdifact_append q _ _ (by simp; omega)]
  rfl

/-! the run's codewords in the form of the decoder lemma `Complete.edifact_Seg` (`240 :: ediCw chunk un`): the groups alone
read back as the characters they hold, groups and last group as the whole rest -/

theorem ediC_groups (b : List Nat) (q : Nat) (hq : 4 * q ≤ b.length) : ediC b q = 240 :: ediCw (b.take (4 * q)) false := by
  unfold ediC ediCw
  rw [show (b.take (4 * q)).length / 4 = q by rw [List.length_take]; omega, List.take_take, Nat.min_self]
  simp

theorem ediC_last (b : List Nat) (q : Nat) (hq : 4 * q ≤ b.length) (hr : b.length - 4 * q ≤ 3) :
    ediC b q ++ ediLast (b.drop (4 * q)) = 240 :: ediCw b true := by
  unfold ediC ediCw
  rw [show b.length / 4 = q by omega]
  simp

/-- the encoder's `symbol_size_left` tests guarantee that a decoder finds three codewords from the
start of the group that holds the UNLATCH value (`L` codewords stand before it) -/
theorem unlatch_room (list : List Sym) (L : Nat) (r : List Nat) (hr : r.length ≤ 3) (hcr : EdiChars r)
    (nok : ¬ AsciiEndOK list L r)
    (room : ∃ S, firstBigEnough list (L + r.length) = some S ∧ (r.length = 0 → dataCw S - L > 2) ∧
      (r.length ≠ 0 → r.length = 3 ∨ dataCw S - (L + r.length) > 0))
    (sym : Sym) (hsym : firstBigEnough list (L + (ediLast r).length) = some sym) : L + 3 ≤ dataCw sym := by
  obtain ⟨S, hS, r0, r1⟩ := room
  have hSge := SymbolList.fbe_some_ge _ _ _ hS
  have hge := SymbolList.fbe_some_ge _ _ _ hsym
  match hbr : r, hr with
  | [], _ =>
    subst hbr
    simp only [List.length_nil, Nat.add_zero, ediLast, List.length_singleton] at r0 hS hsym ⊢
    have h2 := r0 trivial
    have := SymbolList.fbe_same (n' := L + 1) hS (by omega) (by omega)
    rw [this] at hsym
    simp only [Option.some.injEq] at hsym
    subst hsym
    omega
  | [x], _ =>
    subst hbr
    simp only [ediLast, List.length_cons, List.length_nil] at r1 hS hsym ⊢
    have hge3 : dataCw S - L > 2 := by
      by_cases hle : dataCw S - L ≤ 2
      · exfalso
        apply nok
        have hx := (hcr x (by simp)).2
        have hasz : asciiSize [x] = 1 := by simp [asciiSize]; omega
        exact ⟨by simp, by omega, S, by rw [hasz]; exact hS, hle⟩
      · omega
    have := SymbolList.fbe_same (n' := L + (0 + 1 + 1)) hS (by omega) (by omega)
    rw [this] at hsym
    simp only [Option.some.injEq] at hsym
    subst hsym
    omega
  | [_, _], _ => exact hge
  | [_, _, _], _ => exact hge
  | _ :: _ :: _ :: _ :: _, h => simp at h

end DM.Lemmas.EdiRT
