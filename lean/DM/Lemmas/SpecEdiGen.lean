import DM.Lemmas.SpecEdi
import DM.Lemmas.EdiGen
import DM.Lemmas.TestSymbols
/-
The any-plan analysis of the EDIFACT encoder (`GEnd`, `edifactEncode_specGen`: in `EdiGen.lean`) against the reference
decoder: every exit as a segment the reference decoder reads back (`gEnd_seg`: also the planned switch to another mode
before the end of the data), and test vectors for the two switch exits, read back by `Spec.Stream.decode`.
`SpecMainEdi.edi_SInv` goes through the exits one by one because the invariant also needs their size conditions.
-/
namespace DM.Lemmas.SpecEdiGen
open DM.Model DM.Model.Enc DM.Lemmas DM.Lemmas.AsciiRT DM.Lemmas.Complete
open DM.Lemmas.EncRT DM.Lemmas.X12RT DM.Lemmas.EdiRT DM.Lemmas.EdiGen
open DM.Spec.Build (packEdifact)

open DM.Lemmas.SpecEdi in
theorem cwE_seg (body : List Nat) (p0 : Nat) (c0 : List Nat) (q r : Nat) (hr : r ≤ 3)
    (hn : 4 * q + r ≤ (bE body p0).length) :
    cwE body p0 c0 q ++ ediLast ((restE body p0 q).take r) = c0 ++ ediSegCw ((bE body p0).take (4 * q + r)) := by
  have hl : ((bE body p0).take (4 * q + r)).length = 4 * q + r := by rw [List.length_take]; omega
  have hq : (4 * q + r) / 4 = q := by omega
  unfold cwE ediSegCw
  rw [hl, hq, List.append_assoc]
  congr 2
  · unfold ediC
    rw [List.take_take, Nat.min_eq_left (by omega)]
  · unfold restE
    rw [List.drop_take]
    congr 2
    omega

theorem cwE_groups (body : List Nat) (p0 : Nat) (c0 : List Nat) (q : Nat) :
    cwE body p0 c0 q = c0 ++ ediC ((bE body p0).take (4 * q)) q := by
  unfold cwE ediC
  rw [List.take_take, Nat.min_self]

open DM.Lemmas.SpecEdi in
/-- The second alternative (the latch and whole groups only, `ediC`) is the ASCII end game and the exact fit, where the
decoder returns to ASCII by the rule "at most two codewords left" (`steps_edi_short`). -/
theorem gEnd_seg {list : List Sym} {body : List Nat} {p0 : Nat} {c0 : List Nat} {plan0 : List (Nat × EMode)} {s' : St}
    (h : GEnd list body p0 c0 plan0 s') (hc : EdiChars ((bE body p0).take (s'.pos - p0))) :
    p0 ≤ s'.pos ∧ s'.pos ≤ body.length ∧ s'.input = body ∧ s'.list = list ∧
    ((s'.cw = c0 ++ ediSegCw ((bE body p0).take (s'.pos - p0)) ∧
        SpecSegE (ediSegCw ((bE body p0).take (s'.pos - p0))) ((bE body p0).take (s'.pos - p0))
          (ediNeed ((bE body p0).take (s'.pos - p0)))) ∨
     (∃ q, ((bE body p0).take (s'.pos - p0)).length = 4 * q ∧
        s'.cw = c0 ++ ediC ((bE body p0).take (s'.pos - p0)) q)) := by
  have hbl : (bE body p0).length = body.length - p0 := by simp [bE]
  cases h with
  | ascii q hq ok eq =>
    subst eq
    simp only [stAscii] at hc ⊢
    have e : p0 + 4 * q - p0 = 4 * q := by omega
    rw [e] at hc ⊢
    refine ⟨by omega, hq, trivial, trivial, Or.inr ⟨q, by rw [List.length_take]; omega, cwE_groups body p0 c0 q⟩⟩
  | asciiSwitch q m hq ok hm planned eq =>
    subst eq
    simp only [stAscii] at hc ⊢
    have e : p0 + 4 * q - p0 = 4 * q := by omega
    rw [e] at hc ⊢
    refine ⟨by omega, by omega, trivial, trivial, Or.inr ⟨q, by rw [List.length_take]; omega, cwE_groups body p0 c0 q⟩⟩
  | unlatch q hq hr nok room eq =>
    subst eq
    simp only [stAscii] at hc ⊢
    rw [restE_length] at hr
    have e : body.length - p0 = 4 * q + (body.length - (p0 + 4 * q)) := by omega
    have hcw := cwE_seg body p0 c0 q (body.length - (p0 + 4 * q)) hr (by omega)
    have ht : (restE body p0 q).take (body.length - (p0 + 4 * q)) = restE body p0 q := by
      rw [← restE_length, List.take_length]
    rw [ht, ← e] at hcw
    exact ⟨by omega, Nat.le_refl _, trivial, trivial, Or.inl ⟨hcw, specSegE_unlatch _ hc⟩⟩
  | exact q hq fit cw pos inp lst =>
    rw [pos] at hc ⊢
    have e : body.length - p0 = 4 * q := by omega
    rw [e] at hc ⊢
    refine ⟨by omega, Nat.le_refl _, inp, lst, Or.inr ⟨q, by rw [List.length_take]; omega, ?_⟩⟩
    rw [cw, cwE_groups]
  | switch q r hr pos more nok cw inp lst mode planned plan newMode =>
    rw [pos] at hc ⊢
    have e : p0 + 4 * q + r - p0 = 4 * q + r := by omega
    rw [e] at hc ⊢
    have hcw := cwE_seg body p0 c0 q r hr (by omega)
    refine ⟨by omega, by omega, inp, lst, Or.inl ⟨by rw [cw, hcw], specSegE_unlatch _ hc⟩⟩

/-- Test vectors for the `switch` exit: "ABCD" in EDIFACT, then "ABC" in C40 (switch with an empty group: codeword 124
alone); "ABCDAB" in EDIFACT then "abc" in Text (UNLATCH in the third slot). The reference decoder
reads both streams back. -/
example : DM.Lemmas.SpecEdi.ediSegCw [65, 66, 67, 68] = [240, 4, 32, 196, 124] := by decide
example : DM.Lemmas.SpecEdi.ediSegCw [65, 66, 67, 68, 65, 66] = [240, 4, 32, 196, 4, 39, 192] := by decide
example : (match Enc.run (symbolList (List.range 30)) [] [65, 66, 67, 68, 65, 66, 67] [(7, .edifact), (3, .c40), (0, .c40)] with
    | .ok (cw, _) => cw == [240, 4, 32, 196, 124, 230, 89, 233] &&
        (DM.Spec.Stream.decode cw).toOption.map (fun d => d.body) == some [65, 66, 67, 68, 65, 66, 67]
    | .error _ => false) = true := by
  rw [DM.Lemmas.symbols30]
  decide +kernel
example : (match Enc.run (symbolList (List.range 30)) [] [65, 66, 67, 68, 65, 66, 97, 98, 99]
      [(9, .edifact), (3, .text), (0, .text)] with
    | .ok (cw, _) => cw == [240, 4, 32, 196, 4, 39, 192, 239, 89, 233] &&
        (DM.Spec.Stream.decode cw).toOption.map (fun d => d.body) == some [65, 66, 67, 68, 65, 66, 97, 98, 99]
    | .error _ => false) = true := by
  rw [DM.Lemmas.symbols30]
  decide +kernel

/-- The `asciiSwitch` exit with a non-ASCII target is a defect of the encoder under such plans (the
stale latch 230 is written in front of the ASCII rest): the reference decoder reads something else. -/
example : (match Enc.run (symbolList (List.range 30)) [] [65, 66, 67, 68, 65] [(5, .edifact), (1, .c40), (0, .c40)] with
    | .ok (cw, _) => cw == [240, 4, 32, 196, 230, 66, 129, 56] &&
        (DM.Spec.Stream.decode cw).toOption.map (fun d => d.body) == some [65, 66, 67, 68, 57, 36, 74, 65, 55]
    | .error _ => false) = true := by
  rw [DM.Lemmas.symbols30]
  decide +kernel

end DM.Lemmas.SpecEdiGen
