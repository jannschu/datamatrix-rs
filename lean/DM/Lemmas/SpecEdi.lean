import DM.Lemmas.SpecAscii
import DM.Lemmas.EdiRT
/-
The reference decoder (`DM.Spec.Stream`) in EDIFACT mode, over `SpecStep.step_edifact` / `step_edifact_short` (its character
table is the crate decoder's, `edifactChar_eq`): one step on a
group of four EDIFACT characters and on the last group with the UNLATCH value 31 in the next free slot, an EDIFACT stretch
anywhere in a stream (`SpecSegE`) and the three ways the output of the EDIFACT encoder ends.
-/
namespace DM.Lemmas.SpecEdi
open DM.Model DM.Lemmas DM.Lemmas.AsciiRT DM.Lemmas.SpecStep DM.Lemmas.SpecAscii DM.Spec.Stream
open DM.Lemmas.Complete
open DM.Spec.Build (packEdifact)

theorem edifactChar_eq (v : Nat) (h : v < 64) : edifactChar v = Dec.decEdifactChar v := by
  unfold edifactChar Dec.decEdifactChar
  split <;> split <;> omega

theorem ediVal (x : Nat) (h : 32 ≤ x ∧ x ≤ 94) : x % 64 < 64 ∧ x % 64 ≠ 31 ∧ edifactChar (x % 64) = x :=
  have ⟨l, n, d⟩ := edi_char x h
  ⟨l, n, (edifactChar_eq _ l).trans d⟩

theorem step_edi_quad (cw : Array Nat) (s : St) (x0 x1 x2 x3 : Nat) (hm : s.mode = .edifact)
    (h0 : 32 ≤ x0 ∧ x0 ≤ 94) (h1 : 32 ≤ x1 ∧ x1 ≤ 94) (h2 : 32 ≤ x2 ∧ x2 ≤ 94) (h3 : 32 ≤ x3 ∧ x3 ≤ 94)
    (ho : Occurs cw s.i (packEdifact [x0 % 64, x1 % 64, x2 % 64, x3 % 64])) :
    step cw s = .ok (some (emit s 3 [x0, x1, x2, x3] .edifact)) := by
  obtain ⟨l0, n0, e0⟩ := ediVal x0 h0
  obtain ⟨l1, n1, e1⟩ := ediVal x1 h1
  obtain ⟨l2, n2, e2⟩ := ediVal x2 h2
  obtain ⟨l3, n3, e3⟩ := ediVal x3 h3
  obtain ⟨u0, u1, u2, u3⟩ := edi_unpack _ _ _ _ l0 l1 l2 l3
  obtain ⟨g, g2⟩ := idx ho.tail.tail.head
  rw [step_edifact cw s hm g, (idx ho.head).2, (idx ho.tail.head).2, g2]
  unfold ediGroup
  rw [u0, u1, u2, u3, if_neg n0, if_neg n1, if_neg n2, if_neg n3, e0, e1, e2, e3]

/-- The group must have three codewords (whatever follows `ediLast` is not looked at). -/
theorem step_edi_last (cw : Array Nat) (s : St) (br : List Nat) (hm : s.mode = .edifact) (hr : br.length ≤ 3)
    (hc : EdiChars br) (ho : Occurs cw s.i (ediLast br)) (h3 : s.i + 2 < cw.size) :
    step cw s = .ok (some { emit s (ediLast br).length br .edifact with mode := .ascii }) := by
  rw [step_edifact cw s hm h3]
  match br, hr, hc, ho with
  | [], _, _, ho =>
    rw [(idx ho.head).2, emit_nil]
    rfl
  | [x1], _, hc, ho =>
    obtain ⟨l1, n1, e1⟩ := ediVal x1 (hc x1 (by simp))
    obtain ⟨u0, u1, _⟩ := edi_unpack _ 31 0 0 l1 (by decide) (by decide) (by decide)
    rw [(idx ho.head).2, (idx ho.tail.head).2]
    unfold ediGroup
    rw [u0, u1, if_neg n1, if_pos rfl, e1]
    rfl
  | [x1, x2], _, hc, ho =>
    obtain ⟨l1, n1, e1⟩ := ediVal x1 (hc x1 (by simp))
    obtain ⟨l2, n2, e2⟩ := ediVal x2 (hc x2 (by simp))
    obtain ⟨u0, u1, u2, _⟩ := edi_unpack _ _ 31 0 l1 l2 (by decide) (by decide)
    rw [(idx ho.head).2, (idx ho.tail.head).2, (idx ho.tail.tail.head).2]
    unfold ediGroup
    rw [u0, u1, u2, if_neg n1, if_neg n2, if_pos rfl, e1, e2]
    rfl
  | [x1, x2, x3], _, hc, ho =>
    obtain ⟨l1, n1, e1⟩ := ediVal x1 (hc x1 (by simp))
    obtain ⟨l2, n2, e2⟩ := ediVal x2 (hc x2 (by simp))
    obtain ⟨l3, n3, e3⟩ := ediVal x3 (hc x3 (by simp))
    obtain ⟨u0, u1, u2, u3⟩ := edi_unpack _ _ _ 31 l1 l2 l3 (by decide)
    rw [(idx ho.head).2, (idx ho.tail.head).2, (idx ho.tail.tail.head).2]
    unfold ediGroup
    rw [u0, u1, u2, u3, if_neg n1, if_neg n2, if_neg n3, if_pos rfl, e1, e2, e3]
    rfl
  | _ :: _ :: _ :: _ :: _, h, _, _ => simp at h

theorem ediLast_length (br : List Nat) (hr : br.length ≤ 3) : 1 ≤ (ediLast br).length ∧ (ediLast br).length ≤ 3 := by
  match br, hr with
  | [], _ => simp [ediLast]
  | [_], _ => simp [ediLast]
  | [_, _], _ => simp [ediLast]
  | [_, _, _], _ => simp [ediLast]
  | _ :: _ :: _ :: _ :: _, h => simp at h

theorem steps_ediQuads (cw : Array Nat) : ∀ (q : Nat) (l : List Nat), l.length = 4 * q → EdiChars l → ∀ s : St,
    s.mode = .edifact → Occurs cw s.i (packEdifact (l.map (· % 64))) →
    Steps cw q s (emit s (3 * q) l .edifact) := by
  refine quads_rec (fun _ s _ _ => by rw [emit_zero]; exact Steps.refl cw s) fun q x0 x1 x2 x3 t _ ih hc s hm ho => ?_
  have hsplit : packEdifact ((x0 :: x1 :: x2 :: x3 :: t).map (· % 64)) =
      packEdifact [x0 % 64, x1 % 64, x2 % 64, x3 % 64] ++ packEdifact (t.map (· % 64)) := by
    simp [packEdifact]
  rw [hsplit] at ho
  have s1 := Steps.one (step_edi_quad cw s x0 x1 x2 x3 hm (hc x0 (by simp)) (hc x1 (by simp)) (hc x2 (by simp))
    (hc x3 (by simp)) ho.left)
  have ho2 := ho.right
  have hl3 : (packEdifact [x0 % 64, x1 % 64, x2 % 64, x3 % 64]).length = 3 := by simp [packEdifact]
  rw [hl3] at ho2
  have s2 := ih (fun x hx => hc x (by simp [hx])) (emit s 3 [x0, x1, x2, x3] .edifact) (by simpa using hm)
    (by simpa using ho2)
  have := s1.trans s2
  rw [emit_emit] at this
  have e1 : 1 + q = q + 1 := by omega
  have e2 : 3 + 3 * q = 3 * (q + 1) := by omega
  rw [e1, e2] at this
  simpa using this

/-! ### EDIFACT stretches inside a message

`SpecSegE X chunk need` is the counterpart of `SpecAscii.SpecSeg` (`X` includes the latch 240); `need` is what
the rule "a group is only read when three codewords are left" asks for behind the codeword that holds the UNLATCH value. -/

def emitE (s : St) (n : Nat) (chunk : List Nat) : St :=
  { s with i := s.i + n, mode := .ascii, cst := {}, out := s.out ++ chunk.toArray,
           trace := s.trace ++ Array.replicate chunk.length .edifact, latches := s.latches.push (s.i, .edifact) }

@[simp] theorem emitE_mode (s : St) (n : Nat) (chunk : List Nat) : (emitE s n chunk).mode = .ascii := rfl
@[simp] theorem emitE_i (s : St) (n : Nat) (chunk : List Nat) : (emitE s n chunk).i = s.i + n := rfl

theorem emitE_eq (s : St) (n : Nat) (chunk : List Nat) : emitE s n chunk = afterStretch s n {} chunk .edifact .ascii := rfl

def SpecSegE (X chunk : List Nat) (need : Nat) : Prop :=
  ∀ (cw : Array Nat) (s : St), s.mode = .ascii → Occurs cw s.i X → s.i + X.length + need ≤ cw.size →
    ∃ k, k ≤ X.length ∧ Steps cw k s (emitE s X.length chunk)

theorem steps_edifact_from (cw : Array Nat) (s : St) (q : Nat) (l : List Nat) (hm : s.mode = .ascii)
    (hl : l.length = 4 * q) (hc : EdiChars l) (ho : Occurs cw s.i (240 :: packEdifact (l.map (· % 64)))) :
    Steps cw (1 + q) s (emit (latch s .edifact) (3 * q) l .edifact) := by
  have s1 := Steps.one (step_latch cw s 240 .edifact ho.head hm (by simp))
  have s2 := steps_ediQuads cw q l hl hc (latch s .edifact) rfl ho.tail
  exact s1.trans s2

theorem emit_latch_ascii (s : St) (n k : Nat) (b : List Nat) (h : 1 + n = k) :
    ({ emit (latch s .edifact) n b .edifact with mode := .ascii } : St) = emitE s k b := by
  subst h
  simp [emit, emitE, latch, Nat.add_assoc]

/-- the codewords of an EDIFACT stretch closed by the UNLATCH value: latch, complete groups, last group -/
def ediSegCw (b : List Nat) : List Nat :=
  EdiRT.ediC b (b.length / 4) ++ ediLast (b.drop (4 * (b.length / 4)))

theorem ediSegCw_length (b : List Nat) :
    (ediSegCw b).length = 1 + 3 * (b.length / 4) + (ediLast (b.drop (4 * (b.length / 4)))).length := by
  unfold ediSegCw
  rw [List.length_append, EdiRT.ediC_length b _ (by omega)]

def ediNeed (b : List Nat) : Nat := 3 - (ediLast (b.drop (4 * (b.length / 4)))).length

theorem specSegE_unlatch (b : List Nat) (hc : EdiChars b) : SpecSegE (ediSegCw b) b (ediNeed b) := by
  intro cw s hm ho hneed
  have hcl : EdiChars (b.take (4 * (b.length / 4))) := fun x hx => hc x (List.mem_of_mem_take hx)
  have hcr : EdiChars (b.drop (4 * (b.length / 4))) := fun x hx => hc x (List.mem_of_mem_drop hx)
  have hrl : (b.drop (4 * (b.length / 4))).length ≤ 3 := by simp; omega
  have hlast := ediLast_length _ hrl
  have hlen := ediSegCw_length b
  unfold ediSegCw at ho
  have s1 := steps_edifact_from cw s (b.length / 4) (b.take (4 * (b.length / 4))) hm (by simp; omega) hcl ho.left
  have o2 := ho.right
  rw [EdiRT.ediC_length b (b.length / 4) (by omega)] at o2
  have hstep := step_edi_last cw (emit (latch s .edifact) (3 * (b.length / 4)) (b.take (4 * (b.length / 4))) .edifact)
    (b.drop (4 * (b.length / 4))) rfl hrl hcr (by simpa [latch, Nat.add_assoc] using o2)
    (by simp only [emit_i, latch]; unfold ediNeed at hneed; rw [hlen] at hneed; omega)
  have s2 := s1.trans (Steps.one hstep)
  rw [emit_emit, List.take_append_drop, emit_latch_ascii s _ (ediSegCw b).length b (by rw [hlen]; omega)] at s2
  exact ⟨1 + b.length / 4 + 1, by rw [hlen]; omega, s2⟩

theorem steps_edi_short (cw : Array Nat) (s : St) (b : List Nat) (q : Nat) (hm : s.mode = .ascii)
    (hc : EdiChars (b.take (4 * q))) (hq : 4 * q ≤ b.length) (ho : Occurs cw s.i (EdiRT.ediC b q))
    (h1 : s.i + 1 + 3 * q < cw.size) (h2 : cw.size ≤ s.i + 1 + 3 * q + 2) :
    Steps cw (1 + q + 1) s (emitE s (1 + 3 * q) (b.take (4 * q))) := by
  have s1 := steps_edifact_from cw s q (b.take (4 * q)) hm (by simp; omega) hc ho
  have hstep := step_edifact_short cw (emit (latch s .edifact) (3 * q) (b.take (4 * q)) .edifact) rfl
    (by simp only [emit_i, latch]; omega) (by simp only [emit_i, latch]; omega)
  have s2 := s1.trans (Steps.one hstep)
  rw [emit_latch_ascii s _ _ _ rfl] at s2
  exact s2

theorem steps_edi_exact (cw : Array Nat) (s : St) (b : List Nat) (q : Nat) (hm : s.mode = .ascii)
    (hc : EdiChars (b.take (4 * q))) (hq : 4 * q ≤ b.length) (ho : Occurs cw s.i (EdiRT.ediC b q))
    (hx : cw.size = s.i + 1 + 3 * q) :
    Steps cw (1 + q) s (emit (latch s .edifact) (3 * q) (b.take (4 * q)) .edifact) ∧
    step cw (emit (latch s .edifact) (3 * q) (b.take (4 * q)) .edifact) = .ok none :=
  ⟨steps_edifact_from cw s q (b.take (4 * q)) hm (by simp; omega) hc ho,
    step_end _ _ (by simp only [emit_i, latch]; omega)⟩

end DM.Lemmas.SpecEdi
