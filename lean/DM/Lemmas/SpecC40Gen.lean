import DM.Lemmas.SpecC40
import DM.Lemmas.SpecX12Gen
/-
C40 / Text under arbitrary plans, against the reference decoder: `SpecSegC40 text X chunk` — wherever
the latch (230 / 239), the codewords `X` and one of the three endings (`C40Tail`) stand in a stream and the
reference decoder arrives there in ASCII mode, it reads `X` as `chunk` and ends as the ending says.
`c40_to_TEndQ` puts the outcome of `c40::encode` (`C40Gen.c40Encode_gen`, stated with the crate decoder's
value automaton) into the shape `SpecX12.TEndQ`, through `SpecC40.values_bridge_run`.
-/
namespace DM.Lemmas.SpecC40Gen
open DM.Model DM.Model.Enc DM.Lemmas.Complete
open DM.Lemmas.EncRT DM.Lemmas.C40RT DM.Lemmas.C40Gen DM.Lemmas.SpecStep
open DM.Lemmas.SpecC40 (cmode cvals emitC steps_c40 step_c40_unlatch step_c40_last values_bridge_run toS)
open DM.Lemmas.SpecX12 (TEndQ)
open DM.Lemmas.PlanProv
open DM.Spec.Build

def c40Done (text : Bool) (s : DM.Spec.Stream.St) (n : Nat) (cst : DM.Spec.Stream.CState) (b : List Nat) (k : Nat)
    (m : DM.Spec.Stream.Mode) : DM.Spec.Stream.St :=
  { s with i := s.i + 1 + 2 * n + k, mode := m, cst := cst, out := s.out ++ b.toArray,
           trace := s.trace ++ Array.replicate b.length (cmode text), latches := s.latches.push (s.i, cmode text) }

theorem c40Done_eq (text : Bool) (s : DM.Spec.Stream.St) (n : Nat) (cst : DM.Spec.Stream.CState) (b : List Nat) (k : Nat) (m : DM.Spec.Stream.Mode) :
    c40Done text s n cst b k m = afterStretch s (1 + 2 * n + k) cst b (cmode text) m := by
  simp [c40Done, afterStretch, Nat.add_assoc]

/-- the three ways a C40 / Text segment ends, as the reference decoder sees them at position `p`
(behind the triples): `E` the codewords standing there that belong to the ending, `k` how many of
them the C40 rules consume, `m` the mode afterwards -/
inductive C40Tail (text : Bool) (cw : Array Nat) (p : Nat) : List Nat → Nat → DM.Spec.Stream.Mode → Prop
  /-- UNLATCH (also when it is the last codeword of the symbol) -/
  | unlatch : C40Tail text cw p [254] 1 .ascii
  /-- exactly one codeword is left and it is not UNLATCH: an ASCII codeword, not consumed here -/
  | single (c : Nat) (hc : c ≠ 254) (hsz : cw.size = p + 1) : C40Tail text cw p [c] 0 .ascii
  | exact (hsz : cw.size = p) : C40Tail text cw p [] 0 (cmode text)

def SpecSegC40 (text : Bool) (X chunk : List Nat) : Prop :=
  ∃ (n : Nat) (cst : DM.Spec.Stream.CState), X.length = 2 * n ∧
    ∀ (cw : Array Nat) (s : DM.Spec.Stream.St) (E : List Nat) (k : Nat) (m : DM.Spec.Stream.Mode), s.mode = .ascii →
      C40Tail text cw (s.i + 1 + 2 * n) E k m → Occurs cw s.i (latchOf text :: X ++ E) →
      ∃ j, j ≤ 1 + n + 1 ∧ Steps cw j s (c40Done text s n cst chunk k m) ∧
        (m = cmode text → DM.Spec.Stream.step cw (c40Done text s n cst chunk k m) = .ok none)

theorem emitC_latch (text : Bool) (s : DM.Spec.Stream.St) (n : Nat) (cst : DM.Spec.Stream.CState) (chunk : List Nat) :
    emitC (DM.Spec.Stream.latch s (cmode text)) (2 * n) cst chunk = c40Done text s n cst chunk 0 (cmode text) := by
  simp [emitC, DM.Spec.Stream.latch, c40Done, Nat.add_assoc]

theorem specSegC40_pack (text : Bool) (n : Nat) (V : List Nat) (cst : DM.Spec.Stream.CState) (chunk : List Nat)
    (hl : V.length = 3 * n) (hlt : ∀ v ∈ V, v < 40) (hv : cvals text V {} = .ok (cst, chunk)) :
    SpecSegC40 text (packTriples V) chunk := by
  refine ⟨n, cst, packTriples_length n V hl, ?_⟩
  intro cw s E k m hm ht ho
  have hpl : (latchOf text :: packTriples V).length = 1 + 2 * n := by
    rw [List.length_cons, packTriples_length n V hl]; omega
  have hbody : Steps cw (1 + n) s (c40Done text s n cst chunk 0 (cmode text)) := by
    have := steps_c40 text cw n V hl hlt s cst chunk hm ho.left hv
    rw [emitC_latch] at this
    exact this
  have hE : Occurs cw (s.i + 1 + 2 * n) E := by
    have := ho.right; rw [hpl] at this
    rw [Nat.add_assoc]; exact this
  cases ht with
  | unlatch =>
    refine ⟨1 + n + 1, Nat.le_refl _, ?_, fun h => by cases text <;> cases h⟩
    have h2 := step_c40_unlatch text cw (c40Done text s n cst chunk 0 (cmode text)) (by simpa [c40Done] using hE.head) rfl
    exact hbody.trans (Steps.one h2)
  | single c hc hsz =>
    refine ⟨1 + n + 1, Nat.le_refl _, ?_, fun h => by cases text <;> cases h⟩
    have h2 := step_c40_last text cw (c40Done text s n cst chunk 0 (cmode text)) c (by simpa [c40Done] using hE.head) rfl
      (by simp [c40Done]; omega) hc
    exact hbody.trans (Steps.one h2)
  | exact hsz =>
    exact ⟨1 + n, by omega, hbody, fun _ => step_end _ _ (by simp [c40Done]; omega)⟩

theorem SpecSegC40.unlatch {text : Bool} {X chunk : List Nat} (h : SpecSegC40 text X chunk) (cw : Array Nat)
    (s : DM.Spec.Stream.St) (hm : s.mode = .ascii) (ho : Occurs cw s.i (latchOf text :: X ++ [254])) :
    ∃ j cst, j ≤ X.length + 2 ∧ Steps cw j s (c40Done text s (X.length / 2) cst chunk 1 .ascii) := by
  obtain ⟨n, cst, h1, h4⟩ := h
  obtain ⟨j, hj, hst, _⟩ := h4 cw s [254] 1 .ascii hm .unlatch ho
  have : X.length / 2 = n := by omega
  exact ⟨j, cst, by omega, by rw [this]; exact hst⟩

theorem SpecSegC40.single {text : Bool} {X chunk : List Nat} (h : SpecSegC40 text X chunk) (cw : Array Nat)
    (s : DM.Spec.Stream.St) (hm : s.mode = .ascii) (c : Nat) (hc : c ≠ 254) (hsz : cw.size = s.i + 1 + X.length + 1)
    (ho : Occurs cw s.i (latchOf text :: X ++ [c])) :
    ∃ j cst, j ≤ X.length + 2 ∧ Steps cw j s (c40Done text s (X.length / 2) cst chunk 0 .ascii) := by
  obtain ⟨n, cst, h1, h4⟩ := h
  obtain ⟨j, hj, hst, _⟩ := h4 cw s [c] 0 .ascii hm (.single c hc (by omega)) ho
  have : X.length / 2 = n := by omega
  exact ⟨j, cst, by omega, by rw [this]; exact hst⟩

theorem SpecSegC40.exact {text : Bool} {X chunk : List Nat} (h : SpecSegC40 text X chunk) (cw : Array Nat)
    (s : DM.Spec.Stream.St) (hm : s.mode = .ascii) (hsz : cw.size = s.i + 1 + X.length) (ho : Occurs cw s.i (latchOf text :: X)) :
    ∃ j cst, j ≤ X.length + 2 ∧ Steps cw j s (c40Done text s (X.length / 2) cst chunk 0 (cmode text)) ∧
      DM.Spec.Stream.step cw (c40Done text s (X.length / 2) cst chunk 0 (cmode text)) = .ok none := by
  obtain ⟨n, cst, h1, h4⟩ := h
  obtain ⟨j, hj, hst, hfin⟩ := h4 cw s [] 0 (cmode text) hm (.exact (by omega)) (by simpa using ho)
  have : X.length / 2 = n := by omega
  rw [this]
  exact ⟨j, cst, by omega, hst, hfin rfl⟩

/-- in the form `SpecMainSeg.step_seg` and `SpecPure.spec_run_seg` ask for -/
theorem dec_c40 (text : Bool) {X chunk : List Nat} (hseg : SpecSegC40 text X chunk) (cw : Array Nat) (sD : DM.Spec.Stream.St)
    (E : List Nat) (kk : Nat) (m : DM.Spec.Stream.Mode) (hmD : sD.mode = .ascii) (ho : Occurs cw sD.i (latchOf text :: X ++ E))
    (ht : C40Tail text cw (sD.i + 1 + X.length) E kk m) :
    ∃ j cst, j ≤ 2 * (1 + X.length) ∧ Steps cw j sD (afterStretch sD (1 + X.length + kk) cst chunk (cmode text) m) := by
  obtain ⟨n, cst, hX, h4⟩ := hseg
  obtain ⟨j, hj, hst, _⟩ := h4 cw sD E kk m hmD (by rw [← hX]; exact ht) ho
  exact ⟨j, cst, by omega, by rw [hX, ← c40Done_eq]; exact hst⟩

theorem c40_to_TEndQ (text : Bool) (list : List Sym) (body : List Nat) (p0 : Nat) (c0 : List Nat) (s' : St)
    (h : End text list body p0 c0 s' ∧ Handed body (modeOf text) s') :
    TEndQ (SpecSegC40 text) list body p0 c0 (latchOf text) s' :=
  DM.Lemmas.MainRT.c40_to_TEndP text (SpecSegC40 text)
    (fun n V _ st' hVl hVlt hdec => specSegC40_pack text n V (toS st') _ hVl hVlt (values_bridge_run text hdec)) list body p0 c0 s' h

/-- "1ABCDEFab": C40 entered behind the ASCII codeword for "1", with the plan "ASCII for the last two
characters" pending -/
def exampleState : St :=
  { input := [49, 65, 66, 67, 68, 69, 70, 97, 98], pos := 1, mode := .c40, plan := [(2, .ascii), (0, .ascii)],
    newMode := none, cw := [50, 230], list := symbolList (List.range 30) }

/-- `c40Encode_gen`, read by `c40_to_TEndQ`, applies to it: the hypotheses can be met in the middle of a mixed plan -/
example : ∃ s3, c40Encode false exampleState = .ok s3 ∧
    TEndQ (SpecSegC40 false) (symbolList (List.range 30)) [49, 65, 66, 67, 68, 69, 70, 97, 98] 1 [50] 230 s3 := by
  match h : c40Encode false exampleState with
  | .ok s3 =>
    exact ⟨s3, rfl, c40_to_TEndQ false _ _ 1 [50] s3
      (c40Encode_gen false _ _ (by decide) 1 [50] exampleState s3 rfl rfl rfl (by decide) rfl rfl rfl
        (planOKE_of_planOK _ (by intro e he; simp [exampleState] at he; rcases he with rfl | rfl <;> simp)) h)⟩
  | .error e =>
    have : (match c40Encode false exampleState with | .ok _ => true | .error _ => false) = true := by decide +kernel
    rw [h] at this
    cases this

end DM.Lemmas.SpecC40Gen
