import DM.Lemmas.SpecStep
import DM.Lemmas.C40Vals
/-
The reference decoder (`DM.Spec.Stream`) in C40 / Text mode (one development, generic in
`text : Bool`), over `SpecStep.step_c40_eq`: its loop over the values of a pair of codewords as the
function `cvals` (`valsLoop_ok`), and from these a pair of codewords, UNLATCH, the end-of-symbol rule;
the crate's value automaton and the standard's agree (`values_bridge`); the values of a string of bytes
decode to that string; whole runs (`steps_c40`).
-/
namespace DM.Lemmas.SpecC40
open DM.Model DM.Lemmas.SpecStep DM.Lemmas.Complete
open DM.Spec.Stream
open DM.Spec.Build (packTriples c40Vals)
open DM.Lemmas.C40RT (latchOf modeOf)

def cmode (text : Bool) : Mode := if text then .text else .c40

def cvals (text : Bool) : List Nat → CState → Except String (CState × List Nat)
  | [], st => .ok (st, [])
  | v :: vs, st =>
    match c40Value text st v with
    | .error e => .error e
    | .ok (st', ob) =>
      match cvals text vs st' with
      | .error e => .error e
      | .ok (st'', o) => .ok (st'', ob.toList ++ o)

theorem cvals_cons {text : Bool} {v : Nat} {t : List Nat} {st c1 cst : CState} {ob : Option Nat} {o : List Nat}
    (h1 : c40Value text st v = .ok (c1, ob)) (h2 : cvals text t c1 = .ok (cst, o)) :
    cvals text (v :: t) st = .ok (cst, ob.toList ++ o) := by
  simp only [cvals, h1, h2]

theorem cvals_cons_ok {text : Bool} {v : Nat} {t : List Nat} {st cst : CState} {chunk : List Nat}
    (h : cvals text (v :: t) st = .ok (cst, chunk)) :
    ∃ c1 ob o, c40Value text st v = .ok (c1, ob) ∧ cvals text t c1 = .ok (cst, o) ∧ chunk = ob.toList ++ o := by
  simp only [cvals] at h
  split at h
  · cases h
  · rename_i c1 ob h1
    split at h
    · cases h
    · rename_i c2 o h2
      cases h
      exact ⟨c1, ob, o, h1, h2, rfl⟩

theorem cvals_append (text : Bool) : ∀ (V1 V2 : List Nat) (st : CState),
    cvals text (V1 ++ V2) st =
      match cvals text V1 st with
      | .error e => .error e
      | .ok (st1, o1) =>
        match cvals text V2 st1 with
        | .error e => .error e
        | .ok (st2, o2) => .ok (st2, o1 ++ o2) := by
  intro V1
  induction V1 with
  | nil =>
    intro V2 st
    simp only [List.nil_append, cvals]
    cases cvals text V2 st with
    | error e => rfl
    | ok r => simp
  | cons v t ih =>
    intro V2 st
    simp only [List.cons_append, cvals]
    cases c40Value text st v with
    | error e => rfl
    | ok r =>
      obtain ⟨st', ob⟩ := r
      simp only []
      rw [ih]
      cases cvals text t st' with
      | error e => rfl
      | ok r1 =>
        obtain ⟨st1, o1⟩ := r1
        simp only []
        cases cvals text V2 st1 with
        | error e => rfl
        | ok r2 => simp

theorem cvals_append_ok {text : Bool} {V1 V2 : List Nat} {st cst : CState} {chunk : List Nat}
    (h : cvals text (V1 ++ V2) st = .ok (cst, chunk)) :
    ∃ c1 o1 o2, cvals text V1 st = .ok (c1, o1) ∧ cvals text V2 c1 = .ok (cst, o2) ∧ chunk = o1 ++ o2 := by
  rw [cvals_append] at h
  split at h
  · cases h
  · rename_i c1 o1 h1
    split at h
    · cases h
    · rename_i c2 o2 h2
      cases h
      exact ⟨c1, o1, o2, h1, h2, rfl⟩

def emitC (s : St) (n : Nat) (cst : CState) (chunk : List Nat) : St :=
  { s with i := s.i + n, cst := cst, out := s.out ++ chunk.toArray,
           trace := s.trace ++ Array.replicate chunk.length s.mode }

@[simp] theorem emitC_mode (s : St) (n : Nat) (cst : CState) (chunk : List Nat) : (emitC s n cst chunk).mode = s.mode := rfl
@[simp] theorem emitC_i (s : St) (n : Nat) (cst : CState) (chunk : List Nat) : (emitC s n cst chunk).i = s.i + n := rfl
@[simp] theorem emitC_cst (s : St) (n : Nat) (cst : CState) (chunk : List Nat) : (emitC s n cst chunk).cst = cst := rfl

theorem emitC_emitC (s : St) (a b : Nat) (c1 c2 : CState) (x y : List Nat) :
    emitC (emitC s a c1 x) b c2 y = emitC s (a + b) c2 (x ++ y) := by
  simp [emitC, Nat.add_assoc, ← Array.replicate_append_replicate]

theorem emitC_zero (s : St) : emitC s 0 s.cst [] = s := by
  simp [emitC]

theorem emitC_push (s : St) (c1 cst : CState) (b : Nat) (o : List Nat) :
    emitC (push { s with cst := c1 } b s.mode) 0 cst o = emitC s 0 cst (b :: o) := by
  simp only [emitC, push, List.length_cons]
  congr 1
  · apply Array.ext'; simp
  · apply Array.ext'; simp [List.replicate_succ]

theorem cmode_cases (text : Bool) : cmode text = .c40 ∨ cmode text = .text := by
  cases text
  · exact Or.inl rfl
  · exact Or.inr rfl

theorem valsLoop_ok (text : Bool) : ∀ (V : List Nat) (s : St) (cst : CState) (chunk : List Nat), s.mode = cmode text →
    cvals text V s.cst = .ok (cst, chunk) → valsLoop V s = .ok (emitC s 0 cst chunk) := by
  intro V
  induction V with
  | nil =>
    intro s cst chunk _ hv
    cases hv
    rw [emitC_zero]
    rfl
  | cons v t ih =>
    intro s cst chunk hm hv
    obtain ⟨c1, ob, o, h1, h2, rfl⟩ := cvals_cons_ok hv
    have hmt : (s.mode == Mode.text) = text := by rw [hm]; cases text <;> rfl
    unfold valsLoop
    rw [List.forIn_cons, hmt, h1]
    cases ob with
    | none => exact ih { s with cst := c1 } cst o hm h2
    | some b =>
      exact (ih (push { s with cst := c1 } b s.mode) cst o hm h2).trans (congrArg Except.ok (emitC_push s c1 cst b o))

theorem step_c40_pair (text : Bool) (cw : Array Nat) (s : St) (c d : Nat) (hc : cw[s.i]? = some c) (hd : cw[s.i+1]? = some d)
    (hm : s.mode = cmode text) (h254 : c ≠ 254) (h0 : c*256+d ≠ 0) (hbig : (c*256+d-1)/1600 < 40)
    (cst : CState) (chunk : List Nat)
    (hv : cvals text [(c*256+d-1)/1600, ((c*256+d-1)/40) % 40, (c*256+d-1) % 40] s.cst = .ok (cst, chunk)) :
    step cw s = .ok (some (emitC s 2 cst chunk)) := by
  obtain ⟨h, hc⟩ := idx hc
  obtain ⟨h', hd⟩ := idx hd
  rw [step_c40_eq cw s (hm ▸ cmode_cases text) h, hc, hd, if_neg (by omega), if_neg h254, if_neg h0, if_neg (by omega),
    valsLoop_ok text _ s cst chunk hm hv]
  rfl

theorem step_c40_unlatch (text : Bool) (cw : Array Nat) (s : St) (hc : cw[s.i]? = some 254) (hm : s.mode = cmode text) :
    step cw s = .ok (some { s with i := s.i + 1, mode := .ascii }) := by
  obtain ⟨h, hc⟩ := idx hc
  rw [step_c40_eq cw s (hm ▸ cmode_cases text) h, hc]
  split <;> rfl

theorem step_c40_last (text : Bool) (cw : Array Nat) (s : St) (c : Nat) (hc : cw[s.i]? = some c) (hm : s.mode = cmode text)
    (hr : cw.size = s.i + 1) (h254 : c ≠ 254) :
    step cw s = .ok (some { s with mode := .ascii }) := by
  obtain ⟨h, hc⟩ := idx hc
  rw [step_c40_eq cw s (hm ▸ cmode_cases text) h, hc, if_pos (by omega), if_neg h254]

/-! ### the crate's value function and the reference decoder's agree

Whenever the decoder model of the crate (`DM.Model.Dec.c40Value`, with the crate's tables) accepts
a value, the reference decoder (Tables 3 / 4 of the standard, built by `List.range`) accepts it
with the same result. This carries the closed forms of the encoder analysis (`C40RT`), which are
stated with the crate's value function, over to the reference decoder. -/

def toS (st : Dec.CSt) : CState := { shift := st.shift, upper := st.upper }

def valueAgree (text : Bool) (sh : Nat) (up : Bool) (v : Nat) : Bool :=
  match Dec.c40Value (tabs text).1 (tabs text).2 { shift := sh, upper := up } v with
  | .ok (st', ob) =>
    (match c40Value text { shift := sh, upper := up } v with
     | .ok (st2, ob2) => st2.shift == st'.shift && st2.upper == st'.upper && ob2 == ob
     | .error _ => false)
  | .error _ => true

theorem values_agree : (List.range 4).all (fun sh => (List.range 40).all fun v =>
    valueAgree false sh false v && valueAgree false sh true v && valueAgree true sh false v && valueAgree true sh true v) = true := by
  decide +kernel

theorem crate_lt (b s3 : List Nat) (st st' : Dec.CSt) (v : Nat) (ob : Option Nat)
    (h : Dec.c40Value b s3 st v = .ok (st', ob)) : v < 40 := by
  refine Nat.lt_of_not_le fun hv => ?_
  have h1 : ¬ v ≤ 2 := by omega
  have h2 : ¬ v ≤ 39 := by omega
  have h3 : ¬ v ≤ 31 := by omega
  have h4 : ¬ v ≤ 26 := by omega
  have h5 : ¬ v = 27 := by omega
  have h6 : ¬ v = 30 := by omega
  unfold Dec.c40Value at h
  simp only [h1, h2, h3, h4, h5, h6, if_false] at h
  split at h
  · cases h
  · split at h
    · cases h
    · split at h <;> cases h

theorem crate_sh (b s3 : List Nat) (n : Nat) (up : Bool) (v : Nat) :
    Dec.c40Value b s3 { shift := n + 3, upper := up } v = Dec.c40Value b s3 { shift := 3, upper := up } v := by
  unfold Dec.c40Value
  have a1 : ¬ n + 3 = 0 := by omega
  have a2 : ¬ n + 3 = 1 := by omega
  have a3 : ¬ n + 3 = 2 := by omega
  simp [a2, a3]

theorem spec_sh (text : Bool) (n : Nat) (up : Bool) (v : Nat) :
    c40Value text { shift := n + 3, upper := up } v = c40Value text { shift := 3, upper := up } v := by
  rfl

theorem value_bridge (text : Bool) (st st' : Dec.CSt) (v : Nat) (ob : Option Nat)
    (h : Dec.c40Value (tabs text).1 (tabs text).2 st v = .ok (st', ob)) :
    c40Value text (toS st) v = .ok (toS st', ob) := by
  have hv := crate_lt _ _ _ _ _ _ h
  obtain ⟨sh, up⟩ := st
  have key : ∀ sh, sh < 4 → Dec.c40Value (tabs text).1 (tabs text).2 { shift := sh, upper := up } v = .ok (st', ob) →
      c40Value text { shift := sh, upper := up } v = .ok (toS st', ob) := by
    intro sh hsh h
    have ha := values_agree
    rw [List.all_eq_true] at ha
    have := ha sh (List.mem_range.mpr hsh)
    rw [List.all_eq_true] at this
    have := this v (List.mem_range.mpr hv)
    simp only [Bool.and_eq_true] at this
    have hk : valueAgree text sh up v = true := by
      cases text <;> cases up
      · exact this.1.1.1
      · exact this.1.1.2
      · exact this.1.2
      · exact this.2
    unfold valueAgree at hk
    rw [h] at hk
    simp only [] at hk
    cases hc : c40Value text { shift := sh, upper := up } v with
    | error e => rw [hc] at hk; simp at hk
    | ok r =>
      obtain ⟨st2, ob2⟩ := r
      rw [hc] at hk
      simp only [Bool.and_eq_true, beq_iff_eq] at hk
      obtain ⟨⟨h1, h2⟩, h3⟩ := hk
      cases st2
      simp only [] at h1 h2
      subst h1 h2 h3
      rfl
  by_cases hsh : sh < 3
  · exact key sh (by omega) h
  · obtain ⟨n, rfl⟩ : ∃ n, sh = n + 3 := ⟨sh - 3, by omega⟩
    -- shift states above 3 behave like 3, in the crate's automaton and (by `rfl`) in the standard's
    rw [crate_sh] at h
    exact key 3 (by omega) h

theorem values_bridge (text : Bool) : ∀ (V : List Nat) (st st' : Dec.CSt) (out out' : List Nat),
    Dec.c40Values (tabs text).1 (tabs text).2 V st out = .ok (st', out') →
    ∃ chunk, out' = out ++ chunk ∧ cvals text V (toS st) = .ok (toS st', chunk) := by
  intro V
  induction V with
  | nil =>
    intro st st' out out' h
    simp only [Dec.c40Values, Except.ok.injEq, Prod.mk.injEq] at h
    obtain ⟨rfl, rfl⟩ := h
    exact ⟨[], by simp, rfl⟩
  | cons v t ih =>
    intro st st' out out' h
    simp only [Dec.c40Values] at h
    cases hc : Dec.c40Value (tabs text).1 (tabs text).2 st v with
    | error e => rw [hc] at h; cases h
    | ok r =>
      obtain ⟨st1, ob⟩ := r
      rw [hc] at h
      have hb := value_bridge text st st1 v ob hc
      cases ob with
      | none =>
        simp only [] at h
        obtain ⟨chunk, e1, e2⟩ := ih st1 st' out out' h
        exact ⟨chunk, e1, cvals_cons hb e2⟩
      | some b =>
        simp only [] at h
        obtain ⟨chunk, e1, e2⟩ := ih st1 st' (out ++ [b]) out' h
        exact ⟨b :: chunk, by rw [e1]; simp, cvals_cons hb e2⟩

/-- the form in which the encoder analysis (`C40Gen.End`) and `Complete.c40_bytes` state a run of values: from the
initial state, in front of any output -/
theorem values_bridge_run (text : Bool) {V chunk : List Nat} {st' : Dec.CSt}
    (h : ∀ out, Dec.c40Values (tabs text).1 (tabs text).2 V C40RT.st0 out = .ok (st', out ++ chunk)) :
    cvals text V {} = .ok (toS st', chunk) := by
  obtain ⟨chunk', e1, e2⟩ := values_bridge text V C40RT.st0 st' [] _ (h [])
  rw [List.append_cancel_left e1]
  exact e2

/-- the values the encoder computes for one byte (`[]` where `to_vals` fails, i.e. never for a byte) -/
def valsOf (text : Bool) (b : Nat) : List Nat :=
  match Enc.toVals text [] b with
  | .ok v => v
  | .error _ => []

theorem c40Vals_length (text : Bool) (b : Nat) : (c40Vals text b).length ≤ 4 := by
  unfold c40Vals
  simp only [List.length_append]
  refine Nat.add_le_add (b := 2) (d := 2) ?_ ?_
  · split <;> simp
  · repeat' split
    all_goals simp

theorem valsOf_byte (text : Bool) (b : Nat) (hb : b < 256) : valsOf text b = c40Vals text b := by
  have := c40Vals_length text b
  unfold valsOf
  rw [DM.Lemmas.C40RT.toVals_eq text [] b hb, List.nil_append, if_neg (by omega)]

theorem cvals_bytes (text : Bool) : ∀ (bs : List Nat), ByteList bs →
    cvals text (bs.flatMap (valsOf text)) {} = .ok ({}, bs) ∧ ∀ x ∈ bs.flatMap (valsOf text), x < 40 := by
  intro bs hb
  rw [List.flatMap_def, List.map_congr_left fun b hm => valsOf_byte text b (hb b hm), ← List.flatMap_def]
  refine ⟨values_bridge_run text (st' := C40RT.st0) fun out => ?_, c40_vals_lt text bs hb⟩
  have h := c40_bytes text bs hb [] out
  rw [List.append_nil] at h
  exact h

theorem step_c40_triple (text : Bool) (cw : Array Nat) (s : St) (a b c : Nat) (ha : a < 40) (hb : b < 40) (hc : c < 40)
    (t : List Nat) (ho : Occurs cw s.i (packTriples (a :: b :: c :: t))) (hm : s.mode = cmode text) (cst : CState)
    (chunk : List Nat) (hv : cvals text [a, b, c] s.cst = .ok (cst, chunk)) :
    step cw s = .ok (some (emitC s 2 cst chunk)) := by
  simp only [packTriples] at ho
  obtain ⟨v, hw, hlt, x1, x2, _, x3⟩ := Pack.packed a b c ha hb hc
  rw [hw] at ho
  have e0 : (v + 1) / 256 * 256 + (v + 1) % 256 - 1 = v := by rw [Nat.div_add_mod']; rfl
  exact step_c40_pair text cw s _ _ ho.head ho.tail.head hm (by omega) (by omega) (by rw [e0, x1]; exact ha) cst chunk
    (by rw [e0, x1, x2, x3]; exact hv)

theorem steps_triples (text : Bool) (cw : Array Nat) : ∀ (n : Nat) (V : List Nat), V.length = 3 * n → (∀ v ∈ V, v < 40) →
    ∀ (s : St) (cst : CState) (chunk : List Nat), s.mode = cmode text → Occurs cw s.i (packTriples V) →
      cvals text V s.cst = .ok (cst, chunk) → Steps cw n s (emitC s (2 * n) cst chunk) := by
  intro n
  induction n with
  | zero =>
    intro V hl _ s cst chunk _ _ hv
    obtain rfl : V = [] := List.length_eq_zero_iff.mp (by omega)
    cases hv
    rw [emitC_zero]
    exact Steps.refl cw s
  | succ n ih =>
    intro V hl hlt s cst chunk hm ho hv
    match V, hl, hlt, ho, hv with
    | a :: b :: c :: t, hl, hlt, ho, hv =>
      obtain ⟨c1, o1, o2, h1, h2, rfl⟩ := cvals_append_ok (V1 := [a, b, c]) hv
      have hs1 := step_c40_triple text cw s a b c (hlt a (by simp)) (hlt b (by simp)) (hlt c (by simp)) t ho hm c1 o1 h1
      have hs2 := ih t (by simp only [List.length_cons] at hl; omega) (fun v hv => hlt v (by simp [hv]))
        (emitC s 2 c1 o1) cst o2 hm (by simp only [packTriples] at ho; exact ho.tail.tail) h2
      have := (Steps.one hs1).trans hs2
      rw [emitC_emitC, Nat.add_comm 1 n, show 2 + 2 * n = 2 * (n + 1) by omega] at this
      exact this

theorem steps_c40 (text : Bool) (cw : Array Nat) (n : Nat) (V : List Nat) (hl : V.length = 3 * n) (hlt : ∀ v ∈ V, v < 40)
    (s : St) (cst : CState) (chunk : List Nat) (hm : s.mode = .ascii) (ho : Occurs cw s.i (latchOf text :: packTriples V))
    (hv : cvals text V {} = .ok (cst, chunk)) :
    Steps cw (1 + n) s (emitC (latch s (cmode text)) (2 * n) cst chunk) := by
  have h1 : step cw s = .ok (some (latch s (cmode text))) :=
    step_latch cw s (latchOf text) (cmode text) ho.head hm (by cases text <;> simp [latchOf, cmode])
  exact (Steps.one h1).trans (steps_triples text cw n V hl hlt (latch s (cmode text)) cst chunk rfl ho.tail hv)

end DM.Lemmas.SpecC40
