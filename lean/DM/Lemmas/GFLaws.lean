import DM.Lemmas.GFTable
/-
Field laws of the table-driven GF(256) multiplication, derived from the finite table facts of
`GFTable`.
Namespace: `DM.Lemmas`.
-/
namespace DM.Lemmas
open DM.Model DM.Spec

theorem gmul_zero_left (b : Nat) : gmul 0 b = 0 := by simp [gmul]
theorem gmul_zero_right (a : Nat) : gmul a 0 = 0 := by simp [gmul]

theorem gmul_comm (a b : Nat) : gmul a b = gmul b a := by
  unfold gmul
  rw [Nat.add_comm (glog a) (glog b)]
  by_cases ha : a = 0 <;> by_cases hb : b = 0 <;> simp [ha, hb]

/-- products are bytes whatever the factors are: `gmul` answers `0` or an `ANTI_LOG` entry -/
theorem gmul_lt' (a b : Nat) : gmul a b < 256 := by
  unfold gmul
  split
  · omega
  · exact (alog_pos _ (Nat.mod_lt _ (by omega))).2

/-- the form the `Mul` instance of `GF` is written with -/
theorem gmul_lt {a b : Nat} (_ha : a < 256) (_hb : b < 256) : gmul a b < 256 := gmul_lt' a b

theorem gmul_ne_zero {a b : Nat} (ha : a ≠ 0) (hb : b ≠ 0) : gmul a b ≠ 0 := by
  unfold gmul
  rw [if_neg (by simp [ha, hb])]
  exact (alog_pos _ (Nat.mod_lt _ (by omega))).1

theorem gmul_of_ne {a b : Nat} (ha : a ≠ 0) (hb : b ≠ 0) :
    gmul a b = alog ((glog a + glog b) % 255) := by
  unfold gmul
  rw [if_neg (by simp [ha, hb])]

theorem log_gmul {a b : Nat} (ha : a ≠ 0) (hb : b ≠ 0) :
    glog (gmul a b) = (glog a + glog b) % 255 := by
  unfold gmul
  rw [if_neg (by simp [ha, hb])]
  exact log_alog _ (Nat.mod_lt _ (by omega))

theorem gmul_one_left {b : Nat} (hb : b < 256) : gmul 1 b = b := by
  by_cases h0 : b = 0
  · subst h0; rfl
  · unfold gmul
    rw [if_neg (by simp [h0]), log_one, Nat.zero_add, Nat.mod_eq_of_lt (log_lt b hb)]
    exact alog_log b hb h0

theorem gmul_assoc {a b c : Nat} (_ha : a < 256) (_hb : b < 256) (_hc : c < 256) :
    gmul (gmul a b) c = gmul a (gmul b c) := by
  by_cases ha0 : a = 0
  · subst ha0; simp [gmul_zero_left]
  by_cases hb0 : b = 0
  · subst hb0; simp [gmul_zero_left, gmul_zero_right]
  by_cases hc0 : c = 0
  · subst hc0; simp [gmul_zero_right]
  have hab := gmul_ne_zero ha0 hb0
  have hbc := gmul_ne_zero hb0 hc0
  have e1 := gmul_of_ne hab hc0
  have e2 := gmul_of_ne ha0 hbc
  rw [e1, e2, log_gmul ha0 hb0, log_gmul hb0 hc0]
  congr 1
  omega

def xtimes : Nat → Nat → Nat
  | 0, x => x
  | n + 1, x => xtime (xtimes n x)

theorem xtimes_lt (n : Nat) {x : Nat} (hx : x < 256) : xtimes n x < 256 := by
  induction n with
  | zero => exact hx
  | succ n ih => exact xtime_lt _ ih

theorem xtimes_lin (n : Nat) {a b : Nat} (ha : a < 256) (hb : b < 256) :
    xtimes n (a ^^^ b) = xtimes n a ^^^ xtimes n b := by
  induction n with
  | zero => rfl
  | succ n ih =>
    simp only [xtimes, ih]
    exact xtime_lin (xtimes_lt n ha) (xtimes_lt n hb)

theorem gmul_alog (i : Nat) (hi : i < 255) {x : Nat} (hx : x < 256) :
    gmul (alog i) x = xtimes i x := by
  induction i with
  | zero => rw [alog_zero]; exact gmul_one_left hx
  | succ i ih =>
    have hi' : i < 255 := by omega
    have hal := (alog_pos i hi').2
    rw [alog_succ i (by omega), ← mul2_xtime _ hal,
      gmul_assoc (by omega) hal hx, ih hi', mul2_xtime _ (xtimes_lt i hx)]
    rfl

theorem xor_lt_256 {a b : Nat} (ha : a < 256) (hb : b < 256) : a ^^^ b < 256 :=
  Nat.xor_lt_two_pow (n := 8) ha hb

theorem gmul_xor {a b c : Nat} (ha : a < 256) (hb : b < 256) (hc : c < 256) :
    gmul a (b ^^^ c) = gmul a b ^^^ gmul a c := by
  by_cases ha0 : a = 0
  · subst ha0; simp [gmul_zero_left]
  · have hl := log_lt a ha
    have ea := alog_log a ha ha0
    rw [← ea, gmul_alog _ hl (xor_lt_256 hb hc), gmul_alog _ hl hb, gmul_alog _ hl hc]
    exact xtimes_lin _ hb hc

def ginv (a : Nat) : Nat := if a = 0 then 0 else alog ((255 - glog a) % 255)

theorem ginv_lt (a : Nat) : ginv a < 256 := by
  unfold ginv
  split
  · omega
  · exact (alog_pos _ (Nat.mod_lt _ (by omega))).2

theorem gmul_ginv {a : Nat} (ha : a < 256) (h0 : a ≠ 0) : gmul a (ginv a) = 1 := by
  have hl := log_lt a ha
  have hp := alog_pos ((255 - glog a) % 255) (Nat.mod_lt _ (by omega))
  unfold ginv
  rw [if_neg h0]
  unfold gmul
  rw [if_neg (by simp [h0, hp.1]), log_alog _ (Nat.mod_lt _ (by omega))]
  have : (glog a + (255 - glog a) % 255) % 255 = 0 := by omega
  rw [this, alog_zero]

theorem gdiv_eq {a b : Nat} (_ha : a < 256) (hb : b < 256) (h0 : b ≠ 0) :
    gdiv a b = some (gmul a (ginv b)) := by
  unfold gdiv
  rw [if_neg h0]
  by_cases ha0 : a = 0
  · subst ha0; simp [gmul_zero_left]
  · rw [if_neg ha0]
    have hlb := log_lt b hb
    have hla := log_lt a _ha
    have hp := alog_pos ((255 - glog b) % 255) (Nat.mod_lt _ (by omega))
    unfold ginv gmul
    rw [if_neg h0, if_neg (by simp [ha0, hp.1]), log_alog _ (Nat.mod_lt _ (by omega))]
    simp only
    congr 2
    split <;> omega

end DM.Lemmas
