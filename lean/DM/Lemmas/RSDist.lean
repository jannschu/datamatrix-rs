import DM.Lemmas.RSClean
import Mathlib.Algebra.BigOperators.Intervals
import Mathlib.Tactic.Ring
/-
Power sums over an arbitrary field, and the primitive element.  A pattern of at most k terms with distinct non-zero
locators whose power sums S_1 … S_k vanish is zero (`sparse_zero`: the minimum distance of the Reed–Solomon block
code); a window of the power sums against `lam` is the power sum
of the values times `lam` at the locators (`Locator.window_eq`).  A word read from its last entry down is the reflected
polynomial (`evalH_toG_reflect`: what the Chien search evaluates).
Namespaces: `DM.Lemmas`, `Locator` (`synd`, `window_eq`).
-/
namespace DM.Lemmas
open DM.Model DM.Spec

theorem sum_reflect_inv {F : Type} [Field F] (c : ℕ → F) (n : ℕ) (y : F) (hy : y ≠ 0) :
    ∑ j ∈ Finset.range (n + 1), c (n - j) * y ^ j
      = y ^ n * ∑ i ∈ Finset.range (n + 1), c i * y⁻¹ ^ i := by
  rw [Finset.mul_sum, ← Finset.sum_range_reflect]
  apply Finset.sum_congr rfl
  intro j hj
  have hj' : j ≤ n := Nat.le_of_lt_succ (Finset.mem_range.mp hj)
  rw [Nat.add_sub_cancel, Nat.sub_sub_self hj', inv_pow, pow_sub₀ y hy hj']
  ring

theorem evalH_toG_reflect (l : List Nat) (n : Nat) (hl : l.length = n + 1) (y : GF) (hy : y ≠ 0) :
    evalH (toG l) y = y ^ n * ∑ i ∈ Finset.range (n + 1), GF.ofNat (l.getD i 0) * y⁻¹ ^ i := by
  rw [← sum_reflect_inv _ _ y hy, evalH_toG, hl]
  refine Finset.sum_congr rfl fun j hj => ?_
  rw [getD_reverse l j (hl ▸ Finset.mem_range.mp hj), hl, Nat.add_sub_cancel]

/-- elimination argument behind the Vandermonde determinant -/
theorem sparse_zero {F : Type} [Field F] (x : ℕ → F) :
    ∀ (k : ℕ) (I : Finset ℕ) (c : ℕ → F), I.card ≤ k →
      (∀ i ∈ I, ∀ j ∈ I, x i = x j → i = j) → (∀ i ∈ I, x i ≠ 0) →
      (∀ j, j < k → ∑ i ∈ I, c i * x i ^ (j + 1) = 0) → ∀ i ∈ I, c i = 0 := by
  intro k
  induction k with
  | zero =>
    intro I c hI _ _ _ i hi
    have : I = ∅ := Finset.card_eq_zero.mp (Nat.le_zero.mp hI)
    simp [this] at hi
  | succ k ih =>
    intro I c hI hinj hx hS
    by_cases hne : I = ∅
    · intro i hi; simp [hne] at hi
    obtain ⟨i0, hi0⟩ := Finset.nonempty_iff_ne_empty.mpr hne
    have hcard : (I.erase i0).card ≤ k := by
      rw [Finset.card_erase_of_mem hi0]; omega
    have hsub : ∀ i ∈ I.erase i0, i ∈ I := fun i hi => Finset.mem_of_mem_erase hi
    have hrest : ∀ i ∈ I.erase i0, c i * (x i - x i0) = 0 := by
      apply ih (I.erase i0) (fun i => c i * (x i - x i0)) hcard
        (fun i hi j hj => hinj i (hsub i hi) j (hsub j hj)) (fun i hi => hx i (hsub i hi))
      intro j hj
      have h1 := hS (j + 1) (Nat.succ_lt_succ hj)
      have h2 := hS j (Nat.lt_succ_of_lt hj)
      have : ∑ i ∈ I.erase i0, c i * (x i - x i0) * x i ^ (j + 1)
          = ∑ i ∈ I, c i * (x i - x i0) * x i ^ (j + 1) := by
        rw [← Finset.add_sum_erase I _ hi0]; simp
      rw [this]
      have : ∀ i, c i * (x i - x i0) * x i ^ (j + 1)
          = c i * x i ^ (j + 1 + 1) - x i0 * (c i * x i ^ (j + 1)) := by
        intro i; ring
      simp only [this, Finset.sum_sub_distrib, ← Finset.mul_sum, h1, h2]
      ring
    have hothers : ∀ i ∈ I, i ≠ i0 → c i = 0 := by
      intro i hi hne
      have := hrest i (Finset.mem_erase.mpr ⟨hne, hi⟩)
      rcases mul_eq_zero.mp this with h | h
      · exact h
      · exact absurd (hinj i hi i0 hi0 (sub_eq_zero.mp h)) hne
    have h0 : c i0 = 0 := by
      have h1 := hS 0 (Nat.succ_pos k)
      rw [Finset.sum_eq_single_of_mem i0 hi0 (fun i hi hne => by rw [hothers i hi hne]; ring)] at h1
      rcases mul_eq_zero.mp h1 with h | h
      · exact h
      · exact absurd (pow_eq_zero_iff (Nat.succ_ne_zero 0) |>.mp h) (hx i0 hi0)
    intro i hi
    by_cases h : i = i0
    · rw [h]; exact h0
    · exact hothers i hi h

namespace Locator
variable {F : Type} [Field F]

def synd (I : Finset ℕ) (c x : ℕ → F) (j : ℕ) : F := ∑ p ∈ I, c p * x p ^ (j + 1)

theorem window_eq (I : Finset ℕ) (c x : ℕ → F) (lam : ℕ → F) (n j : ℕ) :
    ∑ i ∈ Finset.range n, synd I c x (j + i) * lam i
      = ∑ p ∈ I, c p * (∑ i ∈ Finset.range n, lam i * x p ^ i) * x p ^ (j + 1) := by
  unfold synd
  simp_rw [Finset.sum_mul]
  rw [Finset.sum_comm]
  apply Finset.sum_congr rfl
  intro p _
  rw [Finset.mul_sum, Finset.sum_mul]
  apply Finset.sum_congr rfl
  intro i _
  ring

end Locator

theorem alpha_pow_ne_zero (i : Nat) : α ^ i ≠ 0 := by
  rw [← ofNat_alog_mod]
  have h := alog_pos (i % 255) (Nat.mod_lt _ (by omega))
  intro h0
  exact h.1 ((GF.ofNat_eq_zero h.2).mp h0)

theorem alpha_pow_inj {i j : Nat} (hi : i < 255) (hj : j < 255) (h : α ^ i = α ^ j) : i = j := by
  rw [← ofNat_alog i hi, ← ofNat_alog j hj] at h
  have h1 := congrArg GF.val h
  rw [GF.ofNat_val (alog_pos i hi).2, GF.ofNat_val (alog_pos j hj).2] at h1
  have := congrArg glog h1
  rwa [log_alog i hi, log_alog j hj] at this

end DM.Lemmas
