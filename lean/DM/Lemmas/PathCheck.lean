import DM.Spec.Fill
/-
A checker for vector paths and its soundness: if `pathOK` accepts, the even–odd fill of the
path is exactly the bitmap (`checker_sound`). Conversely a closed path that draws every boundary edge once and no
other unit edge is accepted (`pathOK_of_counts`).
Namespace: `DM.Lemmas`.
-/
namespace DM.Lemmas
open DM.Spec.Fill

def bmGet (bits : List Bool) (w h : Nat) (x y : Int) : Bool :=
  if 0 ≤ x ∧ x < w ∧ 0 ≤ y ∧ y < h then bits.getD (y.toNat * w + x.toNat) false else false

theorem bmGet_neg (bits : List Bool) (w h : Nat) (x y : Int) (hx : x < 0 ∨ (w : Int) ≤ x ∨ y < 0 ∨ (h : Int) ≤ y) :
    bmGet bits w h x y = false := by
  unfold bmGet
  rw [if_neg (by omega)]

theorem bmGet_true (bits : List Bool) (w h : Nat) (x y : Int) (hx : bmGet bits w h x y = true) :
    0 ≤ x ∧ x < w ∧ 0 ≤ y ∧ y < h := by
  unfold bmGet at hx
  split at hx
  · assumption
  · simp at hx

theorem bmGet_bne (bits : List Bool) (w h : Nat) (x y x' y' : Int)
    (hne : (bmGet bits w h x y != bmGet bits w h x' y') = true) :
    (0 ≤ x ∧ x < w ∧ 0 ≤ y ∧ y < h) ∨ (0 ≤ x' ∧ x' < w ∧ 0 ≤ y' ∧ y' < h) := by
  cases hx : bmGet bits w h x y
  · rw [hx] at hne
    exact Or.inr (bmGet_true _ _ _ _ _ (by simpa using hne))
  · exact Or.inl (bmGet_true _ _ _ _ _ hx)

/-- is the unit vertical edge {x} × [y, y+1] on the boundary between a dark and a light module -/
def vBoundary (bits : List Bool) (w h : Nat) (x y : Nat) : Bool :=
  bmGet bits w h ((x : Int) - 1) y != bmGet bits w h x y

/-- is the unit horizontal edge [x, x+1] × {y} on the boundary -/
def hBoundary (bits : List Bool) (w h : Nat) (x y : Nat) : Bool :=
  bmGet bits w h x ((y : Int) - 1) != bmGet bits w h x y

def pathOK (bits : List Bool) (w : Nat) (segs : List Seg) : Bool :=
  let h := if w = 0 then 0 else bits.length / w
  match edges w h segs with
  | none => false
  | some (ve, he) =>
    ((List.range (w + 1)).all fun x => (List.range h).all fun y =>
      ve.count (x, y) == (if vBoundary bits w h x y then 1 else 0)) &&
    ((List.range w).all fun x => (List.range (h + 1)).all fun y =>
      he.count (x, y) == (if hBoundary bits w h x y then 1 else 0)) &&
    ve.all (fun e => decide (e.1 ≤ w) && decide (e.2 < h)) &&
    he.all (fun e => decide (e.1 < w) && decide (e.2 ≤ h))

theorem filter_split {α : Type} [BEq α] [LawfulBEq α] (p q : α → Bool) (a : α)
    (hp : ∀ e, p e = (q e || e == a)) (hq : q a = false) (l : List α) :
    (l.filter p).length = (l.filter q).length + l.count a := by
  induction l with
  | nil => simp
  | cons e l ih =>
    simp only [List.filter_cons, List.count_cons, hp e]
    by_cases he : (e == a) = true
    · have : e = a := by simpa using he
      subst this
      simp [hq, ih]; omega
    · have : (e == a) = false := by simpa using he
      simp only [this, Bool.or_false]
      cases hqe : q e <;> simp [ih] <;> omega

/-- In a row, the number of dark/light changes up to column `x` is odd iff module `x` is dark. -/
theorem boundary_parity (r : Int → Bool) (hneg : r (-1) = false) (cnt : Nat → Nat) :
    ∀ x : Nat, (∀ x' : Nat, x' ≤ x → cnt x' = if (r ((x' : Int) - 1) != r x') then 1 else 0) →
      ((List.range (x + 1)).map cnt).sum % 2 = if r x then 1 else 0 := by
  intro x
  induction x with
  | zero =>
    intro hc
    simp [hc 0 (Nat.le_refl 0), hneg]
    cases r 0 <;> simp
  | succ x ih =>
    intro hc
    rw [List.range_succ, List.map_append, List.sum_append]
    simp only [List.map_cons, List.map_nil, List.sum_cons, List.sum_nil, Nat.add_zero]
    rw [Nat.add_mod, ih (fun x' hx' => hc x' (by omega)), hc (x + 1) (Nat.le_refl _)]
    have : ((x + 1 : Nat) : Int) - 1 = (x : Int) := by omega
    rw [this]
    cases r x <;> cases r ((x + 1 : Nat) : Int) <;> simp

theorem filter_le_sum (ve : List (Nat × Nat)) (x y : Nat) :
    (ve.filter fun e => e.2 == y && decide (e.1 ≤ x)).length
      = ((List.range (x + 1)).map fun x' => ve.count (x', y)).sum := by
  induction x with
  | zero =>
    rw [List.range_one, List.map_singleton, List.sum_singleton, List.count_eq_length_filter]
    congr 2
    funext ⟨e1, e2⟩
    rw [Bool.eq_iff_iff]
    simp only [Bool.and_eq_true, beq_iff_eq, decide_eq_true_eq, Prod.mk.injEq, Nat.le_zero]
    exact and_comm
  | succ x ih =>
    rw [List.range_succ (n := x + 1), List.map_append, List.sum_append, ← ih, List.map_singleton,
      List.sum_singleton]
    apply filter_split
    · intro ⟨e1, e2⟩
      rw [Bool.eq_iff_iff]
      simp only [Bool.and_eq_true, Bool.or_eq_true, beq_iff_eq, decide_eq_true_eq, Prod.mk.injEq]
      omega
    · simp

theorem checker_sound (bits : List Bool) (w : Nat) (segs : List Seg)
    (hok : pathOK bits w segs = true) :
    ∃ ve he, edges w (if w = 0 then 0 else bits.length / w) segs = some (ve, he) ∧
      ∀ x y, x < w → y < (if w = 0 then 0 else bits.length / w) →
        dark ve x y = bits.getD (y * w + x) false := by
  unfold pathOK at hok
  simp only [] at hok
  generalize hh : (if w = 0 then 0 else bits.length / w) = h at hok ⊢
  split at hok
  · simp at hok
  rename_i ve he hedges
  refine ⟨ve, he, hedges, ?_⟩
  simp only [Bool.and_eq_true, List.all_eq_true, List.mem_range, beq_iff_eq] at hok
  obtain ⟨⟨⟨hv, _⟩, _⟩, _⟩ := hok
  intro x y hx hy
  unfold dark
  rw [filter_le_sum]
  have hpar := boundary_parity (fun i => bmGet bits w h i y) (by simp [bmGet])
    (fun x' => ve.count (x', y)) x (by
      intro x' hx'
      have := hv x' (by omega) y hy
      simp only [vBoundary] at this
      simpa using this)
  rw [hpar]
  have hget : bmGet bits w h (x : Int) (y : Int) = bits.getD (y * w + x) false := by
    unfold bmGet
    have : (0 : Int) ≤ x ∧ (x : Int) < w ∧ (0 : Int) ≤ y ∧ (y : Int) < h := by omega
    simp [this]
  rw [hget]
  cases bits.getD (y * w + x) false <;> simp

theorem vBoundary_box {bits : List Bool} {w h x y : Nat} (hb : vBoundary bits w h x y = true) :
    x ≤ w ∧ y < h := by
  have := bmGet_bne bits w h _ _ _ _ hb
  omega

theorem hBoundary_box {bits : List Bool} {w h x y : Nat} (hb : hBoundary bits w h x y = true) :
    x < w ∧ y ≤ h := by
  have := bmGet_bne bits w h _ _ _ _ hb
  omega

/-- the two box tests of `pathOK` follow: a boundary edge lies in the box -/
theorem pathOK_of_counts (bits : List Bool) (w : Nat) (hw : w ≠ 0) (segs : List Seg)
    (ve he : List (Nat × Nat)) (hedges : edges w (bits.length / w) segs = some (ve, he))
    (hv : ∀ x y, ve.count (x, y) = if vBoundary bits w (bits.length / w) x y then 1 else 0)
    (hh : ∀ x y, he.count (x, y) = if hBoundary bits w (bits.length / w) x y then 1 else 0) :
    pathOK bits w segs = true := by
  unfold pathOK
  simp only [hw, if_false, hedges, Bool.and_eq_true, List.all_eq_true, beq_iff_eq, decide_eq_true_eq]
  refine ⟨⟨⟨fun x _ y _ => hv x y, fun x _ y _ => hh x y⟩, fun (x, y) hm => ?_⟩, fun (x, y) hm => ?_⟩
  · have hc := List.count_pos_iff.mpr hm
    rw [hv] at hc
    by_cases hb : vBoundary bits w (bits.length / w) x y = true
    · exact vBoundary_box hb
    · rw [if_neg hb] at hc; omega
  · have hc := List.count_pos_iff.mpr hm
    rw [hh] at hc
    by_cases hb : hBoundary bits w (bits.length / w) x y = true
    · exact hBoundary_box hb
    · rw [if_neg hb] at hc; omega

end DM.Lemmas
