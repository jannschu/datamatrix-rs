import DM.Lemmas.PathGraph
/-
Totality and bookkeeping of the Hierholzer walk of `DM.Model.Path`: `walk`, `euler`, `tours`
never hit `expect` or run out of fuel on a graph in which every node has even degree, and the
micro steps they emit are a sequence of closed grid walks that uses every edge exactly once.
The invariant of the outer loops is proved for any start `o` of the first closed walk (`EInvAt`, `euler_specAt`,
`tours_specAt`); `EInv`, `euler_spec`, `tours_spec` are the case of the corner `O`, from which `compress` draws.
Namespace: `PathP`.
-/
namespace DM.Lemmas.PathP
open DM.Model.Path

structure GOK (w h : Nat) (g : Graph) : Prop where
  wf : WF g
  box : InBoxG g
  width : g.width = w
  height : g.height = h
  hint : HintInv g

theorem GOK.removeEdge {w h : Nat} {g : Graph} (hg : GOK w h g) (p : Pos) : GOK w h (g.removeEdge p) :=
  ⟨removeEdge_WF g p hg.wf, removeEdge_InBoxG g p hg.box, by simp [hg.width], by simp [hg.height],
   removeEdge_HintInv g p hg.hint⟩

theorem GOK.inBox {w h : Nat} {g : Graph} (hg : GOK w h g) (p : Pos) (hp : has g (pedge p) = true) :
    inBoxN w h p.startNode ∧ inBoxN w h p.endNode := by
  have := inBox_of_has g hg.box p hp
  rwa [hg.width, hg.height] at this

/-- the alternative continuation flag of `follow` -/
def hadAlt (g : Graph) (p : Pos) : Bool :=
  decide (([p.straight, p.turnLeft, p.turnRight].filter g.hasEdge).length ≥ 2)

theorem walk_succ (f : Nat) (g : Graph) (pos : Pos) (start : Node) (insert : Nat)
    (alts : List (Nat × Pos)) (loc : Array Micro) :
    walk (f + 1) g pos start insert alts loc =
      match g.canStep pos with
      | none => .error .expect
      | some np =>
        if np.endNode == start then
          .ok (g.removeEdge np, np, insert,
            (if hadAlt g pos then alts ++ [(insert, pos)] else alts), loc.push (.step np.endNode))
        else walk f (g.removeEdge np) np start (insert + 1)
          (if hadAlt g pos then alts ++ [(insert, pos)] else alts) (loc.push (.step np.endNode)) := by
  rfl

structure LocOK (w h : Nat) (start cur : Node) (loc : List Micro) : Prop where
  steps : allSteps loc
  chain : chainOK start loc
  last : lastNode start loc = cur
  box : ∀ m ∈ loc, inBoxN w h m.node

def AltsOK (base : Nat) (start : Node) (loc : List Micro) (alts : List (Nat × Pos)) : Prop :=
  ∀ a ∈ alts, ∃ pre post, loc = pre ++ post ∧ a.1 = base + pre.length ∧ lastNode start pre = a.2.endNode

theorem LocOK.nil (w h : Nat) (start : Node) : LocOK w h start start [] :=
  ⟨fun _ hm => (nomatch hm), trivial, rfl, fun _ hm => (nomatch hm)⟩

theorem LocOK.push {w h : Nat} {start cur n : Node} {loc : List Micro} (hloc : LocOK w h start cur loc)
    (hadj : adj cur n) (hbox : inBoxN w h n) : LocOK w h start n (loc ++ [.step n]) := by
  refine ⟨?_, ?_, ?_, ?_⟩
  · exact List.forall_mem_append.mpr ⟨hloc.steps, List.forall_mem_singleton.mpr rfl⟩
  · rw [chainOK_append, hloc.last]
    exact ⟨hloc.chain, hadj, trivial⟩
  · rw [lastNode_append]; rfl
  · exact List.forall_mem_append.mpr ⟨hloc.box, List.forall_mem_singleton.mpr hbox⟩

theorem bxor_rearrange (a b d : Bool) : ((a ^^ b) ^^ a ^^ d) = (d ^^ b) := by
  cases a <;> cases b <;> cases d <;> rfl

theorem toNat_remove (g : Graph) (p : Pos) (hp : has g (pedge p) = true) (e : Edge) :
    (if pedge p == e then 1 else 0) + (has (g.removeEdge p) e).toNat = (has g e).toNat := by
  rw [has_removeEdge]
  by_cases he : e = pedge p
  · subst he; simp [hp]
  · have h1 : (e == pedge p) = false := by simpa using he
    have h2 : (pedge p == e) = false := by simpa using fun h => he h.symm
    simp [h1, h2]

/-- the inner walk: from a node of odd degree it always finds a continuation, closes at
`start` before the fuel runs out, and accounts for every edge it removes -/
theorem walk_spec (w h base : Nat) (start : Node) : ∀ (f : Nat) (g : Graph) (pos : Pos) (insert : Nat)
    (alts : List (Nat × Pos)) (loc : Array Micro),
    GOK w h g → cnt g < f → has g (pedge pos) = false →
    (∀ n, par g n = ((n == pos.endNode) ^^ (n == start))) →
    pos.endNode ≠ start →
    LocOK w h start pos.endNode loc.toList →
    AltsOK base start loc.toList alts → insert = base + loc.size →
    ∃ g' pos' ins' alts' loc', walk f g pos start insert alts loc = .ok (g', pos', ins', alts', loc') ∧
      GOK w h g' ∧ cnt g' ≤ cnt g ∧ (∀ n, par g' n = false) ∧
      LocOK w h start start loc'.toList ∧ AltsOK base start loc'.toList alts' ∧
      (∀ e, (medges start loc'.toList).count e + (has g' e).toNat
          = (medges start loc.toList).count e + (has g e).toNat) := by
  intro f
  induction f with
  | zero => intro g pos insert alts loc _ hc; omega
  | succ f ih =>
    intro g pos insert alts loc hg hcnt hne hpar hns hloc halts hins
    have hodd : par g pos.endNode = true := by
      rw [hpar]
      have : (pos.endNode == start) = false := by simpa using hns
      simp [this]
    obtain ⟨np, hnp⟩ := canStep_of_odd g pos hne hodd
    obtain ⟨hhas, hstart⟩ := canStep_some g pos np hnp
    rw [walk_succ, hnp]
    simp only []
    have hg1 : GOK w h (g.removeEdge np) := hg.removeEdge np
    have hcnt1 := cnt_removeEdge g np hhas
    have hne1 : has (g.removeEdge np) (pedge np) = false := by rw [has_removeEdge]; simp
    have hpar1 : ∀ n, par (g.removeEdge np) n = ((n == np.endNode) ^^ (n == start)) := by
      intro n
      rw [par_removeEdge g np hhas, hpar, hstart]
      exact bxor_rearrange _ _ _
    have hbox := hg.inBox np hhas
    have hloc1 : LocOK w h start np.endNode (loc.push (.step np.endNode)).toList := by
      rw [Array.toList_push]
      exact hloc.push (hstart ▸ adj_pos np) hbox.2
    have halts1 : AltsOK base start (loc.push (.step np.endNode)).toList
        (if hadAlt g pos then alts ++ [(insert, pos)] else alts) := by
      rw [Array.toList_push]
      have hold : AltsOK base start (loc.toList ++ [.step np.endNode]) alts := by
        intro a ha
        obtain ⟨pre, post, h1, h2, h3⟩ := halts a ha
        exact ⟨pre, post ++ [.step np.endNode], by rw [h1, List.append_assoc], h2, h3⟩
      split
      · exact List.forall_mem_append.mpr ⟨hold, List.forall_mem_singleton.mpr
          ⟨loc.toList, [.step np.endNode], rfl, by simp [hins], hloc.last⟩⟩
      · exact hold
    have hacc : ∀ e, (medges start (loc.push (.step np.endNode)).toList).count e
        + (has (g.removeEdge np) e).toNat = (medges start loc.toList).count e + (has g e).toNat := by
      intro e
      rw [Array.toList_push, medges_append, hloc.last, ← hstart]
      simp only [medges, edgeOf_pos]
      rw [List.count_append, List.count_singleton, Nat.add_assoc, toNat_remove g np hhas e]
    by_cases hend : (np.endNode == start) = true
    · rw [if_pos hend]
      have hes : np.endNode = start := by simpa using hend
      refine ⟨_, _, _, _, _, rfl, hg1, by omega, ?_, ?_, halts1, hacc⟩
      · intro n; rw [hpar1, hes]; simp
      · exact hes ▸ hloc1
    · rw [if_neg hend]
      have hes : np.endNode ≠ start := by simpa using hend
      obtain ⟨g', pos', ins', alts', loc', hw, h1, h2, h3, h4, h5, h6⟩ :=
        ih (g.removeEdge np) np (insert + 1) _ _ hg1 (by omega) hne1 hpar1 hes hloc1 halts1
          (by simp [hins]; omega)
      exact ⟨g', pos', ins', alts', loc', hw, h1, by omega, h3, h4, h5, fun e => by rw [h6 e, hacc e]⟩

theorem walk_total (w h base : Nat) (start : Node) (f : Nat) (g : Graph) (pos : Pos) (insert : Nat)
    (alts : List (Nat × Pos)) (loc : Array Micro)
    (hg : GOK w h g) (hf : cnt g < f) (hne : has g (pedge pos) = false)
    (hpar : ∀ n, par g n = ((n == pos.endNode) ^^ (n == start))) (hns : pos.endNode ≠ start)
    (hloc : LocOK w h start pos.endNode loc.toList) (halts : AltsOK base start loc.toList alts)
    (hins : insert = base + loc.size) :
    ∃ r, walk f g pos start insert alts loc = .ok r := by
  obtain ⟨g', pos', ins', alts', loc', hw, _⟩ :=
    walk_spec w h base start f g pos insert alts loc hg hf hne hpar hns hloc halts hins
  exact ⟨_, hw⟩

theorem splice_toList (els loc : Array Micro) (pre post : List Micro) (k : Nat)
    (h : els.toList = pre ++ post) (hk : k = pre.length) :
    (splice els k loc).toList = pre ++ loc.toList ++ post := by
  unfold splice
  have hs : els.size = pre.length + post.length := by
    rw [← Array.length_toList, h, List.length_append]
  simp only [Array.toList_append, Array.toList_extract, List.extract_eq_take_drop, h, hk, hs]
  simp

theorem euler_succ (f wf : Nat) (g : Graph) (pos : Pos) (insert : Nat) (els : Array Micro) :
    euler (f + 1) wf g pos insert els =
      match walk wf (g.removeEdge pos) pos pos.startNode (insert + 1) [] #[.step pos.endNode] with
      | .error e => .error e
      | .ok (g', _, _, alts, loc) =>
        match alts.findSome? (fun (a : Nat × Pos) => (g'.canStep a.2).map fun np => (a.1, np)) with
        | some (idx, np) => euler f wf g' np idx (splice els insert loc)
        | none => .ok (g', splice els insert loc) := by
  rfl

abbrev O : Node := (0, 0)

structure EInv (w h : Nat) (g0 g : Graph) (L : List Micro) : Prop where
  gok : GOK w h g
  even : ∀ n, par g n = false
  chain : chainOK O L
  jumps : jumpsOK O O L
  closed : lastNode O L = tstart O L
  box : ∀ m ∈ L, inBoxN w h m.node
  acc : ∀ e, (medges O L).count e + (has g e).toNat = (has g0 e).toNat

structure EInvAt (o : Node) (w h : Nat) (g0 g : Graph) (L : List Micro) : Prop where
  gok : GOK w h g
  even : ∀ n, par g n = false
  chain : chainOK o L
  jumps : jumpsOK o o L
  closed : lastNode o L = tstart o L
  box : ∀ m ∈ L, inBoxN w h m.node
  acc : ∀ e, (medges o L).count e + (has g e).toNat = (has g0 e).toNat

theorem EInv_iff {w h : Nat} {g0 g : Graph} {L : List Micro} : EInv w h g0 g L ↔ EInvAt O w h g0 g L :=
  ⟨fun ⟨a, b, c, d, e, f, k⟩ => ⟨a, b, c, d, e, f, k⟩, fun ⟨a, b, c, d, e, f, k⟩ => ⟨a, b, c, d, e, f, k⟩⟩

theorem splice_inv (o : Node) (pre post loc : List Micro) (a : Node) (hpre : lastNode o pre = a)
    (hsteps : allSteps loc) (hlast : lastNode a loc = a) :
    (chainOK o (pre ++ post) → chainOK a loc → chainOK o (pre ++ loc ++ post)) ∧
    (jumpsOK o o (pre ++ post) → jumpsOK o o (pre ++ loc ++ post)) ∧
    (lastNode o (pre ++ loc ++ post) = lastNode o (pre ++ post)) ∧
    (tstart o (pre ++ loc ++ post) = tstart o (pre ++ post)) ∧
    (∀ e, (medges o (pre ++ loc ++ post)).count e = (medges o (pre ++ post)).count e + (medges a loc).count e) := by
  have hl : lastNode o (pre ++ loc) = a := by rw [lastNode_append, hpre, hlast]
  have ht : tstart o (pre ++ loc) = tstart o pre := by rw [tstart_append, tstart_allSteps _ _ hsteps]
  refine ⟨?_, ?_, ?_, ?_, ?_⟩
  · intro h1 h2
    rw [chainOK_append] at h1
    rw [chainOK_append, chainOK_append, hl, hpre]
    rw [hpre] at h1
    exact ⟨⟨h1.1, h2⟩, h1.2⟩
  · intro h1
    rw [jumpsOK_append] at h1
    rw [jumpsOK_append, jumpsOK_append, hl, ht]
    rw [hpre] at h1
    exact ⟨⟨h1.1, jumpsOK_allSteps _ _ _ hsteps⟩, h1.2⟩
  · rw [lastNode_append, hl, lastNode_append, hpre]
  · rw [tstart_append, ht, tstart_append]
  · intro e
    rw [medges_append, medges_append, hl, hpre, medges_append, hpre]
    simp only [List.count_append]
    omega

theorem euler_specAt (o : Node) (w h : Nat) (g0 : Graph) (wf : Nat) : ∀ (f : Nat) (g : Graph) (pos : Pos) (insert : Nat)
    (els : Array Micro) (pre post : List Micro),
    EInvAt o w h g0 g els.toList → els.toList = pre ++ post → insert = pre.length →
    lastNode o pre = pos.startNode → has g (pedge pos) = true → cnt g < f → cnt g < wf →
    ∃ g' els', euler f wf g pos insert els = .ok (g', els') ∧ EInvAt o w h g0 g' els'.toList ∧ cnt g' < cnt g := by
  intro f
  induction f with
  | zero => intro g pos insert els pre post _ _ _ _ _ hc; omega
  | succ f ih =>
    intro g pos insert els pre post hinv hels hins hpre hhas hcnt hwf
    have hcnt1 := cnt_removeEdge g pos hhas
    have hbox := hinv.gok.inBox pos hhas
    obtain ⟨g', pos', ins', alts', loc', hw, hg', hcnt', heven', hloc', halts', hacc'⟩ :=
      walk_spec w h insert pos.startNode wf (g.removeEdge pos) pos (insert + 1) [] #[.step pos.endNode]
        (hinv.gok.removeEdge pos) (by omega) (by rw [has_removeEdge]; simp)
        (by intro n; rw [par_removeEdge g pos hhas, hinv.even, Bool.false_xor, Bool.xor_comm])
        (start_ne_end pos)
        ((LocOK.nil w h pos.startNode).push (adj_pos pos) hbox.2)
        (by intro a ha; simp at ha) (by simp)
    rw [euler_succ, hw]
    simp only []
    have hsp := splice_toList els loc' pre post insert hels hins
    obtain ⟨s1, s2, s3, s4, s5⟩ := splice_inv o pre post loc'.toList pos.startNode hpre hloc'.steps hloc'.last
    have hinv' : EInvAt o w h g0 g' (splice els insert loc').toList := by
      rw [hsp]
      have hi := hinv
      rw [hels] at hi
      refine ⟨hg', heven', s1 hi.chain hloc'.chain, s2 hi.jumps, by rw [s3, s4]; exact hi.closed, ?_, ?_⟩
      · exact List.forall_mem_append.mpr ⟨List.forall_mem_append.mpr
          ⟨fun m hm => hi.box m (List.mem_append_left _ hm), hloc'.box⟩,
          fun m hm => hi.box m (List.mem_append_right _ hm)⟩
      · intro e
        rw [s5 e]
        have h1 := hacc' e
        have h2 := hi.acc e
        have h3 := toNat_remove g pos hhas e
        have h4 : (medges pos.startNode (#[Micro.step pos.endNode] : Array Micro).toList).count e
            = (if pedge pos == e then 1 else 0) := by
          simp [medges, edgeOf_pos, List.count_cons]
        omega
    cases hfs : alts'.findSome? (fun (a : Nat × Pos) => (g'.canStep a.2).map fun np => (a.1, np)) with
    | none => exact ⟨g', _, rfl, hinv', by omega⟩
    | some r =>
      obtain ⟨idx, np⟩ := r
      simp only []
      obtain ⟨a, ha, hfa⟩ := List.exists_of_findSome?_eq_some hfs
      obtain ⟨np', hnp', hpair⟩ := Option.map_eq_some_iff.mp hfa
      simp only [Prod.mk.injEq] at hpair
      obtain ⟨hidx, hnpe⟩ := hpair
      subst hnpe
      obtain ⟨hhas', hstart'⟩ := canStep_some g' a.2 np' hnp'
      obtain ⟨lpre, lpost, hl1, hl2, hl3⟩ := halts' a ha
      obtain ⟨g'', els'', he, hinv'', hcnt''⟩ :=
        ih g' np' idx (splice els insert loc') (pre ++ lpre) (lpost ++ post) hinv'
          (by rw [hsp, hl1]; simp [List.append_assoc])
          (by rw [← hidx, hl2, hins, List.length_append])
          (by rw [lastNode_append, hpre, hl3, hstart'])
          hhas' (by omega) (by omega)
      exact ⟨g'', els'', he, hinv'', by omega⟩

theorem tours_succ (f wf : Nat) (g : Graph) (pos : Pos) (insert : Nat) (els : Array Micro) :
    tours (f + 1) wf g pos insert els =
      match euler wf wf g pos insert els with
      | .error e => .error e
      | .ok (g', els') =>
        match g'.edgeLeft with
        | (some np, g'') => tours f wf g'' np (els'.push (.jump np.startNode)).size (els'.push (.jump np.startNode))
        | (none, _) => .ok els' := by
  rfl

theorem tours_specAt (o : Node) (w h : Nat) (g0 : Graph) (wf : Nat) : ∀ (f : Nat) (g : Graph) (pos : Pos) (insert : Nat)
    (els : Array Micro),
    EInvAt o w h g0 g els.toList → insert = els.size →
    lastNode o els.toList = pos.startNode → has g (pedge pos) = true → cnt g < f → cnt g < wf →
    ∃ els', tours f wf g pos insert els = .ok els' ∧
      ∃ g', EInvAt o w h g0 g' els'.toList ∧ ∀ e, has g' e = false := by
  intro f
  induction f with
  | zero => intro g pos insert els _ _ _ _ hc; omega
  | succ f ih =>
    intro g pos insert els hinv hins hlast hhas hcnt hwf
    obtain ⟨g', els', he, hinv', hcnt'⟩ := euler_specAt o w h g0 wf wf g pos insert els els.toList []
      hinv (by simp) (by simp [hins]) hlast hhas hwf hwf
    rw [tours_succ, he]
    simp only []
    rcases hel : g'.edgeLeft with ⟨_ | np, g''⟩
    · simp only []
      exact ⟨els', rfl, g', hinv', edgeLeft_none g' hinv'.gok.wf hinv'.gok.hint g'' hel⟩
    · simp only []
      obtain ⟨hnp, k, hk, hkinv⟩ := edgeLeft_some g' hinv'.gok.wf hinv'.gok.hint np g'' hel
      subst hk
      have hbox := hinv'.gok.inBox np hnp
      have hinv'' : EInvAt o w h g0 { g' with hint := k } (els'.push (.jump np.startNode)).toList := by
        rw [Array.toList_push]
        refine ⟨⟨hinv'.gok.wf, hinv'.gok.box, hinv'.gok.width, hinv'.gok.height, hkinv⟩, hinv'.even, ?_, ?_, ?_, ?_, ?_⟩
        · rw [chainOK_append]; exact ⟨hinv'.chain, trivial⟩
        · rw [jumpsOK_append]; exact ⟨hinv'.jumps, hinv'.closed, trivial⟩
        · rw [lastNode_append, tstart_append]; rfl
        · exact List.forall_mem_append.mpr ⟨hinv'.box, List.forall_mem_singleton.mpr hbox.1⟩
        · intro e
          rw [medges_append]
          simp only [medges, List.append_nil]
          exact hinv'.acc e
      exact ih { g' with hint := k } np _ _ hinv'' rfl
        (by rw [Array.toList_push, lastNode_append]; rfl) hnp
        (show cnt g' < f by omega) (show cnt g' < wf by omega)

theorem euler_spec (w h : Nat) (g0 : Graph) (wf : Nat) : ∀ (f : Nat) (g : Graph) (pos : Pos) (insert : Nat)
    (els : Array Micro) (pre post : List Micro),
    EInv w h g0 g els.toList → els.toList = pre ++ post → insert = pre.length →
    lastNode O pre = pos.startNode → has g (pedge pos) = true → cnt g < f → cnt g < wf →
    ∃ g' els', euler f wf g pos insert els = .ok (g', els') ∧ EInv w h g0 g' els'.toList ∧ cnt g' < cnt g := by
  simpa only [EInv_iff] using euler_specAt O w h g0 wf

theorem tours_spec (w h : Nat) (g0 : Graph) (wf : Nat) : ∀ (f : Nat) (g : Graph) (pos : Pos) (insert : Nat)
    (els : Array Micro),
    EInv w h g0 g els.toList → insert = els.size →
    lastNode O els.toList = pos.startNode → has g (pedge pos) = true → cnt g < f → cnt g < wf →
    ∃ els', tours f wf g pos insert els = .ok els' ∧
      ∃ g', EInv w h g0 g' els'.toList ∧ ∀ e, has g' e = false := by
  simpa only [EInv_iff] using tours_specAt O w h g0 wf

end DM.Lemmas.PathP
