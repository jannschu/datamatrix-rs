import DM.Lemmas.CompleteX12
import DM.Lemmas.C40Table
/-
Decoder completeness, C40 and Text runs: the value automaton over lists of values (`c40Values_append`,
`c40Values_prefix`) and over the values of a string of bytes (`c40_bytes`, from the per-byte `C40RT.c40_byte`),
whole triples (`decodeC40_triples`), the segment lemmas.
Namespace: `Complete`.
-/
namespace DM.Lemmas.Complete
open DM.Model.Dec DM.Gen DM.Lemmas DM.Lemmas.DecRun DM.Spec.Build
open DM.Lemmas.C40RT (c40_byte)

theorem c40Values_append (base sh3 : List Nat) : ∀ (v1 v2 : List Nat) (st : CSt) (out : List Nat),
    c40Values base sh3 (v1 ++ v2) st out =
      match c40Values base sh3 v1 st out with
      | .error e => .error e
      | .ok (st', o') => c40Values base sh3 v2 st' o' := by
  intro v1
  induction v1 with
  | nil => intro v2 st out; simp [c40Values]
  | cons v t ih =>
    intro v2 st out
    simp only [List.cons_append, c40Values]
    cases hv : c40Value base sh3 st v with
    | error e => rfl
    | ok r =>
      obtain ⟨st1, ob⟩ := r
      cases ob with
      | none => exact ih v2 st1 out
      | some b => exact ih v2 st1 (out ++ [b])

theorem c40Values_prefix (base sh3 : List Nat) : ∀ (vs : List Nat) (st : CSt) (out : List Nat),
    c40Values base sh3 vs st out =
      match c40Values base sh3 vs st [] with
      | .error e => .error e
      | .ok (st', o') => .ok (st', out ++ o') := by
  intro vs
  induction vs with
  | nil => intro st out; simp [c40Values]
  | cons v t ih =>
    intro st out
    simp only [c40Values]
    cases hv : c40Value base sh3 st v with
    | error e => rfl
    | ok r =>
      obtain ⟨st1, ob⟩ := r
      cases ob with
      | none => exact ih st1 out
      | some b =>
        simp only [List.nil_append]
        rw [ih st1 (out ++ [b]), ih st1 [b]]
        cases c40Values base sh3 t st1 [] with
        | error e => rfl
        | ok r => simp

theorem c40_bytes (text : Bool) : ∀ (bs : List Nat), ByteList bs → ∀ (rest out : List Nat),
    c40Values (tabs text).1 (tabs text).2 (bs.flatMap (c40Vals text) ++ rest) { shift := 0, upper := false } out =
      c40Values (tabs text).1 (tabs text).2 rest { shift := 0, upper := false } (out ++ bs) := by
  intro bs
  induction bs with
  | nil => intro _ rest out; simp
  | cons b t ih =>
    intro hb rest out
    rw [List.flatMap_cons, List.append_assoc, c40Values_append, c40Values_prefix, (c40_byte text b hb.head).1]
    simp only []
    rw [ih hb.tail]
    simp

theorem c40_vals_lt (text : Bool) (bs : List Nat) (hb : ByteList bs) : ∀ v ∈ bs.flatMap (c40Vals text), v < 40 := by
  intro v hv
  obtain ⟨b, hbm, hvb⟩ := List.mem_flatMap.mp hv
  exact (c40_byte text b (hb b hbm)).2 v hvb

theorem decodeC40_triples (base sh3 : List Nat) : ∀ (n : Nat) (vals : List Nat), vals.length = 3 * n →
    (∀ v ∈ vals, v < 40) → ∀ (tail : List Nat) (e : Nat) (out : List Nat) (st : CSt),
      decodeC40 base sh3 (packTriples vals ++ tail) e out st =
        match c40Values base sh3 vals st out with
        | .error err => .error err
        | .ok (st', out') => decodeC40 base sh3 tail (e + 2 * n) out' st' := by
  refine triples_rec (fun _ tail e out st => by simp [packTriples, c40Values])
    fun n x y z t _ ih hlt tail e out st => ?_
  obtain ⟨htup, hne⟩ := tuple_pack x y z (hlt x (by simp)) (hlt y (by simp)) (hlt z (by simp))
  simp only [packTriples, List.cons_append]
  rw [decodeC40_step _ _ _ _ _ _ _ _ hne, htup, show x :: y :: z :: t = [x, y, z] ++ t from rfl,
    c40Values_append]
  simp only
  cases c40Values base sh3 [x, y, z] st out with
  | error err => rfl
  | ok r =>
    obtain ⟨st1, o1⟩ := r
    simp only [Except.bind]
    rw [ih fun w hw => hlt w (by simp [hw])]
    cases c40Values base sh3 t st1 o1 with
    | error err => rfl
    | ok r2 =>
      simp only []
      congr 1
      omega

theorem decodeC40_end (base sh3 : List Nat) (un : Bool) (tail : List Nat) (ht : TripleTail un tail) (e : Nat)
    (out : List Nat) (st : CSt) :
    decodeC40 base sh3 ((if un then [254] else []) ++ tail) e out st = .ok (tail, e + (if un then 1 else 0), out) :=
  (tripleLoop_c40 base sh3 st).end_ un tail ht e out

theorem c40like_Seg {c : Nat} {m : DMode} {base sh3 : List Nat}
    (hc : asciiAct false c = .latch m)
    (hm : ∀ st, modeStep m st = backTo st (decodeC40 base sh3 st.rest st.eaten st.out { shift := 0, upper := false }))
    {vals b : List Nat} {n : Nat} (hl : vals.length = 3 * n) (hlt : ∀ v ∈ vals, v < 40) {st' : CSt}
    (hv : ∀ out, c40Values base sh3 vals { shift := 0, upper := false } out = .ok (st', out ++ b))
    (un : Bool) (e : Nat) : Seg e (c :: (packTriples vals ++ (if un then [254] else []))) b (TripleTail un) :=
  Seg.latched (r := fun l e out => decodeC40 base sh3 l e out { shift := 0, upper := false }) hc hm (fun _ _ _ => rfl)
    fun tail ht out => by
    rw [List.append_assoc, decodeC40_triples base sh3 n vals hl hlt, hv]
    simp only
    rw [decodeC40_end _ _ un tail ht, List.length_append, packTriples_length n _ hl]
    cases un <;> simp <;> omega

theorem c40_Seg (text : Bool) (b : List Nat) (un : Bool) (e : Nat) (hb : ByteList b)
    (hmod : (b.flatMap (c40Vals text)).length % 3 = 0) :
    Seg e ((if text then 239 else 230) :: (packTriples (b.flatMap (c40Vals text)) ++ (if un then [254] else []))) b
      (TripleTail un) := by
  have hl : (b.flatMap (c40Vals text)).length = 3 * ((b.flatMap (c40Vals text)).length / 3) := by omega
  have hv : ∀ out, c40Values (tabs text).1 (tabs text).2 (b.flatMap (c40Vals text)) { shift := 0, upper := false } out =
      .ok ({ shift := 0, upper := false }, out ++ b) := fun out => by
    simpa only [List.append_nil, c40Values] using c40_bytes text b hb [] out
  cases text
  · exact c40like_Seg (m := .c40) rfl (fun _ => rfl) hl (c40_vals_lt false b hb) hv un e
  · exact c40like_Seg (m := .text) rfl (fun _ => rfl) hl (c40_vals_lt true b hb) hv un e

def C40OK (text : Bool) (b : List Nat) (un : Bool) (tail : List Nat) : Prop :=
  ByteList b ∧ (b.flatMap (c40Vals text)).length % 3 = 0 ∧ TripleTail un tail

theorem seg_c40 (text : Bool) (b : List Nat) (un : Bool) (tail : List Nat) (e : Nat) (out : List Nat)
    (ecis : List (Nat × Nat)) (h : C40OK text b un tail) :
    decRun .ascii { rest := [if text then 239 else 230] ++ packTriples (b.flatMap (c40Vals text)) ++
                      (if un then [254] else []) ++ tail, eaten := e, out := out, ecis := ecis } =
    decRun .ascii { rest := tail,
                    eaten := e + (1 + (packTriples (b.flatMap (c40Vals text))).length + (if un then 1 else 0)),
                    out := out ++ b, ecis := ecis } := by
  have := (c40_Seg text b un e h.1 h.2.1).frame h.2.2 out ecis
  simp only [List.cons_append, List.nil_append, List.append_assoc] at this ⊢
  rw [this]
  congr 2
  cases un <;> simp <;> omega

end DM.Lemmas.Complete
