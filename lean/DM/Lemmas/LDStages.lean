import DM.Model.RSDec
/-
`DM.Model.RS.ldStep` cut into its stages: the regular update, the search for the first
non-vanishing `σ`, and the five loops of the singular update, each under a name of its own, and
the equation `ldStep_eq` that puts them together again.
Namespace: `LD`.
-/
namespace DM.Lemmas.LD
open DM.Model DM.Model.RS

/-- the model's `w3` -/
def regW (w y : List Nat) (v epsV bg : Nat) : List Nat :=
  let tmp := w ++ [1]
  let w1 := 0 :: w
  let w2 := (List.zipWith (fun wi yi => gadd wi (gmul epsV yi)) (w1.take v) y) ++ w1.drop (min v y.length)
  (List.zipWith (fun wi ti => gadd wi (gmul bg ti)) w2 tmp) ++ w2.drop tmp.length

/-- the model's `y2` -/
def regY (w y : List Nat) (epsInv : Nat) : List Nat :=
  let tmp := w ++ [1]
  ((List.zipWith (fun _ ti => gmul ti epsInv) y tmp) ++ y.drop tmp.length) ++ [epsInv]

def regStep (syn : List Nat) (v : Nat) (w y : List Nat) (epsV : Nat) : R (Option LDSt) := do
  let beta ← div' "beta / eps_v"
    (← dot (← slice "syn[v+1..=2v+1]" syn (v + 1) (2 * v + 1)) (w ++ [1])) epsV
  let gamma ← dot (← slice "syn[v..=2v-1]" syn v (2 * v - 1)) y
  let epsInv ← div' "1 / eps_v" 1 epsV
  ldCheck syn (regW w y v epsV (gadd beta gamma)) (regY w y epsInv) (v + 1)
  return some { v := v + 1, w := regW w y v epsV (gadd beta gamma), y := regY w y epsInv }

def findSigma (syn tmp : List Nat) (t v : Nat) : R (Option (Nat × Nat)) :=
  forIn ((List.range (t - v)).filter (· ≥ 1)) none fun i found => do
    if found.isNone then
      let sigmaI ← dot (← slice "syn[v+i..=2v+i]" syn (v + i) (2 * v + i)) tmp
      if sigmaI ≠ 0 then pure (.yield (some (i, sigmaI))) else pure (.yield found)
    else pure (.yield found)

/-- `σ_m, …, σ_{2m}` -/
def sigmaLoop (syn tmp : List Nat) (v m sigmaM : Nat) : R (List Nat) :=
  forIn ((List.range (2 * m + 1)).filter (· ≥ m + 1)) [sigmaM] fun k sigma => do
    pure (.yield (sigma ++ [← dot (← slice "syn[v+k..=2v+k]" syn (v + k) (2 * v + k)) tmp]))

def tkNext (w y tk : List Nat) (rho eta : Nat) : List Nat :=
  let shifted := 0 :: tk.dropLast
  (List.range shifted.length).map fun i =>
    if i < y.length ∧ i < w.length then
      gadd (shifted.getD i 0) (gadd (gmul rho (y.getD i 0)) (gmul eta (w.getD i 0)))
    else shifted.getD i 0

/-- `w^{m+1}` -/
def tkLoop (syn : List Nat) (v : Nat) (w y : List Nat) (m : Nat) : R (List Nat) :=
  forIn (List.range (m + 1)) w fun k tk => do
    let s2 ← at' "syn[2v+k]" syn (2 * v + k)
    let rho := gadd s2 (← dot (← slice "syn[v..=2v-1]" syn v (2 * v - 1)) tk)
    let eta ← at' "tmp[v-1]" tk (v - 1)
    pure (.yield (tkNext w y tk rho eta))

/-- the model's new `y` -/
def singY (w : List Nat) (n sInv : Nat) : List Nat :=
  (List.range (n + 1)).map fun i =>
    if i < w.length then gmul (w.getD i 0) sInv else if i = w.length then sInv else 0

/-- the residuals of `w^{m+1}` in rows `v, …, v+m` -/
def gamInit (syn : List Nat) (v m : Nat) (tk : List Nat) : R (List Nat) :=
  forIn (List.range (m + 1)) [] fun i gam => do
    let s3 ← at' "syn[n+v+1+i]" syn (m + v + v + 1 + i)
    pure (.yield (gam ++
      [gadd s3 (← dot (← slice "syn[v+i..=2v-1+i]" syn (v + i) (2 * v - 1 + i)) tk)]))

/-- forward substitution in the triangular Toeplitz system of the `σ` -/
def gamSolve (sigma : List Nat) (m sigma0 : Nat) (gam0 : List Nat) : R (List Nat) :=
  forIn (List.range (m + 1)) gam0 fun i gam => do
    let gi0 ← at' "gamma[i]" gam i
    let gi ← forIn (List.range i) gi0 fun j gi => do
      let sg ← at' "sigma[i-j]" sigma (i - j)
      pure (.yield (gadd gi (gmul sg (gam.getD j 0))))
    pure (.yield (gam.set i (← div' "gamma / sigma[0]" gi sigma0)))

def twAdd (w tw : List Nat) (off gi : Nat) : List Nat :=
  (List.range tw.length).map fun q =>
    if q ≥ off ∧ q - off < w.length then gadd (tw.getD q 0) (gmul gi (w.getD (q - off) 0))
    else tw.getD q 0

/-- add `gi · [w, 1]` at offset `off` -/
def twStep (w tw : List Nat) (v off gi : Nat) : List Nat :=
  (twAdd w tw off gi).set (off + v) (gadd ((twAdd w tw off gi).getD (off + v) 0) gi)

/-- the new `w`: `w^{m+1}` plus the `γ_i`-multiples of the shifted `[w, 1]` -/
def twLoop (w : List Nat) (v m : Nat) (tk gam : List Nat) : R (List Nat) :=
  forIn (gam.zipIdx.map fun p => (p.2, p.1)) (tk ++ List.replicate (m + v + 1 - tk.length) 0)
    fun p tw => do
      let off ← sub' "m - i" m p.1
      if off > tw.length then throw (.panic "tmp[m-i..]")
      -- the model indexes the list it has just updated: same length (`twAdd_length`), other term
      if off + v ≥ (twAdd w tw off p.2).length then throw (.panic "tmp[m-i+v]")
      pure (.yield (twStep w tw v off p.2))

def singStep (syn : List Nat) (v : Nat) (w y : List Nat) (m sigmaM : Nat) : R (Option LDSt) := do
  let sigma ← sigmaLoop syn (w ++ [1]) v m sigmaM
  if sigma.length ≠ m + 1 then throw (.panic "debug_assert sigma.len()")
  let tk ← tkLoop syn v w y m
  let sInv ← div' "1 / sigma_m" 1 sigmaM
  if w.length > m + v then throw (.panic "y[w.len()]")
  let gam0 ← gamInit syn v m tk
  let sigma0 ← at' "sigma[0]" sigma 0
  let gam ← gamSolve sigma m sigma0 gam0
  let tw ← twLoop w v m tk gam
  ldCheck syn tw (singY w (m + v) sInv) (m + v + 1)
  return some { v := m + v + 1, w := tw, y := singY w (m + v) sInv }

theorem ldStep_eq (syn : List Nat) (t v : Nat) (w y : List Nat) :
    ldStep syn t ⟨v, w, y⟩ =
      slice "syn[v..=2v]" syn v (2 * v) >>= fun s => dot s (w ++ [1]) >>= fun epsV =>
        if epsV ≠ 0 then regStep syn v w y epsV
        else findSigma syn (w ++ [1]) t v >>= fun found =>
          match found with
          | none => pure none
          | some (m, sigmaM) => singStep syn v w y m sigmaM :=
  rfl

end DM.Lemmas.LD
