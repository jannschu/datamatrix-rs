import DM.Lemmas.X12RT
import DM.Lemmas.PlanCondSwitch
import DM.Lemmas.ListSeg
import DM.Lemmas.B256Field
/-
Base 256 encoder from an arbitrary position with an arbitrary plan: the loop, read backwards from a successful run over the
round equation `EncStep.b256Loop_eq` and, where it closes the field, `writeLength_gen` (`B256Field`): codewords and read
position under any plan (`b256Loop_run`), and with the control part that `C40Gen.pend_pass` (PlanCondSwitch.lean) gives for plans within
`C40Gen.PlanOKE` (`b256Loop_gen`). `seg`, `PlanOKE`, `Pending` are those of `C40Gen`.
-/
namespace DM.Lemmas.B256Gen
open DM.Model DM.Model.Enc DM.Model.Dec DM.Lemmas DM.Lemmas.DecRun DM.Lemmas.AsciiRT DM.Lemmas.Complete
open DM.Lemmas.EncRT DM.Lemmas.X12RT DM.Lemmas.EdiRT DM.Lemmas.C40Gen DM.Spec.Build

/-- invariant of `b256Loop` for a run that started at character `p0` behind the codewords `c0`: latch, a placeholder for
the length field, and the characters `p0 .. s.pos` as they are (`write_length` randomises them at the end) -/
structure BInv (list : List Sym) (body : List Nat) (p0 : Nat) (c0 : List Nat) (s : St) : Prop where
  input : s.input = body
  list : s.list = list
  newMode : s.newMode = none
  base : p0 ≤ s.pos
  le : s.pos ≤ body.length
  cw : s.cw = c0 ++ 231 :: 0 :: seg body p0 s.pos

theorem BInv.plan {list : List Sym} {body : List Nat} {p0 : Nat} {c0 : List Nat} {s : St} (inv : BInv list body p0 c0 s)
    (pl : List (Nat × EMode)) : BInv list body p0 c0 { s with plan := pl } :=
  ⟨inv.input, inv.list, inv.newMode, inv.base, inv.le, inv.cw⟩

structure BEnd (list : List Sym) (body : List Nat) (p0 : Nat) (c0 : List Nat) (s' : St) : Prop where
  out : ∃ (p : Nat) (toEnd : Bool), p0 < p ∧ p ≤ body.length ∧
    s'.cw = c0 ++ [231] ++ randFrom (c0.length + 2) (b256Hdr (seg body p0 p) toEnd ++ seg body p0 p) ∧
    s'.pos = p ∧ s'.input = body ∧ s'.list = list ∧
    (toEnd = true → p = body.length ∧ ∃ S, firstBigEnough list s'.cw.length = some S ∧ dataCw S = s'.cw.length) ∧
    (toEnd = false → (seg body p0 p).length ≤ 1555) ∧
    ((s'.mode = .ascii ∧ s'.plan = [(0, .ascii)] ∧ s'.newMode = none ∧ p = body.length) ∨
     (toEnd = false ∧ s'.hasMore = true ∧ Pending s' ∧ PlanOKE body s'.plan))

/-- what `base256::encode` leaves behind, but for the control part at a planned switch -/
abbrev BRun (list : List Sym) (body : List Nat) (p0 : Nat) (c0 : List Nat) (s' : St) : Prop :=
  ∃ (p : Nat) (toEnd : Bool), p0 < p ∧ p ≤ body.length ∧
    s'.cw = c0 ++ [231] ++ randFrom (c0.length + 2) (b256Hdr (seg body p0 p) toEnd ++ seg body p0 p) ∧
    s'.pos = p ∧ s'.input = body ∧ s'.list = list ∧
    (toEnd = true → p = body.length ∧ MainRT.ExactFit list s'.cw.length) ∧
    (toEnd = false → (seg body p0 p).length ≤ 1555) ∧
    ((s'.mode = .ascii ∧ s'.plan = [(0, .ascii)] ∧ s'.newMode = none ∧ p = body.length) ∨
     (toEnd = false ∧ s'.hasMore = true))

theorem b256Loop_run (list : List Sym) (body : List Nat) (hb : ByteList body) (p0 : Nat) (c0 : List Nat) :
    ∀ (f : Nat) (s s' : St), BInv list body p0 c0 s → (s.hasMore = true ∨ p0 < s.pos) →
      b256Loop (c0.length + 1) f s = .ok s' → BRun list body p0 c0 s' := by
  intro f
  induction f with
  | zero => intro s s' _ _ h; cases h
  | succ f ih =>
    intro s s' inv hprog h
    -- closing the field, at the end of the data or at a planned switch (the control part may have changed)
    have hfin : ∀ s1 : St, s1.input = body → s1.list = list → p0 < s1.pos → s1.pos ≤ body.length →
        s1.cw = c0 ++ 231 :: 0 :: seg body p0 s1.pos → (s1.hasMore = false → s1.newMode = none) →
        EncStep.b256Finish (c0.length + 1) s1 = .ok s' → BRun list body p0 c0 s' := by
      intro s1 hin hli hb1 hle hcw hnm h
      obtain ⟨s4, hw, rfl⟩ := EncStep.b256Finish_ok h
      have hne : seg body p0 s1.pos ≠ [] :=
        List.ne_nil_of_length_pos (by rw [seg_length body p0 s1.pos (Nat.le_of_lt hb1) hle]; omega)
      obtain ⟨toEnd, w1, w2, w3⟩ := writeLength_gen s1 s4 c0 _ hcw (seg_bytes body hb p0 s1.pos) hne hw
      rw [hli] at w2
      cases hmore : s1.hasMore with
      | true =>
        have hte : toEnd = false := by
          cases toEnd with
          | false => rfl
          | true => exact absurd ((w2 rfl).1.symm.trans hmore) Bool.false_ne_true
        rw [if_pos rfl]
        exact ⟨s1.pos, toEnd, hb1, hle, by rw [w1], by rw [w1], by rw [w1]; exact hin, by rw [w1]; exact hli,
          (fun ht => by rw [hte] at ht; cases ht), w3, Or.inr ⟨hte, by rw [w1]; exact hmore⟩⟩
      | false =>
        rw [if_neg Bool.false_ne_true]
        have hpl : s1.pos = body.length := by
          have := of_decide_eq_false hmore
          rw [hin] at this
          omega
        refine ⟨s1.pos, toEnd, hb1, hle, by rw [w1]; rfl, by rw [w1]; rfl, by rw [w1]; exact hin,
          by rw [w1]; exact hli, fun ht => ⟨hpl, ?_⟩, w3, Or.inl ⟨rfl, rfl, by rw [w1]; exact hnm hmore, hpl⟩⟩
        obtain ⟨_, S, f1, f2⟩ := w2 ht
        exact ⟨S, by simpa [St.setAscii] using f1, by simpa [St.setAscii] using f2⟩
    have heat : ∀ {ch : Nat} {t : List Nat}, s.rest = ch :: t →
        BInv list body p0 c0 { s with pos := s.pos + 1, cw := s.cw ++ [ch] } := fun {ch _} hr => by
      obtain ⟨hlt0, hch, -⟩ := EncStep.rest_eq_cons hr
      have hlt : s.pos < body.length := inv.input ▸ hlt0
      refine ⟨inv.input, inv.list, inv.newMode, Nat.le_succ_of_le inv.base, hlt, ?_⟩
      have : ch = body[s.pos] := by rw [hch]; simp only [inv.input]
      simp only [inv.cw, seg_succ body p0 s.pos inv.base hlt, this, List.append_assoc, List.cons_append]
    have hb1 : p0 < s.pos + 1 := Nat.lt_succ_of_le inv.base
    rw [EncStep.b256Loop_eq] at h
    split at h
    · have hm := (EncStep.rest_eq_nil ‹_›).2
      exact hfin s inv.input inv.list (hprog.resolve_left (by rw [hm]; exact Bool.false_ne_true)) inv.le inv.cw
        (fun _ => inv.newMode) h
    · have inv1 := heat ‹_›
      exact hfin _ inv1.input inv1.list hb1 inv1.le inv1.cw (fun _ => inv1.newMode) h
    · rename_i ch _ _ hr
      have inv1 := heat hr
      rcases EncStep.onSwitch_ok h with ⟨pl, -, h⟩ | ⟨md, pl, -, hcl, -, h⟩
      · exact ih _ s' (inv1.plan pl) (Or.inr hb1) h
      · exact hfin { s with pos := s.pos + 1, cw := s.cw ++ [ch], mode := md, plan := pl, newMode := _ }
          inv1.input inv1.list hb1 inv1.le inv1.cw
          (fun hm => (Bool.false_ne_true (hm.symm.trans ((EncStep.hasMore_charsLeft _).mpr hcl))).elim) h

theorem b256Loop_gen (list : List Sym) (body : List Nat) (hb : ByteList body) (p0 : Nat) (c0 : List Nat)
    (f : Nat) (s s' : St) (inv : BInv list body p0 c0 s)
    (hplan : PlanOKE body s.plan) (hprog : s.hasMore = true ∨ p0 < s.pos) (h : b256Loop (c0.length + 1) f s = .ok s') :
    BEnd list body p0 c0 s' := by
  have hco := (EncStep.b256Loop_res (pend_pass body s.mode) _ f s ⟨inv.input, hplan, inv.newMode, rfl⟩).ok h
  obtain ⟨p, toEnd, r1, r2, r3, r4, r5, r6, r7, r8, hctl⟩ := b256Loop_run list body hb p0 c0 f s s' inv hprog h
  exact ⟨p, toEnd, r1, r2, r3, r4, r5, r6, r7, r8, hctl.imp_right fun ⟨a1, a2⟩ => ⟨a1, a2, hco.pending a2, hco.plan⟩⟩

theorem b256_call {list : List Sym} {body : List Nat} {s s' : St} (hin : s.input = body) (hli : s.list = list)
    (hmore : s.hasMore = true) (hmode : s.mode = .base256) (hnm : s.newMode = some 231)
    (h : encodeMode (latched s) = .ok s') :
    ∃ f sB, sB.plan = s.plan ∧ BInv list body s.pos s.cw sB ∧
      sB.hasMore = true ∧ b256Loop (s.cw.length + 1) f sB = .ok s' := by
  have hL := latched_spec hnm
  generalize latched s = sL at h hL
  rw [encodeMode_b256 sL (hL.mode.trans hmode), hL.cw, List.length_append, List.length_singleton] at h
  have hin' : sL.input = body := hL.input.trans hin
  refine ⟨sL.charsLeft + 2, sL.push 0, hL.plan, ⟨hin', hL.list.trans hli, hL.newMode, Nat.le_of_eq hL.pos.symm, ?_, ?_⟩, ?_, h⟩
  · rw [show (sL.push 0).pos = s.pos from hL.pos, ← hin]; exact Nat.le_of_lt (of_decide_eq_true hmore)
  · simp [St.push, hL.cw, hL.pos, seg_self]
  · simpa [St.hasMore, St.push, hL.pos, hL.input] using hmore

end DM.Lemmas.B256Gen
