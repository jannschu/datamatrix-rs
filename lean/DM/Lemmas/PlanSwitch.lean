import DM.Lemmas.PlanInv
/-!
`add_switches` on a live plan, from both sides. Forward (`addSwitches_spec`): it does not panic, steps at most five fresh
plans, and what it pushes is live again. Backward (`addSwitches_mem`, `addSwitches_ascii_child`): every plan it pushes is
the first step of a fresh plan of another enabled mode (`candOf`), and the ASCII one is there if ASCII is enabled.
`Child` says what such a plan is, with everything known about it as named fields; the loop (`PlanRounds.Round`) speaks of
switch children in these terms only. `write_unlatch` first: `unlatch_ok_iff` says when it goes through (`CanLeave`) and
which context it leaves (`leaveCtx`).
-/
namespace DM.Lemmas.PlanSwitch
open DM.Model DM.Model.Plan DM.Model.Enc DM.Lemmas.PlanInv

/-- the assertions of `write_unlatch` hold -/
def CanLeave : PlanImpl → Prop
  | .ascii p => p.digitsAhead = 0
  | .c40 p => p.values ≤ 2
  | .x12 p => p.values = 0 ∧ p.asciiEnd = none
  | .edifact p => p.asciiEnd = none
  | .base256 _ => True

/-- the context behind `write_unlatch`: the UNLATCH, and what is flushed before it, accounted for -/
def leaveCtx : PlanImpl → Ctx
  | .ascii p => p.ctx
  | .c40 p => if p.values = 0 then p.ctx.write 1 else (p.ctx.write 2).write 1
  | .x12 p => p.ctx.write 1
  | .edifact p => p.ctx.write (min (p.written + 1) 3)
  | .base256 p => b256Unlatch p

theorem unlatch_ok_iff {g : GPlan} {ctx : Ctx} : g.unlatch = .ok ctx ↔ CanLeave g.plan ∧ ctx = leaveCtx g.plan := by
  unfold GPlan.unlatch
  cases g.plan with
  | ascii p =>
    simp only [CanLeave, leaveCtx]
    split
    · exact ⟨nofun, fun h => absurd h.1 ‹_›⟩
    · rename_i h
      exact ⟨fun e => ⟨Decidable.of_not_not h, by cases e; rfl⟩, fun e => by rw [e.2]⟩
  | c40 p =>
    simp only [CanLeave, leaveCtx, c40Unlatch]
    by_cases h0 : p.values = 0
    · rw [if_neg (by omega), if_pos h0]
      exact ⟨fun e => ⟨by omega, by cases e; rfl⟩, fun e => by rw [e.2]⟩
    · rw [if_pos (by omega), if_neg h0]
      split
      · exact ⟨nofun, fun h => by omega⟩
      · exact ⟨fun e => ⟨by omega, by cases e; rfl⟩, fun e => by rw [e.2]⟩
  | x12 p =>
    simp only [CanLeave, leaveCtx, x12Unlatch]
    split
    · exact ⟨nofun, fun h => absurd h.1.1 ‹_›⟩
    · rename_i hv
      split
      · rename_i ha
        exact ⟨nofun, fun h => by rw [h.1.2] at ha; cases ha⟩
      · rename_i ha
        exact ⟨fun e => ⟨⟨Decidable.of_not_not hv, by simpa using ha⟩, by cases e; rfl⟩, fun e => by rw [e.2]⟩
  | edifact p =>
    simp only [CanLeave, leaveCtx, ediUnlatch]
    split
    · rename_i ha
      exact ⟨nofun, fun h => by rw [h.1] at ha; cases ha⟩
    · rename_i ha
      exact ⟨fun e => ⟨by simpa using ha, by cases e; rfl⟩, fun e => by rw [e.2]⟩
  | base256 p =>
    simp only [CanLeave, leaveCtx]
    exact ⟨fun e => ⟨trivial, by cases e; rfl⟩, fun e => by rw [e.2]⟩

theorem leaveCtx_at {data list k} {pl : PlanImpl} (h : CtxAt data list k (pctx pl)) : CtxAt data list k (leaveCtx pl) := by
  cases pl with
  | c40 p => simp only [leaveCtx]; split <;> exact h
  | base256 p => simp only [leaveCtx, b256Unlatch]; split <;> exact h
  | _ => exact h

theorem canLeave_allowed {pl : PlanImpl} (h : CanLeave pl) : Allowed pl := by
  cases pl with
  | x12 p => exact h.2
  | c40 p => trivial
  | base256 p => trivial
  | _ => exact h

theorem canLeave_of {data list k} {g : GPlan} {c : Nat} (h : Core data list k g.plan) (ha : Allowed g.plan)
    (hs : g.switchCost = some c) : CanLeave g.plan := by
  cases hp : g.plan with
  | x12 p =>
    rw [hp] at ha
    rw [GPlan.switchCost, hp] at hs
    exact ⟨Decidable.by_contra fun hv => (by simp only [] at hs; rw [if_neg hv] at hs; cases hs), ha⟩
  | c40 p => have := h.2.2; rwa [hp] at this
  | base256 p => trivial
  | ascii p => rwa [hp] at ha
  | edifact p => rwa [hp] at ha

theorem unlatch_spec {data list k} (g : GPlan) (h : Core data list k g.plan) (ha : Allowed g.plan)
    (c : Nat) (hs : g.switchCost = some c) : ∃ ctx, g.unlatch = .ok ctx ∧ CtxAt data list k ctx :=
  ⟨_, unlatch_ok_iff.mpr ⟨canLeave_of h ha hs, rfl⟩, leaveCtx_at h.1⟩

def NewOK (data : List Nat) (list : List Sym) (k : Nat) (modes : Nat) (g : GPlan) (restLen : Nat)
    (asStart : Bool) (c : GPlan) : Prop :=
  Core data list (nxt data k) c.plan ∧ enabledMode modes c.current = true ∧
  c.switches = (if asStart then [(restLen, c.current)] else g.switches ++ [(restLen, c.current)])

theorem addSwitchesGo_spec {data list k} (g : GPlan) (restLen : Nat) (asStart : Bool) (modes asciiCost : Nat)
    (ctx : Ctx) (hc : CtxAt data list k ctx) (hk : k ≤ data.length) :
    ∀ (t : List (EMode × Nat)) (acc : List GPlan) (n : Nat),
      (∀ c ∈ acc, NewOK data list k modes g restLen asStart c) →
      ∃ l n', addSwitchesGo g restLen asStart modes asciiCost ctx t acc n = .ok (l, n') ∧
        n' ≤ n + (t.filter fun e => decide (g.current ≠ e.1)).length ∧ l.length + n ≤ acc.length + n' ∧
        ∀ c ∈ l, NewOK data list k modes g restLen asStart c := by
  intro t
  induction t with
  | nil =>
    intro acc n hacc
    exact ⟨_, _, rfl, by simp, by simp, fun c hc' => hacc c (List.mem_reverse.mp hc')⟩
  | cons e t ih =>
    intro acc n hacc
    obtain ⟨m, ce⟩ := e
    unfold addSwitchesGo
    by_cases hcond : g.current ≠ m ∧ enabledMode modes m = true
    · rw [if_pos hcond]
      simp only []
      have hnp := newPlan_core (data := data) (list := list) m (ctx.write ce) (ctxAt_write hc _) hk
      have hflt : (List.filter (fun e => decide (g.current ≠ e.1)) ((m, ce) :: t)).length =
          (List.filter (fun e => decide (g.current ≠ e.1)) t).length + 1 := by
        rw [List.filter_cons_of_pos (by simpa using hcond.1)]; rfl
      rcases step_spec (data := data) (list := list) (k := k)
          ({ extra := asciiCost + ce * 12,
             switches := if asStart = true then [(restLen, m)] else g.switches ++ [(restLen, m)],
             plan := newPlan m (ctx.write ce) } : GPlan) hnp.1 with ⟨h1, _, _⟩ | ⟨g', r, h1, h2, _, h4, h5, _, _⟩
      · rw [h1]
        obtain ⟨l, n', e1, e2, e4, e3⟩ := ih acc (n + 1) hacc
        exact ⟨l, n', e1, by omega, by omega, e3⟩
      · rw [h1]
        have hcur : g'.current = m := by rw [h4]; simp [GPlan.current, hnp.2]
        obtain ⟨l, n', e1, e2, e4, e3⟩ := ih (g' :: acc) (n + 1) (by
          intro c hc'
          rcases List.mem_cons.mp hc' with rfl | hc'
          · exact ⟨h5, by rw [hcur]; exact hcond.2, by rw [h2, hcur]⟩
          · exact hacc c hc')
        exact ⟨l, n', e1, by omega, by simp only [List.length_cons] at e4; omega, e3⟩
    · rw [if_neg hcond]
      obtain ⟨l, n', e1, e2, e4, e3⟩ := ih acc n hacc
      refine ⟨l, n', e1, ?_, e4, e3⟩
      have : (List.filter (fun e => decide (g.current ≠ e.1)) t).length ≤
          (List.filter (fun e => decide (g.current ≠ e.1)) ((m, ce) :: t)).length :=
        ((List.sublist_cons_self _ _).filter _).length_le
      omega

theorem targets_le_five (m : EMode) : (switchTargets.filter fun e => decide (m ≠ e.1)).length ≤ 5 := by
  cases m <;> decide

theorem addSwitches_spec {data list k} (g : GPlan) (h : Core data list k g.plan) (ha : Allowed g.plan)
    (restLen : Nat) (asStart : Bool) (modes : Nat) (hst : asStart = true → g.switches.length = 1) :
    ∃ l n, g.addSwitches restLen asStart modes = .ok (l, n) ∧ n ≤ 5 ∧ l.length ≤ n ∧
      ∀ c ∈ l, NewOK data list k modes g restLen asStart c := by
  unfold GPlan.addSwitches
  cases hs : g.switchCost with
  | none => exact ⟨[], 0, rfl, by omega, by simp, by simp⟩
  | some c =>
    obtain ⟨ctx, hu, hctx⟩ := unlatch_spec g h ha c hs
    simp only [hu]
    have hnot : ¬ (asStart = true ∧ g.switches.length ≠ 1) := fun h2 => h2.2 (hst h2.1)
    rw [if_neg hnot]
    obtain ⟨l, n', e1, e2, e4, e3⟩ := addSwitchesGo_spec g restLen asStart modes c ctx hctx h.2.1 switchTargets [] 0 (by simp)
    exact ⟨l, n', e1, by have := targets_le_five g.current; omega, by simpa using e4, e3⟩

theorem newOK_live {data list k modes} {g c : GPlan} {asStart : Bool}
    (h : NewOK data list k modes g (data.length - k) asStart c)
    (hp : asStart = false → SwOK modes data.length k g) :
    Live data list modes (nxt data k) c := by
  obtain ⟨h1, h2, h3⟩ := h
  refine ⟨h1, h2, ?_⟩
  have hn := nxt_ge data k
  -- the new entry comes after the switches so far (none for a start plan)
  obtain ⟨pre, hsw, p2, p3⟩ : ∃ pre, c.switches = pre ++ [(data.length - k, c.current)] ∧
      (∀ e ∈ pre, enabledMode modes e.2 = true ∧ data.length - k ≤ e.1 ∧ e.1 ≤ data.length) ∧
      pre.Pairwise (fun a b => a.1 ≥ b.1) := by
    cases asStart with
    | true => exact ⟨[], h3, nofun, List.Pairwise.nil⟩
    | false =>
      obtain ⟨_, p2, p3, _⟩ := hp rfl
      exact ⟨g.switches, h3, p2, p3⟩
  rw [hsw]
  refine ⟨?_, ?_, by simp⟩
  · intro e he
    rcases List.mem_append.mp he with he | he
    · have := p2 e he
      exact ⟨this.1, by omega, this.2.2⟩
    · simp only [List.mem_singleton] at he
      subst he
      exact ⟨h2, by simp only []; omega, by simp only []; omega⟩
  · rw [List.pairwise_append]
    refine ⟨p3, by simp, ?_⟩
    intro a ha b hb
    simp only [List.mem_singleton] at hb
    subst hb
    have := p2 a ha
    simp only []; omega

/-- the candidate `add_switches` builds for mode `m` (before its first step) -/
def candOf (g : GPlan) (restLen : Nat) (asStart : Bool) (ac : Nat) (ctx : Ctx) (m : EMode) (ce : Nat) : GPlan :=
  { extra := ac + ce * 12, switches := if asStart then [(restLen, m)] else g.switches ++ [(restLen, m)],
    plan := newPlan m (ctx.write ce) }

theorem addSwitchesGo_mem (g : GPlan) (restLen : Nat) (asStart : Bool) (modes ac : Nat) (ctx : Ctx) :
    ∀ (t : List (EMode × Nat)) (acc : List GPlan) (n : Nat) (l : List GPlan) (n' : Nat),
      addSwitchesGo g restLen asStart modes ac ctx t acc n = .ok (l, n') →
      (∀ c ∈ acc, c ∈ l) ∧ ∀ c ∈ l, c ∈ acc ∨ ∃ m ce r, (m, ce) ∈ t ∧ g.current ≠ m ∧ enabledMode modes m = true ∧
        (candOf g restLen asStart ac ctx m ce).step = .ok (some (c, r)) := by
  intro t
  induction t with
  | nil =>
    intro acc n l n' h
    simp only [addSwitchesGo, Except.ok.injEq, Prod.mk.injEq] at h
    rw [← h.1]
    exact ⟨fun c hc => List.mem_reverse.mpr hc, fun c hc => Or.inl (List.mem_reverse.mp hc)⟩
  | cons e t ih =>
    intro acc n l n' h
    obtain ⟨m, ce⟩ := e
    have lift : ∀ c, (∃ m' ce' r, (m', ce') ∈ t ∧ g.current ≠ m' ∧ enabledMode modes m' = true ∧
        (candOf g restLen asStart ac ctx m' ce').step = .ok (some (c, r))) →
        ∃ m' ce' r, (m', ce') ∈ (m, ce) :: t ∧ g.current ≠ m' ∧ enabledMode modes m' = true ∧
        (candOf g restLen asStart ac ctx m' ce').step = .ok (some (c, r)) := by
      rintro c ⟨m', ce', r, h1, h2⟩
      exact ⟨m', ce', r, List.mem_cons_of_mem _ h1, h2⟩
    unfold addSwitchesGo at h
    split at h
    · rename_i hcond
      simp only [] at h
      split at h
      · cases h
      · obtain ⟨i1, i2⟩ := ih _ _ _ _ h
        exact ⟨i1, fun c hc => (i2 c hc).imp id (lift c)⟩
      · rename_i c0 r0 hst
        obtain ⟨i1, i2⟩ := ih _ _ _ _ h
        refine ⟨fun c hc => i1 c (List.mem_cons_of_mem _ hc), ?_⟩
        intro c hc
        rcases i2 c hc with h1 | h1
        · rcases List.mem_cons.mp h1 with rfl | h1
          · exact Or.inr ⟨m, ce, r0, List.mem_cons_self .., hcond.1, hcond.2, hst⟩
          · exact Or.inl h1
        · exact Or.inr (lift c h1)
    · obtain ⟨i1, i2⟩ := ih _ _ _ _ h
      exact ⟨i1, fun c hc => (i2 c hc).imp id (lift c)⟩

theorem addSwitches_mem {g : GPlan} {restLen : Nat} {asStart : Bool} {modes : Nat} {l : List GPlan} {n : Nat}
    (h : g.addSwitches restLen asStart modes = .ok (l, n)) :
    ∀ c ∈ l, ∃ s ctx m ce r, g.switchCost = some s ∧ g.unlatch = .ok ctx ∧ (m, ce) ∈ switchTargets ∧
      g.current ≠ m ∧ enabledMode modes m = true ∧
      (candOf g restLen asStart s ctx m ce).step = .ok (some (c, r)) := by
  intro c hc
  unfold GPlan.addSwitches at h
  split at h
  · simp only [Except.ok.injEq, Prod.mk.injEq] at h
    rw [← h.1] at hc; cases hc
  · rename_i s hs
    split at h
    · cases h
    · rename_i ctx hu
      split at h
      · split at h
        · cases h
        · simp only [Except.ok.injEq, Prod.mk.injEq] at h
          rw [← h.1] at hc; cases hc
      · rcases (addSwitchesGo_mem _ _ _ _ _ _ _ _ _ _ _ h).2 c hc with h1 | ⟨m, ce, r, h1, h2, h3, h4⟩
        · cases h1
        · exact ⟨s, ctx, m, ce, r, hs, hu, h1, h2, h3, h4⟩

theorem addSwitches_ascii_child {g : GPlan} {restLen : Nat} {asStart : Bool} {modes : Nat} {l : List GPlan} {n s : Nat}
    (hasc : enabledMode modes .ascii = true) (hcur : g.current ≠ .ascii) (hs : g.switchCost = some s)
    (h : g.addSwitches restLen asStart modes = .ok (l, n)) :
    ∃ ctx c r, g.unlatch = .ok ctx ∧ c ∈ l ∧ (candOf g restLen asStart s ctx .ascii 0).step = .ok (some (c, r)) := by
  unfold GPlan.addSwitches at h
  rw [hs] at h
  simp only [] at h
  split at h
  · cases h
  · rename_i ctx hu
    split at h
    · split at h
      · cases h
      · rename_i hany
        exfalso
        apply hany
        simp [switchTargets, hcur, hasc]
    · unfold switchTargets at h
      unfold addSwitchesGo at h
      rw [if_pos ⟨hcur, hasc⟩] at h
      simp only [] at h
      split at h
      · cases h
      · rename_i hst
        exact absurd rfl (step_none_not_ascii hst)
      · rename_i c r hst
        exact ⟨ctx, c, r, hu, (addSwitchesGo_mem _ _ _ _ _ _ _ _ _ _ _ h).1 c (List.mem_cons_self ..), hst⟩

/-- `c` is the switch child of mode `m` of the plan `g`, live at position `k`: the first step of a fresh plan of another
enabled mode `m`, made from what `g` costs to leave (`s`) and the context it leaves behind (`ctx`, still at `k`); that step
reads a character. -/
structure Child (data : List Nat) (list : List Sym) (modes k : Nat) (g : GPlan) (s : Nat) (ctx : Ctx) (m : EMode)
    (c : GPlan) : Prop where
  lt : k < data.length
  allowed : Allowed g.plan
  cost : g.switchCost = some s
  unlatch : g.unlatch = .ok ctx
  ctxAt : CtxAt data list k ctx
  ne : g.current ≠ m
  enabled : enabledMode modes m = true
  step : ∃ ce r, (m, ce) ∈ switchTargets ∧
    (candOf g (data.length - k) (k == 0) s ctx m ce).step = .ok (some (c, r)) ∧ r.end = false

section
variable {data : List Nat} {list : List Sym} {modes k : Nat} {g c : GPlan} {s : Nat} {ctx : Ctx} {m : EMode}

theorem Child.of_step {ce : Nat} {r : StepResult} (hc : Core data list k g.plan) (hlt : k < data.length)
    (hs : g.switchCost = some s) (hu : g.unlatch = .ok ctx) (hm : (m, ce) ∈ switchTargets) (hne : g.current ≠ m)
    (hen : enabledMode modes m = true)
    (hst : (candOf g (data.length - k) (k == 0) s ctx m ce).step = .ok (some (c, r))) :
    Child data list modes k g s ctx m c := by
  have hal : Allowed g.plan := canLeave_allowed (unlatch_ok_iff.mp hu).1
  have hctx : CtxAt data list k ctx := (unlatch_ok_iff.mp hu).2 ▸ leaveCtx_at hc.1
  have hre := (step_some_spec (newPlan_core m (ctx.write ce) (ctxAt_write hctx ce) hc.2.1).1 hst).2.2.2.2.1
  exact ⟨hlt, hal, hs, hu, hctx, hne, hen, ce, r, hm, hst, by rw [hre]; simpa using hlt⟩

theorem Child.current (h : Child data list modes k g s ctx m c) : c.current = m := by
  obtain ⟨ce, r, _, hst, _⟩ := h.step
  have hn := newPlan_core (data := data) (list := list) (k := k) m (ctx.write ce) (ctxAt_write h.ctxAt _)
    (Nat.le_of_lt h.lt)
  exact (step_some_spec (g := candOf g (data.length - k) (k == 0) s ctx m ce) hn.1 hst).2.2.1.trans hn.2

theorem child_of_mem {sw : List GPlan} {n : Nat} (hc : Core data list k g.plan) (hlt : k < data.length)
    (h : g.addSwitches (data.length - k) (k == 0) modes = .ok (sw, n)) (hcs : c ∈ sw) :
    ∃ s ctx m, Child data list modes k g s ctx m c := by
  obtain ⟨s, ctx, m, ce, r, hs, hu, hm, hne, hen, hst⟩ := addSwitches_mem h c hcs
  exact ⟨s, ctx, m, .of_step hc hlt hs hu hm hne hen hst⟩

theorem ascii_child_of_mem {sw : List GPlan} {n : Nat} (hasc : enabledMode modes .ascii = true)
    (hc : Core data list k g.plan) (hlt : k < data.length) (hcur : g.current ≠ .ascii) (hs : g.switchCost = some s)
    (h : g.addSwitches (data.length - k) (k == 0) modes = .ok (sw, n)) :
    ∃ ctx, ∃ c ∈ sw, Child data list modes k g s ctx .ascii c := by
  obtain ⟨ctx, c, r, hu, hcs, hst⟩ := addSwitches_ascii_child hasc hcur hs h
  exact ⟨ctx, c, hcs, .of_step hc hlt hs hu (by decide) hcur hasc hst⟩

end

end DM.Lemmas.PlanSwitch
