import DM.Model.RSDec
import DM.Lemmas.Bytes
import DM.Lemmas.Blocks
import Mathlib.Data.List.Induction
/-
Interleaving: `strided l b B` reads block `b` of a list interleaved `B` ways (positions `b + m·B`), `scatter` writes
one back; a list is its blocks (`strided_ext`), and writing block `b` changes block `b` only.  Last, the symbol's
row: what the interleaved code asks of the catalogue (`RowShape`, evaluated once in `rowShape`) and the lengths of a
block of a word of the symbol's length (`block_shape`).
Namespaces: `DM.Lemmas`, `RSSound` (`getD_scatter_miss`, `getD_scatter_hit`).
-/
namespace DM.Lemmas
open DM.Model DM.Model.RS

theorem strided_length (l : List Nat) (b B : Nat) :
    (strided l b B).length = (l.length - b + B - 1) / B := by
  unfold strided
  rw [List.length_map, List.length_range]

theorem lt_strided_length (l : List Nat) (b B m : Nat) (hB : 0 < B) :
    m < (strided l b B).length ↔ b + m * B < l.length := by
  rw [strided_length, Nat.lt_iff_add_one_le, Nat.le_div_iff_mul_le hB, Nat.add_mul, Nat.one_mul]
  omega

theorem getD_strided (l : List Nat) (b B m : Nat) (hB : 0 < B) :
    (strided l b B).getD m 0 = l.getD (b + m * B) 0 := by
  by_cases h : m < (strided l b B).length
  · rw [strided_length] at h
    rw [strided, getD_map_range, if_pos h]
  · rw [getD_of_ge _ _ (Nat.le_of_not_lt h),
      getD_of_ge _ _ (Nat.le_of_not_lt (mt (lt_strided_length l b B m hB).mpr h))]

theorem strided_bytes {l : List Nat} (h : Bytes l) (b B : Nat) : Bytes (strided l b B) :=
  Bytes.map_range _ _ fun _ _ => h.getD _

theorem strided_length_pos (l : List Nat) (b B : Nat) (hB : 0 < B) (hb : b < l.length) :
    1 ≤ (strided l b B).length :=
  (lt_strided_length l b B 0 hB).mpr (by rwa [Nat.zero_mul, Nat.add_zero])

theorem strided_length_full (l : List Nat) (b B k : Nat) (hb : b < B) (hl : l.length = B * k) :
    (strided l b B).length = k := by
  have key : ∀ m, m < (strided l b B).length ↔ m < k := fun m => by
    rw [lt_strided_length l b B m (Nat.zero_lt_of_lt hb), hl, Nat.add_comm, Nat.mul_comm B k, block_lt_iff hb]
  exact Nat.le_antisymm (Nat.le_of_not_lt fun h => Nat.lt_irrefl _ ((key _).mp h))
    (Nat.le_of_not_lt fun h => Nat.lt_irrefl _ ((key _).mpr h))

theorem strided_ext (x y : List Nat) (B : Nat) (hB : 0 < B) (hlen : x.length = y.length)
    (h : ∀ b, b < B → strided x b B = strided y b B) : x = y :=
  ext_getD 0 hlen fun j _ => by
    rw [← Nat.mod_add_div' j B, ← getD_strided x _ B _ hB, ← getD_strided y _ B _ hB, h _ (Nat.mod_lt _ hB)]

theorem bytes_of_strided {l : List Nat} {B : Nat} (hB : 0 < B) (h : ∀ b, b < B → Bytes (strided l b B)) :
    Bytes l := by
  intro x hx
  obtain ⟨j, hj, rfl⟩ := List.getElem_of_mem hx
  have e : l[j] = (strided l (j % B) B).getD (j / B) 0 := by
    rw [getD_strided _ _ _ _ hB, Nat.mod_add_div', getD_of_lt _ _ hj]
  rw [e]
  exact (h _ (Nat.mod_lt _ hB)).getD _

theorem strided_interleave (F : Nat → Nat → Nat) (k B b : Nat) (hb : b < B) :
    strided ((List.range (k * B)).map fun j => F (j % B) (j / B)) b B
      = (List.range k).map fun m => F b m := by
  have hB : 0 < B := by omega
  have hlen := strided_length_full ((List.range (k * B)).map fun j => F (j % B) (j / B)) b B k hb
    (by rw [List.length_map, List.length_range, Nat.mul_comm])
  refine ext_getD 0 (by rw [hlen, List.length_map, List.length_range]) fun m h1 => ?_
  have hm : m < k := hlen ▸ h1
  rw [getD_strided _ _ _ _ hB, getD_map_range, getD_map_range, if_pos hm,
    if_pos (by rw [Nat.add_comm]; exact block_lt hm hb), Nat.add_comm b, (div_mod_block m hb).1,
    (div_mod_block m hb).2]

theorem length_scatter (l blk : List Nat) (start stride : Nat) :
    (scatter l blk start stride).length = l.length := by
  unfold scatter
  generalize blk.zipIdx = ps
  induction ps generalizing l with
  | nil => rfl
  | cons p ps ih => rw [List.foldl_cons, ih, List.length_set]

theorem scatter_snoc (l blk : List Nat) (v b B : Nat) :
    scatter l (blk ++ [v]) b B = (scatter l blk b B).set (b + blk.length * B) v := by
  unfold scatter
  rw [List.zipIdx_append, List.foldl_append, Nat.zero_add]
  rfl

theorem RSSound.getD_scatter_miss (l blk : List Nat) (b B j : Nat)
    (h : ∀ p, p < blk.length → j ≠ b + p * B) :
    (scatter l blk b B).getD j 0 = l.getD j 0 := by
  induction blk using List.reverseRec with
  | nil => rfl
  | append_singleton blk x ih =>
    rw [scatter_snoc]
    have hne : b + blk.length * B ≠ j := fun e => h blk.length (by simp) e.symm
    rw [getD_set, if_neg (fun e => hne e.1)]
    exact ih (fun p hp => h p (by rw [List.length_append]; omega))

theorem RSSound.getD_scatter_hit (l blk : List Nat) (b B p : Nat) (hB : 0 < B)
    (hp : p < blk.length) (hlt : b + p * B < l.length) :
    (scatter l blk b B).getD (b + p * B) 0 = blk.getD p 0 := by
  induction blk using List.reverseRec with
  | nil => simp at hp
  | append_singleton blk x ih =>
    rw [scatter_snoc]
    rw [List.length_append, List.length_singleton] at hp
    by_cases hpe : p = blk.length
    · subst hpe
      rw [getD_set, if_pos ⟨rfl, by rw [length_scatter]; exact hlt⟩, getD_append, if_neg (Nat.lt_irrefl _),
        Nat.sub_self]
      rfl
    · have hp' : p < blk.length := by omega
      have hne : b + blk.length * B ≠ b + p * B := by
        intro e
        have : blk.length * B = p * B := by omega
        exact hpe (Nat.eq_of_mul_eq_mul_right hB this).symm
      rw [getD_set, if_neg (fun e => hne e.1), ih hp', getD_append, if_pos hp']

theorem strided_scatter_self (l blk : List Nat) (b B : Nat) (hb : b < B)
    (hlen : blk.length = (strided l b B).length) :
    strided (scatter l blk b B) b B = blk := by
  have hB : 0 < B := by omega
  have hl : (strided (scatter l blk b B) b B).length = blk.length := by
    rw [strided_length, length_scatter, ← strided_length, hlen]
  refine ext_getD 0 hl fun m h1 => ?_
  rw [hl] at h1
  rw [getD_strided _ _ _ _ hB,
    RSSound.getD_scatter_hit l blk b B m hB h1 ((lt_strided_length l b B m hB).mp (hlen ▸ h1))]

theorem strided_scatter_other (l blk : List Nat) (b b' B : Nat) (hb : b < B) (hb' : b' < B)
    (hne : b' ≠ b) :
    strided (scatter l blk b B) b' B = strided l b' B := by
  unfold strided
  rw [length_scatter]
  apply List.map_congr_left
  intro m _
  refine RSSound.getD_scatter_miss l blk b B _ fun p _ e => hne ?_
  -- the two positions have remainders `b'` and `b`
  have h1 := (div_mod_block m hb').2
  have h2 := (div_mod_block p hb).2
  rw [Nat.add_comm, e] at h1
  rw [Nat.add_comm] at h2
  exact h1.symm.trans h2

theorem length_take_data (s : Sym) (r : List Nat) (hr : r.length = totalCw s) :
    (r.take (dataCw s)).length = dataCw s := by
  rw [List.length_take, hr]
  exact Nat.min_eq_left (Nat.le_add_right _ _)

theorem length_drop_data (s : Sym) (r : List Nat) (hr : r.length = totalCw s) :
    (r.drop (dataCw s)).length = (row s).blocks * (row s).eccPer := by
  rw [List.length_drop, hr]
  exact Nat.add_sub_cancel_left (dataCw s) (eccCw s)

/-- What the catalogue is asked for by everything about the interleaved code: the parameters of each size are those of
`blocks` shortened Reed–Solomon codes over GF(256). -/
structure RowShape (s : Sym) : Prop where
  k_pos : 0 < (row s).eccPer
  k_lt : (row s).eccPer < 254
  blocks_pos : 0 < (row s).blocks
  blocks_le : (row s).blocks ≤ (row s).dataCw
  block_le : ((row s).dataCw + (row s).blocks - 1) / (row s).blocks + (row s).eccPer ≤ 255

theorem rowShape_all : ∀ s, s < numSizes →
    0 < (row s).eccPer ∧ (row s).eccPer < 254 ∧ 0 < (row s).blocks ∧ (row s).blocks ≤ (row s).dataCw ∧
      ((row s).dataCw + (row s).blocks - 1) / (row s).blocks + (row s).eccPer ≤ 255 := by
  decide +kernel

theorem rowShape (s : Sym) (hs : s < numSizes) : RowShape s :=
  have ⟨h1, h2, h3, h4, h5⟩ := rowShape_all s hs
  ⟨h1, h2, h3, h4, h5⟩

theorem strided_data_len {s : Sym} (R : RowShape s) (data : List Nat) (hl : data.length = dataCw s) (b : Nat) :
    (strided data b (row s).blocks).length + (row s).eccPer ≤ 255 := by
  have h := R.block_le
  rw [strided_length, hl]
  have : ((row s).dataCw - b + (row s).blocks - 1) / (row s).blocks
      ≤ ((row s).dataCw + (row s).blocks - 1) / (row s).blocks := Nat.div_le_div_right (by omega)
  unfold dataCw
  omega

theorem block_shape {s : Sym} (R : RowShape s) {d e : List Nat} (hl : d.length = dataCw s)
    (hel : e.length = (row s).blocks * (row s).eccPer) {b : Nat} (hb : b < (row s).blocks) :
    1 ≤ (strided d b (row s).blocks).length ∧ (strided e b (row s).blocks).length = (row s).eccPer ∧
      (strided d b (row s).blocks).length + (row s).eccPer ≤ 255 :=
  ⟨strided_length_pos d b _ R.blocks_pos (by rw [hl]; exact Nat.lt_of_lt_of_le hb R.blocks_le),
    strided_length_full e b _ _ hb hel, strided_data_len R d hl b⟩

end DM.Lemmas
