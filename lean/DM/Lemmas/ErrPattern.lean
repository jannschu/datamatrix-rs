import DM.Lemmas.RSDist
/-
The error pattern of a received word relative to a codeword: positions (counted from the end
of the word, i.e. by the exponent of the locator), error values, and the values of the word at `α^1 … α^k`
written as the power sums of that pattern (`error_pattern`).  Its size is the Hamming distance: `C09.hamming` and the
set `C09.diffSet` it counts are defined at the head of this file, below both users of the pattern, the distance of the
code (`C09.block_distance`) and the completeness of the decoder (`C03.decodeBlock_complete`).
-/
namespace DM.Props.C09

def hamming (a b : List Nat) : Nat :=
  ((List.range a.length).filter fun i => a.getD i 0 != b.getD i 0).length

def diffSet (a b : List Nat) : Finset Nat :=
  ((List.range a.length).filter fun i => a.getD i 0 != b.getD i 0).toFinset

theorem mem_diffSet_iff {a b : List Nat} {i : Nat} : i ∈ diffSet a b ↔ i < a.length ∧ a.getD i 0 ≠ b.getD i 0 := by
  rw [diffSet, List.mem_toFinset, List.mem_filter, List.mem_range, bne_iff_ne]

theorem hamming_eq_card (a b : List Nat) : hamming a b = (diffSet a b).card :=
  (List.toFinset_card_of_nodup (List.nodup_range.filter _)).symm

end DM.Props.C09

namespace DM.Lemmas.ErrPattern
open DM.Spec DM.Props.C09

theorem reflect_lt {n p : ℕ} (hp : p < n) : n - 1 - p < n :=
  lt_of_le_of_lt (Nat.sub_le _ _) (Nat.sub_lt (Nat.zero_lt_of_lt hp) Nat.one_pos)

theorem reflect_reflect {n p : ℕ} (hp : p < n) : n - 1 - (n - 1 - p) = p :=
  Nat.sub_sub_self (Nat.le_sub_one_of_lt hp)

theorem card_reflect (c r : List Nat) :
    ((Finset.range c.length).filter
        (fun p => c.getD (c.length - 1 - p) 0 ≠ r.getD (c.length - 1 - p) 0)).card
      = hamming c r := by
  -- the reflection is its own inverse
  rw [hamming_eq_card]
  refine Finset.card_nbij' (fun p => c.length - 1 - p) (fun p => c.length - 1 - p) (fun p hp => ?_) (fun p hp => ?_)
    (fun p hp => ?_) (fun p hp => ?_)
  · obtain ⟨h1, h2⟩ := Finset.mem_filter.mp hp
    exact mem_diffSet_iff.mpr ⟨reflect_lt (Finset.mem_range.mp h1), h2⟩
  · obtain ⟨h1, h2⟩ := mem_diffSet_iff.mp hp
    exact Finset.mem_filter.mpr ⟨Finset.mem_range.mpr (reflect_lt h1), by rwa [reflect_reflect h1]⟩
  · exact reflect_reflect (Finset.mem_range.mp (Finset.mem_filter.mp hp).1)
  · exact reflect_reflect (mem_diffSet_iff.mp hp).1

theorem error_pattern (c r : List Nat) (k : Nat) (hc : Bytes c) (hr : Bytes r)
    (hlen : c.length = r.length) (hk : k < 254) (hcw : isCodeword c k = true) :
    ∃ (I : Finset ℕ) (E : ℕ → GF),
      I.card = hamming c r ∧ (∀ p ∈ I, p < c.length ∧ E p ≠ 0) ∧
      ∀ j, j < k → evalH (toG r) (α ^ (j + 1)) = ∑ p ∈ I, E p * (α ^ p) ^ (j + 1) := by
  have hsub := Finset.filter_subset (fun p => c.getD (c.length - 1 - p) 0 ≠ r.getD (c.length - 1 - p) 0)
    (Finset.range c.length)
  refine ⟨_, fun p => GF.ofNat (c.getD (c.length - 1 - p) 0) + GF.ofNat (r.getD (c.length - 1 - p) 0),
    card_reflect c r, fun p hp => ?_, fun j hj => ?_⟩
  · obtain ⟨h1, h2⟩ := Finset.mem_filter.mp hp
    exact ⟨Finset.mem_range.mp h1, fun h =>
      h2 (ofNat_inj (Bytes.getD hc _) (Bytes.getD hr _) (GF.eq_of_add_eq_zero h))⟩
  · -- `Σ_i (c_i + r_i)·x^i` over the whole word, where the part of `c` is a syndrome of a codeword; outside `I` the terms vanish
    rw [← add_zero (evalH (toG r) _), ← (isCodeword_iff c hc k hk).mp hcw j hj, evalH_toG, evalH_toG, ← hlen,
      ← Finset.sum_add_distrib, ← Finset.sum_subset hsub]
    · refine Finset.sum_congr rfl fun i hi => ?_
      have hi' := Finset.mem_range.mp (hsub hi)
      rw [← add_mul, getD_reverse c i hi', getD_reverse r i (hlen ▸ hi'), ← hlen, add_comm, ← pow_mul, ← pow_mul,
        Nat.mul_comm]
    · intro i hi hni
      have hi' := Finset.mem_range.mp hi
      have : c.getD (c.length - 1 - i) 0 = r.getD (c.length - 1 - i) 0 :=
        Decidable.byContradiction fun hne => hni (Finset.mem_filter.mpr ⟨hi, hne⟩)
      rw [← add_mul, getD_reverse c i hi', getD_reverse r i (hlen ▸ hi'), ← hlen, this, GF.add_self, zero_mul]

end DM.Lemmas.ErrPattern
