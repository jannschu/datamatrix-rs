import DM.Lemmas.RSField
import Mathlib.Tactic.LinearCombination
/-
Tools for the algebraic correctness of the Levinson–Durbin recursion
(`DM.Model.RS.levinsonDurbin`): the rows `win` that the model computes as sums `H` in the field
`GF` (`ofNat_win`), the linear algebra of those sums, and equations (3), (4) of the recursion.
Namespace: `LD`.
-/
namespace DM.Lemmas.LD
open DM.Model DM.Model.RS DM.Lemmas DM.Lemmas.RSTotal DM.Lemmas.RSTot

/-! ### rows of the Hankel matrix of the syndromes -/

def H (syn : List Nat) (a L : Nat) (f : Nat → GF) : GF :=
  ∑ j ∈ Finset.range L, V syn (a + j) * f j

theorem two_eq_zero : (2 : GF) = 0 := by
  have := GF.add_self 1
  rw [← this]; norm_num

theorem ofNat_win {syn l : List Nat} {j L : Nat} (hs : Bytes syn) (hl : Bytes l)
    (hL : l.length = L) (hlen : j + L ≤ syn.length) :
    GF.ofNat (win syn l j) = H syn j L (V l) := by
  subst hL
  have hsl : ((syn.drop j).take l.length).length = l.length := by
    simp only [List.length_take, List.length_drop]; omega
  unfold win dotV H
  rw [RSSound.ofNat_dotv _ _ ((hs.drop j).take _) hl, hsl, Nat.min_self]
  exact Finset.sum_congr rfl fun i hi => by
    rw [← V_slice syn j l.length i (Finset.mem_range.mp hi)]; rfl

theorem win_lt (syn l : List Nat) (j : Nat) : win syn l j < 256 := dotV_lt _ _

theorem H_congr {syn : List Nat} {a L : Nat} {f g : Nat → GF} (h : ∀ j, j < L → f j = g j) :
    H syn a L f = H syn a L g := by
  unfold H
  exact Finset.sum_congr rfl fun j hj => by rw [h j (Finset.mem_range.mp hj)]

theorem H_add (syn : List Nat) (a L : Nat) (f g : Nat → GF) :
    H syn a L (fun j => f j + g j) = H syn a L f + H syn a L g := by
  unfold H
  rw [← Finset.sum_add_distrib]
  exact Finset.sum_congr rfl fun j _ => by ring

theorem H_smul (syn : List Nat) (a L : Nat) (c : GF) (f : Nat → GF) :
    H syn a L (fun j => c * f j) = c * H syn a L f := by
  unfold H
  rw [Finset.mul_sum]
  exact Finset.sum_congr rfl fun j _ => by ring

theorem H_smul_right (syn : List Nat) (a L : Nat) (c : GF) (f : Nat → GF) :
    H syn a L (fun j => f j * c) = H syn a L f * c := by
  unfold H
  rw [Finset.sum_mul]
  exact Finset.sum_congr rfl fun j _ => by ring

theorem H_zero (syn : List Nat) (a L : Nat) : H syn a L (fun _ => 0) = 0 := by
  unfold H; simp

theorem H_succ (syn : List Nat) (a L : Nat) (f : Nat → GF) :
    H syn a (L + 1) f = H syn a L f + V syn (a + L) * f L := by
  unfold H; rw [Finset.sum_range_succ]

theorem H_extend (syn : List Nat) (a L M : Nat) (f : Nat → GF) (hLM : L ≤ M)
    (h : ∀ j, L ≤ j → f j = 0) : H syn a M f = H syn a L f := by
  obtain ⟨k, rfl⟩ := Nat.exists_eq_add_of_le hLM
  unfold H
  rw [Finset.sum_range_add, Finset.sum_eq_zero (s := Finset.range k), add_zero]
  exact fun j _ => by rw [h _ (Nat.le_add_right L j), mul_zero]

theorem H_shift (syn : List Nat) (a L off : Nat) (f : Nat → GF) :
    H syn a (off + L) (fun q => if off ≤ q then f (q - off) else 0) = H syn (a + off) L f := by
  unfold H
  rw [Finset.sum_range_add, Finset.sum_eq_zero (s := Finset.range off), zero_add]
  · exact Finset.sum_congr rfl fun q _ => by
      beta_reduce
      rw [if_pos (Nat.le_add_right off q), Nat.add_sub_cancel_left, Nat.add_assoc]
  · exact fun q hq => by
      beta_reduce
      rw [if_neg (Nat.not_le.2 (Finset.mem_range.mp hq)), mul_zero]

theorem H_shift_one (syn : List Nat) (a L : Nat) (f : Nat → GF) :
    H syn a (L + 1) (fun q => if q = 0 then 0 else f (q - 1)) = H syn (a + 1) L f := by
  rw [← H_shift syn a L 1 f, show 1 + L = L + 1 by omega]
  apply H_congr
  intro j _
  by_cases h : j = 0
  · subst h; simp
  · rw [if_neg h, if_pos (by omega)]

/-- equation (3): `H_v y = e_{v-1}` -/
def Eq3 (syn : List Nat) (v : Nat) (y : List Nat) : Prop :=
  ∀ i, i < v → H syn i v (V y) = if i = v - 1 then 1 else 0

/-- equation (4): `H_v w = h_v` -/
def Eq4 (syn : List Nat) (v : Nat) (w : List Nat) : Prop :=
  ∀ i, i < v → H syn i v (V w) = V syn (v + i)

end DM.Lemmas.LD
