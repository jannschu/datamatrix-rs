import DM.Lemmas.GFField
/-
The LFSR of `ecc_block` computes the remainder of d(x)·x^k modulo a monic generator:
the block (data ++ ecc) vanishes at every root of the generator.
Namespace: `DM.Lemmas`.
-/
namespace DM.Lemmas

def evalFrom (acc : GF) (p : List GF) (x : GF) : GF := p.foldl (fun acc c => acc * x + c) acc
def evalH (p : List GF) (x : GF) : GF := evalFrom 0 p x

theorem evalFrom_eq (acc : GF) (p : List GF) (x : GF) :
    evalFrom acc p x = acc * x ^ p.length + evalH p x := by
  induction p generalizing acc with
  | nil => simp [evalFrom, evalH]
  | cons c p ih =>
    have h1 : evalFrom acc (c :: p) x = evalFrom (acc * x + c) p x := rfl
    have h2 : evalH (c :: p) x = evalFrom (0 * x + c) p x := rfl
    rw [h1, h2, ih, ih (0 * x + c)]
    simp only [List.length_cons]
    ring

theorem evalH_nil (x : GF) : evalH [] x = 0 := rfl

theorem evalH_cons (c : GF) (p : List GF) (x : GF) :
    evalH (c :: p) x = c * x ^ p.length + evalH p x := by
  have h2 : evalH (c :: p) x = evalFrom (0 * x + c) p x := rfl
  rw [h2, evalFrom_eq]; ring

theorem evalH_append (p q : List GF) (x : GF) :
    evalH (p ++ q) x = evalH p x * x ^ q.length + evalH q x := by
  unfold evalH evalFrom
  rw [List.foldl_append]
  exact evalFrom_eq _ q x

theorem evalH_replicate_zero (n : Nat) (x : GF) : evalH (List.replicate n 0) x = 0 := by
  induction n with
  | zero => rfl
  | succ n ih => rw [List.replicate_succ, evalH_cons, ih]; ring

def eccStepG (gt : List GF) (ecc : List GF) (a : GF) : List GF :=
  List.zipWith (fun e gj => e + (ecc.headD 0 + a) * gj) (ecc.tail ++ [0]) gt

theorem evalH_zipWith (f x : GF) (A B : List GF) (h : A.length = B.length) :
    evalH (List.zipWith (fun e g => e + f * g) A B) x = evalH A x + f * evalH B x := by
  induction A generalizing B with
  | nil =>
    rw [List.length_eq_zero_iff.mp h.symm]
    simp [evalH_nil]
  | cons a A ih =>
    cases B with
    | nil => cases h
    | cons b B =>
      have hl : A.length = B.length := Nat.succ.inj h
      rw [List.zipWith_cons_cons, evalH_cons, evalH_cons, evalH_cons, ih B hl, List.length_zipWith,
        ← hl, Nat.min_self]
      ring

theorem eccStepG_length (gt ecc : List GF) (a : GF) (h : ecc.length = gt.length) :
    (eccStepG gt ecc a).length = gt.length := by
  unfold eccStepG
  rw [List.length_zipWith, List.length_append, List.length_tail]
  simp only [List.length_cons, List.length_nil]
  omega

/-- One step of the register preserves `ecc(α) = d(α)·α^k` when `α` is a root of the monic
generator `x^k + gt`. -/
theorem eccStepG_eval (gt ecc : List GF) (a α : GF) (h : ecc.length = gt.length)
    (hroot : α ^ gt.length + evalH gt α = 0) :
    evalH (eccStepG gt ecc a) α = evalH ecc α * α + a * α ^ gt.length := by
  have hg : evalH gt α = α ^ gt.length := by
    have : evalH gt α = -(α ^ gt.length) := by
      rw [eq_neg_iff_add_eq_zero, add_comm]; exact hroot
    rw [this, GF.neg_eq]
  cases ecc with
  | nil =>
    -- k = 0 is impossible: 1 + 0 ≠ 0
    have hk : gt.length = 0 := by simpa using h.symm
    have : gt = [] := List.length_eq_zero_iff.mp hk
    subst this
    simp [evalH_nil] at hroot
  | cons e0 et =>
    have hl : (et ++ [0]).length = gt.length := by
      simp only [List.length_cons] at h
      simp [h]
    unfold eccStepG
    simp only [List.headD_cons, List.tail_cons]
    rw [evalH_zipWith _ _ _ _ hl, evalH_append, evalH_cons, hg]
    have hk : gt.length = et.length + 1 := by simpa using h.symm
    simp only [List.length_cons, List.length_nil, evalH_cons, evalH_nil]
    rw [hk]
    ring

theorem foldl_eccStepG (gt : List GF) (α : GF)
    (hroot : α ^ gt.length + evalH gt α = 0) :
    ∀ (d ecc : List GF), ecc.length = gt.length →
      (d.foldl (eccStepG gt) ecc).length = gt.length ∧
      evalH (d.foldl (eccStepG gt) ecc) α
        = evalH ecc α * α ^ d.length + evalH d α * α ^ gt.length := by
  intro d
  induction d with
  | nil => intro ecc h; simp [h, evalH_nil]
  | cons a d ih =>
    intro ecc h
    have hl := eccStepG_length gt ecc a h
    have := ih (eccStepG gt ecc a) hl
    simp only [List.foldl_cons]
    refine ⟨this.1, ?_⟩
    rw [this.2, eccStepG_eval gt ecc a α h hroot, evalH_cons]
    simp only [List.length_cons]
    ring

theorem eccBlockG_root (gt : List GF) (α : GF)
    (hroot : α ^ gt.length + evalH gt α = 0) (d : List GF) :
    evalH (d ++ d.foldl (eccStepG gt) (List.replicate gt.length 0)) α = 0 := by
  have := foldl_eccStepG gt α hroot d (List.replicate gt.length 0) List.length_replicate
  rw [evalH_append, this.1, this.2, evalH_replicate_zero, zero_mul, zero_add]
  exact GF.add_self _

end DM.Lemmas
