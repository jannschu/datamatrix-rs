import DM.Model.Path
import DM.Spec.Fill
/-
Vocabulary for the proof of `path_model_ok` (C17): the list of micro steps that `tours` builds,
seen as a sequence of closed walks on the unit grid, and the unit edges it draws.

A node is `(i, j)` = (row, column) = `(y, x)`.  An edge is `(vertical?, i, j)`:
`(true, i, j)` is the left edge of cell `(i, j)`, i.e. the unit segment `{x = j} × [i, i+1]`,
`(false, i, j)` its top edge `[j, j+1] × {y = i}`.
Namespaces: `DM.Model.Path` (`Micro.node`, `Micro.isStep`), `PathP`.
-/
namespace DM.Model.Path

def Micro.node : Micro → Int × Int
  | .jump n => n
  | .step n => n

def Micro.isStep : Micro → Bool
  | .jump _ => false
  | .step _ => true

end DM.Model.Path

namespace DM.Lemmas.PathP
open DM.Model.Path

abbrev Node := Int × Int
abbrev Edge := Bool × Int × Int

def edgeOf (a b : Node) : Edge :=
  if a.1 = b.1 then (false, a.1, min a.2 b.2) else (true, min a.1 b.1, a.2)

def adj (a b : Node) : Prop :=
  (a.1 = b.1 ∧ (b.2 = a.2 + 1 ∨ b.2 = a.2 - 1)) ∨ (a.2 = b.2 ∧ (b.1 = a.1 + 1 ∨ b.1 = a.1 - 1))

def lastNode (c : Node) (l : List Micro) : Node := l.foldl (fun _ m => m.node) c

/-- the start of the current sub-path after `l`, when it was `s` before -/
def tstart (s : Node) (l : List Micro) : Node :=
  l.foldl (fun s m => match m with | .jump n => n | .step _ => s) s

def medges : Node → List Micro → List Edge
  | _, [] => []
  | c, .step n :: r => edgeOf c n :: medges n r
  | _, .jump n :: r => medges n r

def chainOK : Node → List Micro → Prop
  | _, [] => True
  | c, .step n :: r => adj c n ∧ chainOK n r
  | _, .jump n :: r => chainOK n r

/-- every jump happens at the start node of the current sub-path (`s`; `c` is the current node) -/
def jumpsOK : Node → Node → List Micro → Prop
  | _, _, [] => True
  | s, _, .step n :: r => jumpsOK s n r
  | s, c, .jump n :: r => c = s ∧ jumpsOK n n r

def inBoxN (w h : Nat) (n : Node) : Prop := 0 ≤ n.1 ∧ n.1 ≤ h ∧ 0 ≤ n.2 ∧ n.2 ≤ w

def toFillSeg : Seg → DM.Spec.Fill.Seg
  | .m dx dy => .m dx dy
  | .h d => .h d
  | .v d => .v d
  | .z => .z

theorem lastNode_append (c : Node) (a b : List Micro) :
    lastNode c (a ++ b) = lastNode (lastNode c a) b := by
  simp [lastNode, List.foldl_append]

theorem tstart_append (s : Node) (a b : List Micro) :
    tstart s (a ++ b) = tstart (tstart s a) b := by
  simp [tstart, List.foldl_append]

@[simp] theorem lastNode_nil (c : Node) : lastNode c [] = c := rfl
@[simp] theorem lastNode_cons (c : Node) (m : Micro) (r : List Micro) :
    lastNode c (m :: r) = lastNode m.node r := rfl
@[simp] theorem tstart_nil (c : Node) : tstart c [] = c := rfl
@[simp] theorem tstart_step (s n : Node) (r : List Micro) : tstart s (.step n :: r) = tstart s r := rfl
@[simp] theorem tstart_jump (s n : Node) (r : List Micro) : tstart s (.jump n :: r) = tstart n r := rfl

theorem medges_append (c : Node) (a b : List Micro) :
    medges c (a ++ b) = medges c a ++ medges (lastNode c a) b := by
  induction a generalizing c with
  | nil => rfl
  | cons m r ih =>
    cases m with
    | jump n => simpa [medges, Micro.node] using ih n
    | step n => simpa [medges, Micro.node] using ih n

theorem chainOK_append (c : Node) (a b : List Micro) :
    chainOK c (a ++ b) ↔ chainOK c a ∧ chainOK (lastNode c a) b := by
  induction a generalizing c with
  | nil => simp [chainOK]
  | cons m r ih =>
    cases m with
    | jump n => simpa [chainOK, Micro.node] using ih n
    | step n => simp [chainOK, Micro.node, ih n, and_assoc]

theorem jumpsOK_append (s c : Node) (a b : List Micro) :
    jumpsOK s c (a ++ b) ↔ jumpsOK s c a ∧ jumpsOK (tstart s a) (lastNode c a) b := by
  induction a generalizing s c with
  | nil => simp [jumpsOK]
  | cons m r ih =>
    cases m with
    | jump n => simp [jumpsOK, Micro.node, ih n n, and_assoc]
    | step n => simpa [jumpsOK, Micro.node] using ih s n

def allSteps (l : List Micro) : Prop := ∀ m ∈ l, m.isStep = true

theorem tstart_allSteps (s : Node) (l : List Micro) (h : allSteps l) : tstart s l = s := by
  induction l with
  | nil => rfl
  | cons m r ih =>
    cases m with
    | jump n => have := h (.jump n) (by simp); simp [Micro.isStep] at this
    | step n => simpa using ih (fun m hm => h m (by simp [hm]))

theorem jumpsOK_allSteps (s c : Node) (l : List Micro) (h : allSteps l) : jumpsOK s c l := by
  induction l generalizing c with
  | nil => trivial
  | cons m r ih =>
    cases m with
    | jump n => have := h (.jump n) (by simp); simp [Micro.isStep] at this
    | step n => simpa [jumpsOK] using ih n (fun m hm => h m (by simp [hm]))

end DM.Lemmas.PathP
