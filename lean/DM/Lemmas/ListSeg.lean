import DM.Lemmas.DecTotal
/-!
`seg body p0 p`, the characters `p0 .. p` of the message. The declarations are in the namespaces
of the mode files that use them (`EdiRT`, `C40Gen`, `B256Gen`, `MainRT`).
-/
namespace DM.Lemmas.EdiRT

theorem take_succ_drop (l : List Nat) (a k : Nat) (h : a + k < l.length) :
    (l.drop a).take (k + 1) = (l.drop a).take k ++ [l[a + k]] := by
  rw [List.take_add_one]
  congr 1
  simp [List.getElem?_drop, List.getElem?_eq_getElem h]

end DM.Lemmas.EdiRT

namespace DM.Lemmas.C40Gen
open DM.Lemmas DM.Lemmas.EdiRT

def seg (body : List Nat) (p0 p : Nat) : List Nat := (body.drop p0).take (p - p0)

theorem seg_self (body : List Nat) (p : Nat) : seg body p p = [] := by simp [seg]

theorem seg_succ (body : List Nat) (p0 p : Nat) (h0 : p0 ≤ p) (h : p < body.length) :
    seg body p0 (p + 1) = seg body p0 p ++ [body[p]] := by
  unfold seg
  have : p + 1 - p0 = (p - p0) + 1 := by omega
  rw [this, take_succ_drop body p0 (p - p0) (by omega)]
  congr 2
  have : p0 + (p - p0) = p := by omega
  simp only [this]

theorem take_seg (body : List Nat) (p0 p : Nat) (h0 : p0 ≤ p) : body.take p0 ++ seg body p0 p = body.take p := by
  unfold seg
  have : p = p0 + (p - p0) := by omega
  conv => rhs; rw [this, List.take_add]

theorem seg_bytes (body : List Nat) (hb : ByteList body) (p0 p : Nat) : ByteList (seg body p0 p) :=
  fun x hx => hb x (List.mem_of_mem_drop (List.mem_of_mem_take hx))

end DM.Lemmas.C40Gen

namespace DM.Lemmas.B256Gen
open DM.Lemmas.C40Gen

theorem seg_length (body : List Nat) (p0 p : Nat) (h0 : p0 ≤ p) (h : p ≤ body.length) : (seg body p0 p).length = p - p0 := by
  unfold seg
  rw [List.length_take, List.length_drop]
  omega

end DM.Lemmas.B256Gen

namespace DM.Lemmas.MainRT

theorem take_add_seg (body : List Nat) (p k : Nat) :
    body.take (p + ((body.drop p).take k).length) = body.take p ++ (body.drop p).take k := by
  rw [List.take_add, List.length_take, ← List.take_eq_take_min]

end DM.Lemmas.MainRT
