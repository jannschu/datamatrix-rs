import DM.Lemmas.CompleteAscii
import DM.Lemmas.CompleteC40
import DM.Lemmas.CompleteB256
import DM.Lemmas.CompleteEdifact
/-
Decoder completeness: composition of the per-item segment lemmas over a whole script of the
reference builder (`DM/Spec/Build.lean`).
-/
namespace DM.Lemmas.Complete
open DM.Model.Dec DM.Gen DM.Lemmas DM.Lemmas.DecRun DM.Spec.Build DM.Lemmas.AsciiRT

def emitAt (pos : Nat) : Item → List Nat
  | .ascii pair b => asciiCw pair b
  | .c40 text b un => [if text then 239 else 230] ++ packTriples (b.flatMap (c40Vals text)) ++ (if un then [254] else [])
  | .x12 b un => [238] ++ packTriples (b.filterMap x12Val) ++ (if un then [254] else [])
  | .edifact b un => [240] ++ ediCw b un
  | .base256 b toEnd => [231] ++ randFrom (pos + 2) (b256Hdr b toEnd ++ b)

/-- legality of an item given the codewords that follow it in the symbol -/
def ItemOK (it : Item) (tail : List Nat) : Prop :=
  match it with
  | .ascii _ b => ByteList b
  | .c40 text b un => C40OK text b un tail
  | .x12 b un => X12Native b ∧ b.length % 3 = 0 ∧ TripleTail un tail
  | .edifact b un => EdiOK b un tail
  | .base256 b toEnd => B256OK b toEnd tail

theorem emit_eq (cw : List Nat) (it : Item) (tail : List Nat) (h : ItemOK it tail) :
    emit cw it = cw ++ emitAt cw.length it := by
  cases it with
  | ascii pair b => rfl
  | c40 text b un => simp [emit, emitAt, List.append_assoc]
  | x12 b un => simp [emit, emitAt, List.append_assoc]
  | edifact b un =>
    have hun : un = false → b.length % 4 = 0 := by
      intro hu
      have := h.2
      rw [hu] at this
      exact this.1
    have := ediEmit_eq b un hun
    simp only [emit, emitAt]
    cases un with
    | true =>
      simp only [↓reduceIte] at this ⊢
      rw [this, List.append_assoc]
    | false =>
      simp only [Bool.false_eq_true, ↓reduceIte] at this ⊢
      rw [this, List.append_assoc]
  | base256 b toEnd =>
    simp only [emit, emitAt, b256Hdr]
    rw [List.append_assoc]
    congr 2
    have := zipIdx_rand (cw.length + 1) ((if toEnd = true then [0]
      else if b.length ≤ 249 then [b.length] else [b.length / 250 + 249, b.length % 250]) ++ b) 0
    rw [← this]

theorem item_Seg (pos : Nat) (it : Item) : Seg pos (emitAt pos it) it.bytes (ItemOK it) := by
  cases it with
  | ascii pair b => exact ascii_Seg pair b pos
  | c40 text b un => exact fun tail h => c40_Seg text b un pos h.1 h.2.1 tail h.2.2
  | x12 b un => exact fun tail h => x12_Seg b un pos (b.length / 3) (by have := h.2.1; omega) h.1 tail h.2.2
  | edifact b un => exact edifact_Seg b un pos
  | base256 b toEnd => exact b256_Seg b toEnd pos

def emitAll : Nat → List Item → List Nat
  | _, [] => []
  | pos, it :: rest => emitAt pos it ++ emitAll (pos + (emitAt pos it).length) rest

/-- every item is legal in front of what follows it (`pads` = the padding area) -/
def ItemsOK : Nat → List Item → List Nat → Prop
  | _, [], _ => True
  | pos, it :: rest, pads =>
    ItemOK it (emitAll (pos + (emitAt pos it).length) rest ++ pads) ∧ ItemsOK (pos + (emitAt pos it).length) rest pads

theorem foldl_emit : ∀ (items : List Item) (cw pads : List Nat), ItemsOK cw.length items pads →
    items.foldl emit cw = cw ++ emitAll cw.length items := by
  intro items
  induction items with
  | nil => intro cw pads _; simp [emitAll]
  | cons it rest ih =>
    intro cw pads h
    obtain ⟨h1, h2⟩ := h
    rw [List.foldl_cons, emit_eq cw it _ h1]
    have hlen : (cw ++ emitAt cw.length it).length = cw.length + (emitAt cw.length it).length := by simp
    rw [ih (cw ++ emitAt cw.length it) pads (by rw [hlen]; exact h2), hlen]
    simp [emitAll, List.append_assoc]

theorem items_Seg : ∀ (items : List Item) (pos : Nat),
    Seg pos (emitAll pos items) (items.flatMap Item.bytes) (ItemsOK pos items)
  | [], pos => Seg.nil pos _
  | it :: rest, pos => by
    rw [List.flatMap_cons]
    exact (item_Seg pos it).append ((items_Seg rest _).mono fun _ h => h.2) fun _ h => h.1

theorem items_seg : ∀ (items : List Item) (pos : Nat) (pads out : List Nat) (ecis : List (Nat × Nat)),
    ItemsOK pos items pads →
    decRun .ascii { rest := emitAll pos items ++ pads, eaten := pos, out := out, ecis := ecis } =
    decRun .ascii { rest := pads, eaten := pos + (emitAll pos items).length,
                    out := out ++ items.flatMap Item.bytes, ecis := ecis } :=
  fun items pos _ out ecis h => (items_Seg items pos).frame h out ecis

end DM.Lemmas.Complete
