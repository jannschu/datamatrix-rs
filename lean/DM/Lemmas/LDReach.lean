import DM.Lemmas.RSLocator
import DM.Lemmas.LDTotal
/-
The Levinson–Durbin locator search on the syndromes of `ν ≤ t` errors returns the error
locator polynomial.  Every iteration moves `v` just past the first row of `[w, 1]` that does not
vanish (`LD.ldStep_spec`); below `ν` that row lies below `ν` (`step_below`: a singular jump never
overshoots), at `ν` every row vanishes (`loop_at_nu`: the loop stops there), so `LD.ldLoop_rule`
with the invariant `LDAlg ∧ v ≤ ν` ends at exactly `v = ν`.
-/
namespace DM.Lemmas.LDReach
open DM.Model.RS DM.Lemmas.RSTotal DM.Lemmas.RSTot DM.Lemmas.Locator

/-- the locator of the error position `p` (position counted from the end of the block) -/
def X (p : ℕ) : GF := α ^ p

structure Pattern (syn : List Nat) (I : Finset ℕ) (E : ℕ → GF) : Prop where
  bytes : Bytes syn
  pos : ∀ p ∈ I, p < 255
  val : ∀ p ∈ I, E p ≠ 0
  synd : ∀ j, j < syn.length → gF syn j = Locator.synd I E X j
  card : 2 * I.card ≤ syn.length
  ne : I.Nonempty

variable {syn : List Nat} {I : Finset ℕ} {E : ℕ → GF}

theorem Pattern.inj (pat : Pattern syn I E) : ∀ i ∈ I, ∀ j ∈ I, X i = X j → i = j :=
  fun i hi j hj h => alpha_pow_inj (pat.pos i hi) (pat.pos j hj) h

theorem Pattern.x0 (_ : Pattern syn I E) : ∀ i ∈ I, X i ≠ 0 :=
  fun i _ => alpha_pow_ne_zero i

theorem Pattern.card_pos (pat : Pattern syn I E) : 1 ≤ I.card := Finset.card_pos.mpr pat.ne

theorem win_zero_iff (pat : Pattern syn I E) (lam : List Nat) (hl : Bytes lam) (j : Nat)
    (hlen : j + lam.length ≤ syn.length) :
    win syn lam j = 0 ↔
      ∑ i ∈ Finset.range lam.length, Locator.synd I E X (j + i) * gF lam i = 0 := by
  rw [LD.win_eq_zero_iff syn lam j pat.bytes hl hlen]
  exact Eq.congr_left (Finset.sum_congr rfl fun i hi => by
    rw [← pat.synd (j + i) (by have := Finset.mem_range.mp hi; omega)]; rfl)

theorem takeWhile_le (l : List Nat) (j : Nat) (h : l.getD j 0 ≠ 0) :
    (l.takeWhile (· == 0)).length ≤ j := by
  by_contra hlt
  exact h (LD.getD_takeWhile_zero l j (by omega))

section reach
variable (pat : Pattern syn I E)
include pat

theorem exists_window (w : List Nat) (v : Nat) (hw : w.length = v) (hbw : Bytes w)
    (hv : v < I.card) : ∃ j, j < I.card ∧ win syn (w ++ [1]) j ≠ 0 := by
  by_contra hno
  have hall : ∀ j, j < I.card → win syn (w ++ [1]) j = 0 := by
    intro j hj
    by_contra h
    exact hno ⟨j, hj, h⟩
  have hl : (w ++ [1]).length = v + 1 := by simp [hw]
  have hcard := pat.card
  have := order_ge I E X pat.inj pat.x0 pat.val (gF (w ++ [1])) v
    (by rw [← hw]; exact RSSound.gf_snoc_one w)
    (by
      intro j hj
      have := (win_zero_iff pat (w ++ [1]) (hbw.append Bytes.one) j (by rw [hl]; omega)).mp (hall j hj)
      rwa [hl] at this)
  omega

theorem at_nu_locator (w : List Nat) (hw : w.length = I.card)
    (h4 : LD.Eq4 syn I.card w) :
    ∀ i, i ≤ I.card → gF (w ++ [1]) i = (locPoly I X).coeff i := by
  have hl : (w ++ [1]).length = I.card + 1 := by simp [hw]
  have hcard := pat.card
  apply rec_unique I E X pat.inj pat.x0 pat.val (gF (w ++ [1]))
    (by rw [← hw]; exact RSSound.gf_snoc_one w)
  intro j hj
  have h : ∑ i ∈ Finset.range (w ++ [1]).length, gF syn (j + i) * gF (w ++ [1]) i = 0 :=
    LD.window_of_eq4 hw h4 j hj
  rw [hl] at h
  rw [← h]
  apply Finset.sum_congr rfl
  intro i hi
  rw [pat.synd (j + i) (by have := Finset.mem_range.mp hi; omega)]

theorem locator_windows (lam : List Nat) (hlen : lam.length = I.card + 1) (hb : Bytes lam)
    (hlam : ∀ i, i ≤ I.card → gF lam i = (locPoly I X).coeff i) (j : Nat)
    (hj : j + lam.length ≤ syn.length) : win syn lam j = 0 := by
  rw [win_zero_iff pat lam hb j hj, hlen, ← rec_true I E X j]
  apply Finset.sum_congr rfl
  intro i hi
  rw [hlam i (by have := Finset.mem_range.mp hi; omega)]

theorem window_below (w : List Nat) (v : Nat) (hw : w.length = v) (hbw : Bytes w)
    (h4 : LD.Eq4 syn v w) (hv : v < I.card) :
    ∃ j, v ≤ j ∧ j < I.card ∧ win syn (w ++ [1]) j ≠ 0 := by
  obtain ⟨j, hj, hne⟩ := exists_window pat w v hw hbw hv
  have hcard := pat.card
  refine ⟨j, ?_, hj, hne⟩
  by_contra h
  exact hne ((LD.win_eq_zero_iff syn _ _ pat.bytes (hbw.append Bytes.one)
    (by rw [List.length_append, List.length_singleton, hw]; omega)).2
    (LD.window_of_eq4 hw h4 _ (by omega)))

variable {t : Nat} (ht : 2 * t ≤ syn.length)
include ht

omit ht in
theorem step_below (st : LDSt) (hinv : LD.LDAlg syn t st) (hv : st.v < I.card) (j : Nat)
    (hz : ∀ i, st.v ≤ i → i < j → win syn (st.w ++ [1]) i = 0) : j < I.card := by
  have ⟨⟨_, _, hw, _⟩, hbw, _, _, h4⟩ := hinv
  obtain ⟨j', hj'1, hj'2, hj'3⟩ := window_below pat st.w st.v hw hbw h4 hv
  by_contra hge
  exact hj'3 (hz j' hj'1 (by omega))

theorem loop_at_nu (st : LDSt) (hinv : LD.LDAlg syn t st) (hv : st.v = I.card) (j : Nat)
    (hj : j < t) : win syn (st.w ++ [1]) j = 0 := by
  have ⟨⟨_, _, hw, _⟩, hbw, _, _, h4⟩ := hinv
  have hcard := pat.card
  have hl : (st.w ++ [1]).length = I.card + 1 := by simp [hw, hv]
  exact locator_windows pat _ hl (hbw.append Bytes.one)
    (at_nu_locator pat st.w (by rw [hw, hv]) (by rw [← hv]; exact h4)) j (by rw [hl]; omega)

theorem loop_reaches (hνt : I.card ≤ t) (fuel : Nat) (st : LDSt) (hinv : LD.LDAlg syn t st)
    (hle : st.v ≤ I.card) (hf : t + 1 ≤ fuel + st.v) :
    ∃ st', ldLoop syn t fuel st = .ok st' ∧ st'.v = I.card ∧ LD.LDAlg syn t st' := by
  obtain ⟨st', hl, ⟨hJ, hle'⟩, hend⟩ := LD.ldLoop_rule
    (J := fun st => LD.LDAlg syn t st ∧ st.v ≤ I.card) (B := LD.Rest syn t) syn t
    (fun st ⟨hJ, hle⟩ hlt =>
      (LD.ldStep_spec syn t st ht pat.bytes hJ hlt).imp id fun ⟨st', h1, h2, h3, h4, h5⟩ =>
        ⟨st', h1, ⟨h2, by
          have hvt' := h2.1.2.1
          rcases Nat.eq_or_lt_of_le hle with heq | hlt'
          · exact absurd (loop_at_nu pat ht st hJ heq (st'.v - 1) (by omega)) h4
          · have := step_below pat st hJ hlt' (st'.v - 1) h5
            omega⟩, h3⟩) fuel st ⟨hinv, hle⟩ hf
  refine ⟨st', hl, ?_, hJ⟩
  -- the loop cannot have ended below `ν`: there a row below `ν ≤ t` does not vanish
  by_contra hne
  have ⟨⟨_, _, hw, _⟩, hbw, _, _, h4⟩ := hJ
  obtain ⟨j, hj1, hj2, hj3⟩ := window_below pat st'.w st'.v hw hbw h4 (by omega)
  rcases hend with h | h
  · omega
  · exact hj3 (h j hj1 (by omega))

omit ht in
theorem levinsonDurbin_locator :
    ∃ lam, levinsonDurbin syn = .ok lam ∧ lam.length = I.card + 1 ∧ Bytes lam ∧
      ∀ i, i ≤ I.card → gF lam i = (locPoly I X).coeff i := by
  have hcard := pat.card
  obtain ⟨j, hj, hjne⟩ := first_nonzero I E X pat.inj pat.x0 pat.val pat.ne
  have hv0 : LD.v0 syn ≤ I.card := by
    have := takeWhile_le syn j fun h => hjne (by rw [← pat.synd j (by omega)]; unfold gF; rw [h]; rfl)
    unfold LD.v0; omega
  rw [LD.levinsonDurbin_loop, if_neg (by omega)]
  have hinv := LD.initSt_alg syn pat.bytes (by omega)
  obtain ⟨st', hl, hv', ⟨⟨_, _, hw', _⟩, hbw', _, _, h4'⟩⟩ := loop_reaches pat
    (t := syn.length / 2) (by omega) (by omega) (syn.length / 2 + 1) (LD.initSt syn) hinv hv0
    (by have := hinv.1.1; omega)
  exact ⟨st'.w ++ [1], by rw [hl]; rfl, by simp [hw', hv'], hbw'.append Bytes.one,
    at_nu_locator pat st'.w (by rw [hw', hv']) (by rw [← hv']; exact h4')⟩

end reach

end DM.Lemmas.LDReach
