import DM.Lemmas.Sorted
/-!
`remove_hopeless_cases` over an interface: the elements have a `key` (for the planner: start mode and current mode), a
`cost`, and `costTo first second` (what it costs `first` to reach the mode of `second`, if it can). The algorithm is
modelled twice - on the records the hook logs (`Model/Prune.lean`) and on plans (`Model/Planner.lean`) - and both are
this function (`Props/C19.removeHopeless_eq`, `PlanLoop.prunePlans_eq`); what is proved here holds of both.
-/
namespace DM.Lemmas.PruneBy

variable {α : Type} (key cost : α → Nat) (costTo : α → α → Option Nat)

def dedupBy : List α → List Nat → List α
  | [], _ => []
  | p :: ps, seen => if seen.contains (key p) then dedupBy ps seen else p :: dedupBy ps (key p :: seen)

def dominanceBy (first : α) : List α → List α × Bool
  | [] => ([], false)
  | second :: rest =>
    match costTo first second with
    | some firstCost =>
      let (kept, unc) := dominanceBy first rest
      if firstCost < cost second then (kept, unc) else (second :: kept, unc)
    | none => (second :: rest, true)

def phase2By : Nat → List α → List α → List α
  | 0, pre, l => pre ++ l
  | f + 1, pre, l =>
    match l with
    | first :: rest =>
      if rest.isEmpty then pre ++ l
      else
        let (kept, unc) := dominanceBy cost costTo first rest
        if unc then phase2By f (pre ++ [first]) kept else pre ++ first :: kept
    | [] => pre

def pruneBy (sorted : List α) : List α :=
  phase2By cost costTo (dedupBy key sorted []).length [] (dedupBy key sorted [])

theorem dedupBy_sublist : ∀ (l : List α) (seen : List Nat), (dedupBy key l seen).Sublist l := by
  intro l
  induction l with
  | nil => intro seen; simp [dedupBy]
  | cons p ps ih =>
    intro seen
    unfold dedupBy
    split
    · exact (ih seen).cons p
    · exact (ih _).cons_cons p

theorem dedupBy_keys : ∀ (l : List α) (seen : List Nat),
    ((dedupBy key l seen).map key).Nodup ∧ ∀ p ∈ dedupBy key l seen, key p ∉ seen := by
  intro l
  induction l with
  | nil => intro seen; simp [dedupBy]
  | cons p ps ih =>
    intro seen
    unfold dedupBy
    split
    · exact ih seen
    · rename_i hns
      have := ih (key p :: seen)
      refine ⟨?_, ?_⟩
      · rw [List.map_cons, List.nodup_cons]
        refine ⟨?_, this.1⟩
        intro hm
        obtain ⟨q, hq, hk⟩ := List.mem_map.mp hm
        exact this.2 q hq (by rw [hk]; exact List.mem_cons_self ..)
      · intro q hq
        rcases List.mem_cons.mp hq with rfl | hq
        · simpa using hns
        · intro hs
          exact this.2 q hq (List.mem_cons_of_mem _ hs)

theorem dominanceBy_sublist (first : α) : ∀ l : List α, (dominanceBy cost costTo first l).1.Sublist l := by
  intro l
  induction l with
  | nil => simp [dominanceBy]
  | cons s rest ih =>
    unfold dominanceBy
    split
    · simp only
      split
      · exact ih.cons s
      · exact ih.cons_cons s
    · exact List.Sublist.refl _

theorem phase2By_sublist : ∀ (f : Nat) (pre l : List α), (phase2By cost costTo f pre l).Sublist (pre ++ l) := by
  intro f
  induction f with
  | zero => intro pre l; exact List.Sublist.refl _
  | succ f ih =>
    intro pre l
    unfold phase2By
    cases l with
    | nil => simp
    | cons first rest =>
      simp only
      split
      · exact List.Sublist.refl _
      · have hd := dominanceBy_sublist cost costTo first rest
        split
        · refine (ih (pre ++ [first]) (dominanceBy cost costTo first rest).1).trans ?_
          rw [List.append_assoc]
          exact (List.Sublist.refl pre).append (((List.Sublist.refl [first]).append hd))
        · exact (List.Sublist.refl pre).append (hd.cons_cons first)

theorem pruneBy_dedup (l : List α) : (pruneBy key cost costTo l).Sublist (dedupBy key l []) := by
  have := phase2By_sublist cost costTo (dedupBy key l []).length [] (dedupBy key l [])
  rwa [List.nil_append] at this

theorem pruneBy_sublist (l : List α) : (pruneBy key cost costTo l).Sublist l :=
  (pruneBy_dedup key cost costTo l).trans (dedupBy_sublist key l [])

theorem pruneBy_keys (l : List α) : ((pruneBy key cost costTo l).map key).Nodup :=
  (dedupBy_keys key l []).1.sublist ((pruneBy_dedup key cost costTo l).map _)

theorem pruneBy_length (l : List α) (n : Nat) (hk : ∀ p ∈ l, key p < n) : (pruneBy key cost costTo l).length ≤ n := by
  have := nodup_lt_length _ n (pruneBy_keys key cost costTo l) (by
    intro k hk'
    obtain ⟨p, hp, rfl⟩ := List.mem_map.mp hk'
    exact hk p ((pruneBy_sublist key cost costTo l).subset hp))
  simpa using this

end DM.Lemmas.PruneBy
