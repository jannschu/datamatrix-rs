import DM.Lemmas.PlanRun
import DM.Lemmas.AsciiRT
import DM.Lemmas.SymbolList
/-!
# Planner / encoder coupling: what the encoder halves of the per-mode proofs share

A mode's proof runs the encoder's loop round by round (`rounds`), in which `maybe_switch_mode` does nothing until the planned
switch is due (`EncAt.stay`, `EncAt.go`: forward readings of the normal form `EncStep.maybeSwitch_eq`; proofs that start from
a result use the inversion `EncStep.maybeSwitch_cases`).

Every statement about a segment concludes `Within list B (encodeMode s) good`: the mode encoder succeeds in a state that is
`good`, or answers `tooMuch`, and then the `B` codewords the planner has accounted for fit no listed symbol.  The good states
are `Sync` (at the planned switch, exactly on budget, the latch of the planned mode pending), `Early` (C40 / Text in front of
two final digits: already ASCII until the end, not over budget) and `Tail` / `TailS` (at most an ASCII tail remains, and all of
it fits the symbol chosen for `B`; with slack `σ`: at most `σ` codewords over `B`, the UNLATCH at the end of the data that the
planner does not price).  The planner halves of a segment (`SwitchPlan m`, `EndPlan m`, in this namespace) are in
`Lemmas/PlanRun.lean`.
Namespaces: `CoupleSeg`, `Couple.EncAt`.
-/
namespace DM.Lemmas.CoupleSeg
open DM.Model DM.Model.Plan DM.Model.Enc DM.Lemmas.Couple

theorem rounds {σ α : Type} (loop : Nat → σ → α) (J : Nat → σ → Prop) (n : Nat)
    (hround : ∀ i x, i < n → J i x → ∃ x', J (i + 1) x' ∧ ∀ f, loop (f + 1) x = loop f x') :
    ∀ i x, i ≤ n → J 0 x → ∃ x', J i x' ∧ ∀ f, loop (f + i) x = loop f x'
  | 0, x, _, h => ⟨x, h, fun _ => rfl⟩
  | i + 1, x, hi, h => by
    obtain ⟨x0, h0, e0⟩ := rounds loop J n hround i x (Nat.le_of_succ_le hi) h
    obtain ⟨x1, h1, e1⟩ := hround i x0 hi h0
    exact ⟨x1, h1, fun f => by rw [show f + (i + 1) = f + 1 + i from Nat.add_right_comm f i 1, e0, e1]⟩

/-- `self.new_mode` is overwritten only when the new mode is not ASCII: hence `hn` -/
theorem maybeSwitch_fire (s : St) (m : EMode) (rest : List (Nat × EMode))
    (hp : s.plan = (s.charsLeft, m) :: rest) (h : 0 < s.charsLeft) (hm : m ≠ s.mode)
    (hn : m = .ascii → s.newMode = none) :
    s.maybeSwitch = .ok (true, { s with mode := m, plan := rest, newMode := m.latch }) := by
  rw [EncStep.maybeSwitch_eq s hp, if_neg (Nat.lt_irrefl _), if_pos ⟨h, rfl⟩, if_neg hm]
  cases m
  · rw [hn rfl]; rfl
  all_goals rfl

theorem maybeSwitch_go (s : St) (at_ : Nat) (m : EMode) (rest : List (Nat × EMode)) (hp : s.plan = (at_, m) :: rest)
    (hcl : s.charsLeft = at_) (hpos : 0 < at_) (hm : m ≠ s.mode) (hn : s.newMode = none) :
    s.maybeSwitch = .ok (true, { s with mode := m, plan := rest, newMode := m.latch }) :=
  maybeSwitch_fire s m rest (hcl ▸ hp) (hcl ▸ hpos) hm fun _ => hn

theorem maybeSwitch_pop (s : St) (rest : List (Nat × EMode))
    (hp : s.plan = (s.charsLeft, s.mode) :: rest) (h : 0 < s.charsLeft) :
    s.maybeSwitch = .ok (false, { s with plan := rest }) := by
  rw [EncStep.maybeSwitch_eq s hp, if_neg (Nat.lt_irrefl _), if_pos ⟨h, rfl⟩, if_pos rfl]

def Within (list : List Sym) (B : Nat) (r : Enc.R St) (good : St → Prop) : Prop :=
  (∃ s', r = .ok s' ∧ good s') ∨ (r = .error .tooMuch ∧ firstBigEnough list B = none)

theorem Within.ok {list : List Sym} {B : Nat} {r : Enc.R St} {good : St → Prop} {s' : St} (he : r = .ok s')
    (hg : good s') : Within list B r good :=
  Or.inl ⟨s', he, hg⟩

theorem Within.imp {list : List Sym} {B : Nat} {r : Enc.R St} {good good' : St → Prop} (h : Within list B r good)
    (hg : ∀ s', r = .ok s' → good s' → good' s') : Within list B r good' :=
  Or.imp (fun ⟨s', e, g⟩ => ⟨s', e, hg s' e g⟩) id h

theorem Within.not_of_ok {list : List Sym} {B : Nat} {r : Enc.R St} {good : St → Prop} {s' : St} (he : r = .ok s')
    (hn : ¬ good s') : ¬ Within list B r good := by
  rintro (⟨s'', e, g⟩ | ⟨e, _⟩)
  · rw [he] at e; cases e; exact hn g
  · rw [he] at e; cases e

def Sync (body : List Nat) (list : List Sym) (P B : Nat) (m' : EMode) (rest : List (Nat × EMode)) (s' : St) : Prop :=
  s'.input = body ∧ s'.list = list ∧ s'.pos = P ∧ s'.cw.length = B ∧ s'.mode = m' ∧ s'.plan = rest ∧ s'.newMode = m'.latch

section
variable {body : List Nat} {list : List Sym} {s : St} {p w : Nat} {m : EMode} {plan : List (Nat × EMode)}

theorem _root_.DM.Lemmas.Couple.EncAt.charsLeft (h : EncAt body list s p w m plan) : s.charsLeft = body.length - p := by
  rw [St.charsLeft, h.1, h.2.2.1]

theorem _root_.DM.Lemmas.Couple.EncAt.hasMore (h : EncAt body list s p w m plan) : s.hasMore = decide (p < body.length) := by
  rw [St.hasMore, h.1, h.2.2.1]

theorem _root_.DM.Lemmas.Couple.EncAt.rest (h : EncAt body list s p w m plan) : s.rest = body.drop p := by
  rw [St.rest, h.1, h.2.2.1]

theorem _root_.DM.Lemmas.Couple.EncAt.stay {at_ : Nat} {m' : EMode} {rest : List (Nat × EMode)} (h : EncAt body list s p w m ((at_, m') :: rest))
    (hat : at_ = 0 ∨ at_ + p < body.length) : s.maybeSwitch = .ok (false, s) :=
  EncStep.maybeSwitch_stay s at_ m' rest h.2.2.2.2.2.1 (by rw [h.charsLeft]; omega)

theorem _root_.DM.Lemmas.Couple.EncAt.go {m' : EMode} {rest : List (Nat × EMode)} (h : EncAt body list s p w m ((body.length - p, m') :: rest))
    (hlt : p < body.length) (hm : m' ≠ m) :
    ∃ s', s.maybeSwitch = .ok (true, s') ∧ Sync body list p w m' rest s' ∧ s' = { s with mode := m', plan := rest, newMode := m'.latch } :=
  ⟨_, maybeSwitch_go s _ m' rest h.2.2.2.2.2.1 h.charsLeft (Nat.sub_pos_of_lt hlt) (h.2.2.2.2.1 ▸ hm) h.2.2.2.2.2.2,
    ⟨h.1, h.2.1, h.2.2.1, h.2.2.2.1, rfl, rfl, rfl⟩, rfl⟩
end

def Early (body : List Nat) (list : List Sym) (P L B : Nat) (s' : St) : Prop :=
  s'.input = body ∧ s'.list = list ∧ s'.pos = P ∧ s'.mode = .ascii ∧ s'.plan = [(0, .ascii)] ∧ s'.newMode = none ∧
    L ≤ s'.cw.length ∧ s'.cw.length ≤ B

def Tail (body : List Nat) (list : List Sym) (L B : Nat) (s' : St) : Prop :=
  s'.input = body ∧ s'.list = list ∧ s'.pos ≤ body.length ∧ s'.newMode = none ∧
    (s'.hasMore = true → s'.mode = .ascii ∧ s'.plan = [(0, .ascii)]) ∧ L ≤ s'.cw.length ∧
    CoupleC40.Fits list B (s'.cw.length + asciiSize s'.rest)

theorem Tail.weaken {body : List Nat} {list : List Sym} {L L' B : Nat} {s' : St} (h : Tail body list L B s') (hl : L' ≤ L) :
    Tail body list L' B s' :=
  let ⟨b, c, d, e, f, g, i⟩ := h
  ⟨b, c, d, e, f, Nat.le_trans hl g, i⟩

def TailS (body : List Nat) (list : List Sym) (L B σ : Nat) (s' : St) : Prop :=
  Tail body list L B s' ∧ s'.cw.length + asciiSize s'.rest ≤ B + σ

theorem tail_of_le {body : List Nat} {list : List Sym} {L B : Nat} {s' : St} (h1 : s'.input = body) (h2 : s'.list = list)
    (h3 : s'.pos ≤ body.length) (h4 : s'.newMode = none) (h5 : s'.hasMore = true → s'.mode = .ascii ∧ s'.plan = [(0, .ascii)])
    (h6 : L ≤ s'.cw.length) (h7 : s'.cw.length + asciiSize s'.rest ≤ B) : TailS body list L B 0 s' :=
  ⟨⟨h1, h2, h3, h4, h5, h6, .of_le h7⟩, h7⟩

/-- **Segment that runs to the end of the data**, with slack `σ`: `Couple.EndSeg m` with `w ≤ s'.cw.length` and "fits the
symbol the planner predicted" added, and the codeword count allowed to exceed the priced amount by `σ`.  `σ = 0` holds for
ASCII and Base 256, `σ = 1` for X12 and EDIFACT. -/
def EndSegS (m : EMode) (σ : Nat) : Prop :=
  ∀ (body : List Nat) (list : List Sym) (p w k : Nat) (g0 gk gE : GPlan) (r : StepResult) (s : St),
    ByteList body → p + k = body.length → (1 ≤ k ∨ m = .ascii) →
    g0.plan = newPlan m (ctxAt body list p w) →
    StepsTo k g0 gk → gk.step = .ok (some (gE, r)) → r.end = true →
    EncAt body list s p w m [(0, m)] →
    g0.extra ≤ gE.cost ∧
    Within list (w + ceil12 (gE.cost - g0.extra) / 12) (encodeMode s)
      (TailS body list w (w + ceil12 (gE.cost - g0.extra) / 12) σ)

theorem EndSegS.endSeg {m : EMode} (h : EndSegS m 0) : EndSeg m := by
  intro body list p w k g0 gk gE r s hb hpk hk hpl hst hs hre henc
  refine (h body list p w k g0 gk gE r s hb hpk hk hpl hst hs hre henc).imp id
    (Within.imp · fun s' _ ⟨⟨a, b, c, d, e, _, _⟩, hle⟩ => ⟨a, b, c, d, e, ?_⟩)
  have := PlanStep.ceil12_mod (gE.cost - g0.extra)
  omega

end DM.Lemmas.CoupleSeg
