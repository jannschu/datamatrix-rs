import DM.Lemmas.EdiRT
/-
EDIFACT encoder from an arbitrary position `p0` after arbitrary codewords `c0` (latch written), under an arbitrary
plan: the closed form of what it appends (`cwE`) and the five ways it returns (`SpecEdiGen.GEnd`).  The analysis does
not mention a decoder.  When the remaining plan names EDIFACT only (EDIFACT is the final stretch of the message) only
the three ends of the data are left (`EEnd`, `edifactEncode_gen`).
Namespaces: `EdiGen`, `SpecEdiGen`.
-/
namespace DM.Lemmas.EdiGen
open DM.Model DM.Model.Enc DM.Model.Dec DM.Lemmas DM.Lemmas.DecRun DM.Lemmas.AsciiRT DM.Lemmas.Complete
open DM.Lemmas.EncRT DM.Lemmas.X12RT DM.Lemmas.EdiRT DM.Spec.Build

def bE (body : List Nat) (p0 : Nat) : List Nat := body.drop p0

def cwE (body : List Nat) (p0 : Nat) (c0 : List Nat) (q : Nat) : List Nat := c0 ++ ediC (bE body p0) q

def restE (body : List Nat) (p0 q : Nat) : List Nat := (bE body p0).drop (4 * q)

theorem restE_eq (body : List Nat) (p0 q : Nat) : restE body p0 q = body.drop (p0 + 4 * q) := by
  simp [restE, bE, List.drop_drop]

theorem restE_length (body : List Nat) (p0 q : Nat) : (restE body p0 q).length = body.length - (p0 + 4 * q) := by
  rw [restE_eq, List.length_drop]

inductive EEnd (list : List Sym) (body : List Nat) (p0 : Nat) (c0 : List Nat) (s' : St) : Prop where
  | ascii (q : Nat) (hq : p0 + 4 * q ≤ body.length)
      (ok : AsciiEndOK list (cwE body p0 c0 q).length (restE body p0 q))
      (eq : s' = stAscii list body (p0 + 4 * q) (cwE body p0 c0 q))
  /-- the last group carries the UNLATCH value; the symbol that holds the result has three codewords from the start
  of that group (what the `symbol_size_left` tests of `handle_end` come to: `EdiRT.unlatch_room`), which is what
  either decoder needs to read it -/
  | unlatch (q : Nat) (hq : p0 + 4 * q ≤ body.length) (hr : (restE body p0 q).length ≤ 3)
      (three : ∀ S, firstBigEnough list (cwE body p0 c0 q ++ ediLast (restE body p0 q)).length = some S →
        (cwE body p0 c0 q).length + 3 ≤ dataCw S)
      (eq : s' = stAscii list body body.length (cwE body p0 c0 q ++ ediLast (restE body p0 q)))
  /-- complete quadruples fill the symbol exactly: the encoder stays in EDIFACT mode -/
  | exact (q : Nat) (hq : p0 + 4 * q = body.length)
      (fit : ∃ S, firstBigEnough list (cwE body p0 c0 q).length = some S ∧ dataCw S = (cwE body p0 c0 q).length)
      (cw : s'.cw = cwE body p0 c0 q) (pos : s'.pos = body.length) (inp : s'.input = body) (lst : s'.list = list)

theorem cwE_succ (body : List Nat) (p0 : Nat) (c0 : List Nat) (q : Nat) (h : p0 + 4 * q + 4 ≤ body.length) :
    cwE body p0 c0 (q + 1) = cwE body p0 c0 q ++ packEdifact (((restE body p0 q).take 4).map (· % 64)) := by
  unfold cwE restE
  rw [ediC_succ (bE body p0) q (by simp only [bE, List.length_drop]; omega), List.append_assoc]

end DM.Lemmas.EdiGen

namespace DM.Lemmas.SpecEdiGen
open DM.Model DM.Model.Enc DM.Lemmas DM.Lemmas.AsciiRT DM.Lemmas.Complete
open DM.Lemmas.EncRT DM.Lemmas.X12RT DM.Lemmas.EdiRT DM.Lemmas.EdiGen DM.Lemmas.EncStep
open DM.Spec.Build (packEdifact)

/-- `plan0` = the plan at the start -/
structure GInv (list : List Sym) (body : List Nat) (p0 : Nat) (c0 : List Nat) (plan0 : List (Nat × EMode))
    (s : St) (sym : List Nat) (q : Nat) : Prop where
  input : s.input = body
  list : s.list = list
  mode : s.mode = .edifact
  plan : ∀ e ∈ s.plan, e ∈ plan0
  newMode : s.newMode = none
  pos : s.pos = p0 + 4 * q + sym.length
  le : s.pos ≤ body.length
  symEq : sym = (restE body p0 q).take sym.length
  short : sym.length ≤ 3
  cw : s.cw = cwE body p0 c0 q

/-- `maybe_switch_mode` stays: the plan is kept or loses its head -/
theorem GInv.stay {list : List Sym} {body : List Nat} {p0 : Nat} {c0 : List Nat} {plan0 : List (Nat × EMode)} {s : St}
    {sym : List Nat} {q : Nat} (inv : GInv list body p0 c0 plan0 s sym q) {pl : List (Nat × EMode)} {a : Nat × EMode}
    (h : pl = s.plan ∨ s.plan = a :: pl) : GInv list body p0 c0 plan0 { s with plan := pl } sym q :=
  ⟨inv.input, inv.list, inv.mode, fun e he => inv.plan e (by
      rcases h with rfl | h
      · exact he
      · rw [h]; exact List.mem_cons_of_mem _ he),
    inv.newMode, inv.pos, inv.le, inv.symEq, inv.short, inv.cw⟩

inductive GEnd (list : List Sym) (body : List Nat) (p0 : Nat) (c0 : List Nat) (plan0 : List (Nat × EMode))
    (s' : St) : Prop where
  /-- the rest of the message (at most four characters, at most two codewords) goes to the ASCII end
  game; the plan is abandoned -/
  | ascii (q : Nat) (hq : p0 + 4 * q ≤ body.length)
      (ok : AsciiEndOK list (cwE body p0 c0 q).length (restE body p0 q))
      (eq : s' = stAscii list body (p0 + 4 * q) (cwE body p0 c0 q))
  /-- the same at a planned switch to the mode `m`: the plan is abandoned, but `new_mode` keeps the
  latch codeword of `m` (`set_ascii_until_end` does not clear it): unless `m` is ASCII the main loop
  then writes that latch in front of the ASCII rest, and the stream is not read back
  (body "ABCDA", plan E·5 / C40·1: `[240, 4, 32, 196, 230, 66, 129, 56]`, read as "ABCD9$JA7") -/
  | asciiSwitch (q : Nat) (m : EMode) (hq : p0 + 4 * q < body.length)
      (ok : AsciiEndOK list (cwE body p0 c0 q).length (restE body p0 q)) (hm : m ≠ .edifact)
      (planned : ∃ p, (p, m) ∈ plan0)
      (eq : s' = { stAscii list body (p0 + 4 * q) (cwE body p0 c0 q) with newMode := m.latch })
  | unlatch (q : Nat) (hq : p0 + 4 * q ≤ body.length) (hr : (restE body p0 q).length ≤ 3)
      (nok : ¬ AsciiEndOK list (cwE body p0 c0 q).length (restE body p0 q))
      (room : ∃ S, firstBigEnough list ((cwE body p0 c0 q).length + (restE body p0 q).length) = some S ∧
        ((restE body p0 q).length = 0 → dataCw S - (cwE body p0 c0 q).length > 2) ∧
        ((restE body p0 q).length ≠ 0 → (restE body p0 q).length = 3 ∨
          dataCw S - ((cwE body p0 c0 q).length + (restE body p0 q).length) > 0))
      (eq : s' = stAscii list body body.length (cwE body p0 c0 q ++ ediLast (restE body p0 q)))
  | exact (q : Nat) (hq : p0 + 4 * q = body.length)
      (fit : ∃ S, firstBigEnough list (cwE body p0 c0 q).length = some S ∧ dataCw S = (cwE body p0 c0 q).length)
      (cw : s'.cw = cwE body p0 c0 q) (pos : s'.pos = body.length) (inp : s'.input = body) (lst : s'.list = list)
  /-- planned switch to another mode after `4 q + r` characters: the group under construction is
  closed with the UNLATCH value (codeword 124 alone when `r = 0`) -/
  | switch (q r : Nat) (hr : r ≤ 3) (pos : s'.pos = p0 + 4 * q + r) (more : s'.pos < body.length)
      (nok : ¬ AsciiEndOK list (cwE body p0 c0 q).length (restE body p0 q))
      (cw : s'.cw = cwE body p0 c0 q ++ ediLast ((restE body p0 q).take r))
      (inp : s'.input = body) (lst : s'.list = list) (mode : s'.mode ≠ .edifact)
      (planned : ∃ p, (p, s'.mode) ∈ plan0) (plan : ∀ e ∈ s'.plan, e ∈ plan0)
      (newMode : s'.newMode = s'.mode.latch)

theorem gInv_end {list : List Sym} {body : List Nat} {p0 : Nat} {c0 : List Nat} {plan0 : List (Nat × EMode)} {s : St}
    {sym : List Nat} {q : Nat}
    (inv : GInv list body p0 c0 plan0 s sym q) (hend : s.hasMore = false) :
    sym = restE body p0 q ∧ s.rest = [] ∧ s.pos = body.length ∧ p0 + 4 * q ≤ body.length := by
  have h1 := of_decide_eq_false hend
  rw [inv.input] at h1
  have hpl : s.pos = body.length := by have := inv.le; omega
  have hdl : (restE body p0 q).length = sym.length := by
    rw [restE_length]; have := inv.pos; omega
  refine ⟨?_, ?_, hpl, by have := inv.pos; omega⟩
  · have := inv.symEq
    rw [← hdl, List.take_length] at this
    exact this
  · unfold St.rest
    rw [inv.input]
    exact List.drop_eq_nil_of_le (by omega)

theorem handleEnd_last {list : List Sym} {body : List Nat} {p0 : Nat} {c0 : List Nat} {plan0 : List (Nat × EMode)}
    {s s' : St} {sym : List Nat} {q : Nat}
    (inv : GInv list body p0 c0 plan0 s sym q) (hend : s.hasMore = false)
    (hc : s'.pos = body.length → EdiChars (bE body p0))
    (h : edifactHandleEnd s sym = .ok s') : GEnd list body p0 c0 plan0 s' := by
  obtain ⟨hsym, hrest, hpos, hq⟩ := gInv_end inv hend
  have hdl : (restE body p0 q).length = sym.length := by rw [hsym]
  rw [edifactHandleEnd_eq, hrest, List.append_nil, hend] at h
  by_cases hok : AsciiEndOK s.list s.cw.length sym
  · rw [if_pos hok, if_pos (by have := inv.pos; omega)] at h
    cases h
    rw [inv.list, inv.cw, hsym] at hok
    refine .ascii q hq hok ?_
    simp only [St.setAscii, stAscii, inv.input, inv.list, inv.newMode, inv.cw]
    congr 1
    have := inv.pos; omega
  · rw [if_neg hok, if_neg (by have := inv.short; omega)] at h
    simp only [Bool.false_eq_true, if_false] at h
    cases hr : CoupleC40.szLeft s.list (s.cw.length + sym.length) with
    | none => rw [hr] at h; cases h
    | some r =>
    rw [hr] at h
    simp only [Except.ok.injEq] at h
    have hs' := h.symm
    have hnok := hok
    rw [inv.list, inv.cw, hsym] at hnok
    obtain ⟨S, hf, hcap⟩ := CoupleC40.szLeft_eq_some_iff.mp hr
    rw [inv.list, inv.cw] at hf
    rw [inv.cw] at hcap
    have hge := SymbolList.fbe_some_ge _ _ _ hf
    by_cases hemp : sym = []
    · rw [if_pos hemp] at hs'
      rw [hemp] at hf hge hdl hcap
      simp only [List.length_nil, Nat.add_zero] at hf hge hcap
      by_cases hgt : r > 0
      · rw [if_pos hgt] at hs'
        subst hs'
        -- `try_ascii_end` declined with nothing buffered and nothing left: more than two codewords are free
        have h2 : dataCw S - (cwE body p0 c0 q).length > 2 := by
          apply Nat.lt_of_not_le
          intro hle
          have hr0 : restE body p0 q = [] := List.eq_nil_of_length_eq_zero (by simpa using hdl)
          exact hnok (by rw [hr0]; exact ⟨Nat.zero_le _, Nat.zero_le _, S, hf, hle⟩)
        refine .unlatch q hq (by rw [hdl]; simp) hnok ⟨S, by rw [hdl]; exact hf, fun _ => h2, fun hne => absurd hdl hne⟩ ?_
        rw [← hsym, hemp]
        simp only [St.push, St.setAscii, stAscii, inv.input, inv.list, inv.newMode, inv.cw, ediLast, hpos]
      · rw [if_neg hgt] at hs'
        subst hs'
        refine .exact q ?_ ⟨S, hf, by omega⟩ inv.cw hpos inv.input inv.list
        have := inv.pos
        rw [hemp] at this
        simp at this
        omega
    · rw [if_neg hemp] at hs'
      have hlpos : 0 < sym.length := List.length_pos_iff.mpr hemp
      by_cases hcond : r > 0 ∨ sym.length = 3
      · rw [if_pos hcond] at hs'
        subst hs'
        refine .unlatch q hq (by rw [hdl]; exact inv.short) hnok ⟨S, by rw [hdl]; exact hf, ?_, ?_⟩ ?_
        · intro h0; rw [hdl] at h0; omega
        · intro _; rw [hdl]; exact hcond.symm.imp id (by omega)
        · rw [write4_eq, write4_last s.setAscii sym inv.short, ← hsym]
          simp only [St.setAscii, stAscii, inv.input, inv.list, inv.newMode, inv.cw, hpos]
      · -- `write4` without UNLATCH would need `try_ascii_end` to have failed: impossible
        rw [if_neg hcond] at hs'
        have hp' : s'.pos = body.length := by rw [hs', (write4_same s sym).1]; exact hpos
        have hcs : EdiChars sym := fun x hx => hc hp' x (by rw [hsym] at hx; exact List.mem_of_mem_drop hx)
        exfalso
        apply hnok
        have hlen12 : sym.length ≤ 2 := by have := inv.short; omega
        have hasz := asciiSize_le_length sym (fun x hx => by have := (hcs x hx).2; omega)
        obtain ⟨S', hS', hle⟩ := SymbolList.fbe_fit list ((cwE body p0 c0 q).length + asciiSize sym) _ S hf
          (Nat.le_trans (by omega) (SymbolList.fbe_some_ge _ _ _ hf))
        rw [← hsym]
        exact ⟨by omega, by omega, S', hS', by omega⟩

/-- `handle_end` at a planned switch to another mode (`s3` = the state `maybe_switch_mode` returned) -/
theorem handleEnd_switch {list : List Sym} {body : List Nat} {p0 : Nat} {c0 : List Nat} {plan0 : List (Nat × EMode)}
    {s3 s' : St} {sym : List Nat} {q : Nat}
    (hin : s3.input = body) (hli : s3.list = list) (hmode : s3.mode ≠ .edifact) (hplanned : ∃ p, (p, s3.mode) ∈ plan0)
    (hplan : ∀ e ∈ s3.plan, e ∈ plan0) (hnm : s3.newMode = s3.mode.latch)
    (hpos : s3.pos = p0 + 4 * q + sym.length) (hlt : s3.pos < body.length)
    (hsymEq : sym = (restE body p0 q).take sym.length) (hshort : sym.length ≤ 3) (hcw : s3.cw = cwE body p0 c0 q)
    (h : edifactHandleEnd s3 sym = .ok s') : GEnd list body p0 c0 plan0 s' := by
  have hmore : s3.hasMore = true := by simp [St.hasMore, hin, hlt]
  have hrestEq : sym ++ s3.rest = restE body p0 q := by
    have e1 : s3.rest = (restE body p0 q).drop sym.length := by
      simp [St.rest, hin, hpos, restE_eq, List.drop_drop]
    rw [e1]
    conv => lhs; lhs; rw [hsymEq]
    exact List.take_append_drop _ _
  rw [edifactHandleEnd_eq, hrestEq, hmore] at h
  by_cases hok : AsciiEndOK s3.list s3.cw.length (restE body p0 q)
  · rw [if_pos hok, if_pos (by omega)] at h
    cases h
    rw [hli, hcw] at hok
    refine .asciiSwitch q s3.mode (by omega) hok hmode hplanned ?_
    simp [St.setAscii, stAscii, hin, hli, hcw, hpos, hnm]
  · rw [if_neg hok, if_neg (by omega), if_pos rfl] at h
    cases h
    rw [hli, hcw] at hok
    by_cases hemp : sym = []
    · rw [if_pos hemp]
      refine .switch q 0 (by omega) (by simp [St.push, hpos, hemp]) (by simpa [St.push] using hlt) hok ?_ hin hli hmode
        hplanned hplan hnm
      simp [St.push, hcw, ediLast]
    · rw [if_neg hemp, write4_eq, write4_last s3 sym hshort, hcw]
      exact .switch q sym.length hshort hpos hlt hok (by rw [← hsymEq]) hin hli hmode hplanned hplan hnm

/-- `hc` (the characters are EDIFACT characters) is only needed when the loop runs to the end of the data. -/
theorem ediLoop_specGen (list : List Sym) (body : List Nat) (p0 : Nat) (c0 : List Nat) (plan0 : List (Nat × EMode)) :
    ∀ (f : Nat) (s : St) (sym : List Nat) (q : Nat) (s' : St), GInv list body p0 c0 plan0 s sym q →
      edifactLoop f s sym = .ok s' → (s'.pos = body.length → EdiChars (bE body p0)) → GEnd list body p0 c0 plan0 s' := by
  intro f
  induction f with
  | zero => intro s sym q s' _ h; cases h
  | succ f ih =>
    intro s sym q s' inv h hc
    rw [edifactLoop_eq] at h
    split at h
    · obtain ⟨rfl, -, hok⟩ := ‹sym = [] ∧ _›
      cases h
      have hp4 : s.pos = p0 + 4 * q := by simpa using inv.pos
      have hrest : s.rest = restE body p0 q := by simp [St.rest, inv.input, hp4, restE_eq]
      rw [hrest, inv.list, inv.cw] at hok
      refine .ascii q (by have := inv.le; omega) hok ?_
      simp [St.setAscii, stAscii, inv.input, inv.list, inv.newMode, inv.cw, hp4]
    split at h
    · exact handleEnd_last inv (rest_eq_nil ‹_›).2 hc h
    · rename_i ch _ hr
      obtain ⟨hlt0, hch, -⟩ := rest_eq_cons hr
      have hlt : s.pos < body.length := inv.input ▸ hlt0
      obtain rfl : ch = body[s.pos] := by rw [hch]; simp only [inv.input]
      have hblen : 4 * q + sym.length < (bE body p0).length := by
        simp only [bE, List.length_drop]; have := inv.pos; omega
      have hget : (bE body p0)[4 * q + sym.length] = body[s.pos] := by
        simp only [bE, List.getElem_drop]
        congr 1
        have := inv.pos; omega
      have hsym1 : sym ++ [body[s.pos]] = (restE body p0 q).take (sym.length + 1) := by
        have := take_succ_drop (bE body p0) (4 * q) sym.length hblen
        unfold restE
        rw [this, ← hget]
        congr 1
        exact inv.symEq
      have hstep : ∀ (s2 : St) (sym2 : List Nat) (q2 : Nat), GInv list body p0 c0 plan0 s2 sym2 q2 →
          onSwitch s2 (fun s3 => edifactHandleEnd s3 sym2) (fun s3 => edifactLoop f s3 sym2) = .ok s' →
          GEnd list body p0 c0 plan0 s' := by
        intro s2 sym2 q2 inv2 h
        rcases onSwitch_ok h with ⟨pl, hpl, h⟩ | ⟨md, pl, hpl, hcl, hne, h⟩
        · exact ih _ sym2 q2 s' (inv2.stay hpl) h hc
        · have hsub : ∀ e ∈ pl, e ∈ plan0 := fun e he => inv2.plan e (by rw [hpl]; exact List.mem_cons_of_mem _ he)
          exact handleEnd_switch (s3 := { s2 with mode := md, plan := pl, newMode := _ }) inv2.input inv2.list
            (by rw [inv2.mode] at hne; exact hne) ⟨_, inv2.plan _ (by rw [hpl]; exact List.mem_cons_self ..)⟩ hsub
            (by simp only [inv2.newMode]; cases md.latch <;> rfl) inv2.pos
            (by have := (EncStep.hasMore_charsLeft s2).mpr hcl; simpa [St.hasMore, inv2.input] using this)
            inv2.symEq inv2.short inv2.cw h
      split at h
      · rename_i h4
        have hl3 : sym.length = 3 := by simpa using h4
        rw [hl3] at hsym1
        have hquad : ∃ x0 x1 x2 x3, sym ++ [body[s.pos]] = [x0, x1, x2, x3] := by
          match hs : sym ++ [body[s.pos]], h4 with
          | [x0, x1, x2, x3], _ => exact ⟨x0, x1, x2, x3, rfl⟩
        obtain ⟨x0, x1, x2, x3, hq4⟩ := hquad
        have hcw : (write4 { s with pos := s.pos + 1 } (sym ++ [body[s.pos]])).cw = cwE body p0 c0 (q + 1) := by
          rw [hq4, write4_quad _ x0 x1 x2 x3, ← hq4, hsym1]
          simp only []
          rw [inv.cw, cwE_succ body p0 c0 q (by have := inv.pos; omega)]
        rw [write4_eq, hcw] at h
        exact hstep { s with pos := s.pos + 1, cw := cwE body p0 c0 (q + 1) } [] (q + 1) ⟨inv.input, inv.list, inv.mode,
          inv.plan, inv.newMode, by have := inv.pos; simp only [List.length_nil]; omega, by simp only []; omega, by simp, by simp, rfl⟩ h
      · rename_i h4
        have hl : sym.length + 1 ≤ 3 := by have := inv.short; simp at h4; omega
        have inv' : GInv list body p0 c0 plan0 { s with pos := s.pos + 1 } (sym ++ [body[s.pos]]) q :=
          ⟨inv.input, inv.list, inv.mode, inv.plan, inv.newMode, by simp; have := inv.pos; omega,
            by simp only []; omega, by simp only [List.length_append, List.length_singleton]; exact hsym1,
            by simpa using hl, inv.cw⟩
        exact hstep _ _ q inv' h

theorem edifactEncode_specGen (list : List Sym) (body : List Nat) (p0 : Nat) (c0 : List Nat) (sL s' : St)
    (hin : sL.input = body) (hli : sL.list = list) (hpos : sL.pos = p0) (hle : p0 ≤ body.length)
    (hmode : sL.mode = .edifact) (hnm : sL.newMode = none) (hcw : sL.cw = c0 ++ [240])
    (h : edifactEncode sL = .ok s') (hc : s'.pos = body.length → EdiChars (body.drop p0)) :
    GEnd list body p0 c0 sL.plan s' := by
  unfold edifactEncode at h
  have inv0 : GInv list body p0 c0 sL.plan sL [] 0 :=
    ⟨hin, hli, hmode, fun e he => he, hnm, by simp [hpos], by rw [hpos]; exact hle, by simp, by simp,
      by simp [cwE, ediC, packEdifact, hcw]⟩
  exact ediLoop_specGen list body p0 c0 sL.plan _ sL [] 0 s' inv0 h hc

end DM.Lemmas.SpecEdiGen

namespace DM.Lemmas.EdiGen
open DM.Model DM.Model.Enc DM.Lemmas.Complete

/-- `edifact::encode` on the state the main loop hands over (latch written), for EDIFACT as the final stretch: the
two switch exits of the any-plan analysis are excluded by the plan -/
theorem edifactEncode_gen (list : List Sym) (body : List Nat) (p0 : Nat) (c0 : List Nat) (sL s' : St)
    (hin : sL.input = body) (hli : sL.list = list) (hpos : sL.pos = p0) (hle : p0 ≤ body.length)
    (hmode : sL.mode = .edifact) (hnm : sL.newMode = none) (hcw : sL.cw = c0 ++ [240])
    (hpl : ∀ e ∈ sL.plan, e.2 = .edifact) (hc : EdiChars (body.drop p0))
    (h : edifactEncode sL = .ok s') : EEnd list body p0 c0 s' := by
  cases SpecEdiGen.edifactEncode_specGen list body p0 c0 sL s' hin hli hpos hle hmode hnm hcw h (fun _ => hc) with
  | ascii q hq ok eq => exact .ascii q hq ok eq
  | asciiSwitch q m hq ok hm planned eq => obtain ⟨p, hp⟩ := planned; exact absurd (hpl _ hp) hm
  | unlatch q hq hr nok room eq =>
    exact .unlatch q hq hr (fun S hS => EdiRT.unlatch_room list _ _ hr (fun x hx => hc x (List.mem_of_mem_drop hx)) nok room S
      (List.length_append ▸ hS)) eq
  | exact q hq fit cw pos inp lst => exact .exact q hq fit cw pos inp lst
  | switch q r hr pos more nok cw inp lst mode planned plan newMode =>
    obtain ⟨p, hp⟩ := planned; exact absurd (hpl _ hp) mode

end DM.Lemmas.EdiGen
