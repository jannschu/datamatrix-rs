import DM.Lemmas.SpecMainEdi
import DM.Lemmas.SpecMainRun
import DM.Lemmas.SpecMainX12
import DM.Lemmas.SpecMainC40
/-
One round of the encoder's main loop preserves the invariant against the reference decoder
(`SpecMain.SInv`), over the frame `SpecMainEdi.StepB` (`SpecMainRun`), by dispatch on the current mode: `stepB_in` for plans
that name only the modes of a set `S`, within `C40Gen.PlanOKE` (EDIFACT as the final stretch of the message, over EDIFACT
characters; no latch to a non-ASCII mode planned for the last four characters) unless `S` holds ASCII and Base 256 only;
`stepB_all` for all six modes. The pending-latch invariant (`C40Gen.Pending`) survives every call for one reason,
whatever the mode: `RInvAll.step`, from `PlanCondSwitch.encodeMode_pend`.
Namespaces: `SpecMainEdi` (`ABE`, `RInv`), `SpecMainAll`.
-/
namespace DM.Lemmas.SpecMainEdi
open DM.Model DM.Lemmas DM.Lemmas.EncRT DM.Lemmas.C40Gen DM.Lemmas.PlanProv

def ABE : Key → Prop := fun k =>
  (∀ x ∈ k.1, x.2 = .ascii ∨ x.2 = .base256 ∨ x.2 = .edifact) ∧ (k.2.1 = .ascii ∨ k.2.1 = .base256 ∨ k.2.1 = .edifact)

/-- `SpecMainAll.RInvAll` with the restriction to ASCII, Base 256 and EDIFACT -/
structure RInv (body : List Nat) (s : Enc.St) : Prop where
  plan : PlanOKE body s.plan
  pend : s.hasMore = true → Pending s
  abe : ABE (key s)

end DM.Lemmas.SpecMainEdi

namespace DM.Lemmas.SpecMainAll
open DM.Model DM.Lemmas DM.Lemmas.AsciiRT DM.Lemmas.SpecStep DM.Lemmas.SpecAscii DM.Lemmas.SpecB256 DM.Lemmas.Complete
open DM.Lemmas.EncRT DM.Lemmas.C40Gen DM.Lemmas.B256Gen DM.Lemmas.PlanProv DM.Lemmas.MainRT DM.Spec.Stream
open DM.Lemmas.SpecMain DM.Lemmas.SpecEdi DM.Lemmas.SpecEdiGen DM.Lemmas.EdiGen DM.Lemmas.EdiRT DM.Lemmas.SpecMainEdi
open DM.Lemmas.C40RT (latchOf modeOf)
open DM.Lemmas.SpecC40 (cmode)
open DM.Lemmas.SpecMainC40 (stepC_core)
open DM.Spec.Build (packTriples)

structure RInvAll (body : List Nat) (s : Enc.St) : Prop where
  plan : PlanOKE body s.plan
  pend : s.hasMore = true → Pending s

theorem rInvAll_of_rInv {body : List Nat} {s : Enc.St} (h : RInv body s) : RInvAll body s := ⟨h.plan, h.pend⟩

theorem RInvAll.step {body : List Nat} {s s' : Enc.St} (r : RInvAll body s) (hin : s.input = body)
    (he : Enc.encodeMode (latched s) = .ok s') : RInvAll body s' :=
  have h := encodeMode_pend hin r.plan he
  ⟨h.plan, h.pending⟩

/-- `P` has to hold only of the modes that the plan can name.
`PlanOKE` (with the pending-latch invariant) is used in C40, Text, X12 and EDIFACT, whose end-of-data rules can leave a
latch stale; the ASCII and the Base 256 encoder keep the invariant under every plan, so a set `S` of these two needs no
side condition. -/
theorem stepB_in (P : Mode → Prop) (S : Enc.EMode → Prop) (hS : S .ascii) (hA : P .ascii) (hB : S .base256 → P .base256)
    (hC : S .c40 → P .c40) (hT : S .text → P .text) (hX : S .x12 → P .x12) (hE : S .edifact → P .edifact)
    (list : List Sym) (i0 : Nat) (pre body : List Nat) (hb : ByteList body) :
    StepB P list i0 pre body (fun s => (RInvAll body s ∨ ∀ m, S m → m = .ascii ∨ m = .base256) ∧
      (∀ x ∈ s.plan, S x.2) ∧ S s.mode) := by
  intro s s' hinv ⟨r, hS1, hS2⟩ hmore he
  have hS' := q_encodeMode (modesIn_closed S hS) _ _ he (q_latched (modesIn_closed S hS) s ⟨hS1, hS2⟩)
  obtain ⟨room, lo, tr, lat, mi⟩ := hinv
  have hinv : SInv P list i0 pre body s := ⟨room, lo, tr, lat, mi⟩
  have rAll : s.mode ≠ .ascii → s.mode ≠ .base256 → RInvAll body s := fun h1 h2 =>
    r.resolve_right fun hab => (hab _ hS2).elim h1 h2
  cases hm : s.mode with
  | ascii =>
    refine ⟨step_ascii P (fun _ => True) hA list i0 pre body s s' hb hinv trivial hmore hm he,
      r.imp_left fun r => r.step mi.inp he, hS'⟩
  | base256 =>
    refine ⟨step_b256 P (fun _ => True) (hB (hm ▸ hS2)) list i0 pre body s s' hb hinv trivial hmore hm he,
      r.imp_left fun r => r.step mi.inp he, hS'⟩
  | edifact =>
    have r := rAll (by simp [hm]) (by simp [hm])
    have hedi := (r.pend hmore).edi hm mi.inp mi.le
    have a := edi_SInv P (hE (hm ▸ hS2)) list i0 pre body s s' hinv hmore hm hedi.1 hedi.2 he
    exact ⟨a, Or.inl (r.step mi.inp he), hS'⟩
  | c40 =>
    have r := rAll (by simp [hm]) (by simp [hm])
    exact ⟨stepC_core false P (hC (hm ▸ hS2)) list i0 pre body s s' hb hinv r.plan hmore hm he, Or.inl (r.step mi.inp he), hS'⟩
  | text =>
    have r := rAll (by simp [hm]) (by simp [hm])
    exact ⟨stepC_core true P (hT (hm ▸ hS2)) list i0 pre body s s' hb hinv r.plan hmore hm he, Or.inl (r.step mi.inp he), hS'⟩
  | x12 =>
    have r := rAll (by simp [hm]) (by simp [hm])
    exact ⟨DM.Lemmas.SpecMainX12.step_x12_local P (hX (hm ▸ hS2)) list i0 pre body s s' hinv r.plan hmore hm he,
      Or.inl (r.step mi.inp he), hS'⟩

theorem stepB_all (P : Mode → Prop) (hP : ∀ m, P m) (list : List Sym) (i0 : Nat) (pre body : List Nat) (hb : ByteList body) :
    StepB P list i0 pre body (RInvAll body) := by
  intro s s' hinv r hmore he
  obtain ⟨a, b, _⟩ := stepB_in P (fun _ => True) trivial (hP _) (fun _ => hP _) (fun _ => hP _) (fun _ => hP _) (fun _ => hP _)
    (fun _ => hP _) list i0 pre body hb s s' hinv ⟨Or.inl r, fun _ _ => trivial, trivial⟩ hmore he
  exact ⟨a, b.resolve_right fun h => by have := h .c40 trivial; simp at this⟩

end DM.Lemmas.SpecMainAll
