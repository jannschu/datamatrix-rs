import DM.Lemmas.EncCalls
import DM.Lemmas.ModeCall
import DM.Lemmas.PlanProv
import DM.Props.C04
import DM.Lemmas.Complete
/-!
Data-level round trip for mixed plans over ASCII, C40, Text, X12, Base 256 and EDIFACT as the final
stretch of the message (`C40Gen.PlanOKE`): the invariant of the encoder's main loop and its
preservation by every mode encoder. `MI false` is the invariant for plans without EDIFACT
(`C40Gen.PlanOK`; used by `Trace` / C13), `MI true` also has the two situations behind an EDIFACT run.
Namespaces: `MainRT`, `EncRT.SyncT`.
-/
namespace DM.Lemmas.MainRT
open DM.Model DM.Model.Enc DM.Model.Dec DM.Gen DM.Lemmas DM.Lemmas.DecRun DM.Lemmas.AsciiRT DM.Lemmas.Complete
open DM.Lemmas.EncRT DM.Lemmas.X12RT DM.Lemmas.EdiRT DM.Lemmas.C40RT DM.Lemmas.C40Gen DM.Lemmas.B256Gen
open DM.Lemmas.EdiGen DM.Lemmas.PlanProv DM.Lemmas.ModeCall
open DM.Spec.Build DM.Lemmas.Pads

def SyncEnd (pre out0 body cw : List Nat) (pos : Nat) : Prop :=
  pre.length ≤ cw.length ∧ cw.take pre.length = pre ∧
  ∀ tail, tail.length ≤ 1 → NiceTail tail →
    decRun .ascii { rest := cw.drop pre.length ++ tail, eaten := pre.length, out := out0, ecis := [] } =
    decRun .ascii { rest := tail, eaten := cw.length, out := out0 ++ body.take pos, ecis := [] }

/-- the situations the encoder can be in between two calls of a mode encoder -/
inductive Phase (e : Bool) (pre out0 : List Nat) (list : List Sym) (body : List Nat) (s : St) : Prop where
  | normal (sync : Sync pre out0 body s.cw s.pos) (pend : Pending s) (plan : PlanOKE body s.plan)
      (more : s.newMode ≠ none → s.hasMore = true)
  /-- a run ended without UNLATCH: exactly one ASCII codeword is still to come and fills the symbol -/
  | endgame (more : s.hasMore = true) (sync : SyncEnd pre out0 body s.cw s.pos) (mode : s.mode = .ascii)
      (plan : s.plan = [(0, .ascii)]) (nm : s.newMode = none) (one : asciiSize (body.drop s.pos) ≤ 1)
      (fit : ExactFit list (s.cw.length + asciiSize (body.drop s.pos)))
  | done (nomore : s.hasMore = false) (pfx : s.cw.take pre.length = pre)
      (dec : ∃ e, decRun .ascii { rest := s.cw.drop pre.length, eaten := pre.length, out := out0, ecis := [] } =
        .ok { rest := [], eaten := e, out := out0 ++ body, ecis := [] }) (fit : ExactFit list s.cw.length)
  /-- an EDIFACT run of complete quadruples handed the last (at most four) characters to ASCII: at
  most two more codewords fit into the symbol, so the decoder leaves EDIFACT mode without UNLATCH -/
  | ediAscii (he : e = true) (more : s.hasMore = true) (len : pre.length ≤ s.cw.length) (pfx : s.cw.take pre.length = pre)
      (sync : ∀ tail, tail.length ≤ 2 →
        decRun .ascii { rest := s.cw.drop pre.length ++ tail, eaten := pre.length, out := out0, ecis := [] } =
        decRun .ascii { rest := tail, eaten := s.cw.length, out := out0 ++ body.take s.pos, ecis := [] })
      (mode : s.mode = .ascii) (plan : s.plan = [(0, .ascii)]) (nm : s.newMode = none)
      (ok : AsciiEndOK list s.cw.length (body.drop s.pos))
  /-- everything is written (behind an EDIFACT run); whatever padding the symbol needs decodes well -/
  | final (he : e = true) (nomore : s.hasMore = false) (mode : s.mode = .ascii) (len : pre.length ≤ s.cw.length)
      (pfx : s.cw.take pre.length = pre)
      (dec : ∀ S, firstBigEnough list s.cw.length = some S →
        ∃ ef, decRun .ascii { rest := s.cw.drop pre.length ++ DM.Props.C04.padsOf s.cw.length (dataCw S - s.cw.length),
                              eaten := pre.length, out := out0, ecis := [] } =
          .ok { rest := [], eaten := ef, out := out0 ++ body, ecis := [] })

theorem headOK_asciiSeg {X chunk : List Nat} (h : AsciiSeg X chunk) : HeadOK X := by
  intro c hc
  cases X with
  | nil => simp at hc
  | cons x t =>
    simp only [List.head?_cons, Option.mem_def, Option.some.injEq] at hc
    subst hc
    have := h.1 x (by simp)
    exact ⟨this.2.2.1, this.2.2.2.1, this.2.2.2.2⟩

/-- invariant of the encoder's main loop, for a run behind the prefix codewords `pre` (for which the decoder has
put `out0` into its output); `hd`: the first codeword behind `pre` is none that `decode_parts` looks at before its
main loop -/
structure MI (e : Bool) (pre out0 : List Nat) (list : List Sym) (body : List Nat) (s : St) : Prop where
  inp : s.input = body
  lst : s.list = list
  le : s.pos ≤ body.length
  hd : HeadOK (s.cw.drop pre.length)
  phase : Phase e pre out0 list body s
  noE : e = false → NE (key s)

theorem niceTail_cons (c : Nat) (t : List Nat) (h : c ≠ 254) : NiceTail (c :: t) := by
  unfold NiceTail; simpa using h

theorem headOK_extend {pre c0 X : List Nat} (hpl : pre.length ≤ c0.length) (hc0 : HeadOK (c0.drop pre.length))
    (hX : HeadOK X) : HeadOK ((c0 ++ X).drop pre.length) := by
  rw [List.drop_append_of_le_length hpl]; exact headOK_append hc0 hX

theorem niceTail_pads (a b : Nat) : NiceTail (DM.Props.C04.padsOf a b) := by
  unfold NiceTail DM.Props.C04.padsOf
  split <;> simp

section
variable {T : List Nat → Prop} {pre out0 body cw : List Nat} {pos : Nat}

theorem _root_.DM.Lemmas.EncRT.SyncT.syncEnd (hs : SyncT T pre out0 body cw pos) (hT : ∀ t, t.length ≤ 1 → NiceTail t → T t) :
    SyncEnd pre out0 body cw pos := ⟨hs.1, hs.2.1, fun tail hl ht => hs.2.2 tail (hT tail hl ht)⟩

theorem SyncEnd.syncT (hs : SyncEnd pre out0 body cw pos) :
    SyncT (fun t => t.length ≤ 1 ∧ NiceTail t) pre out0 body cw pos := ⟨hs.1, hs.2.1, fun tail ht => hs.2.2 tail ht.1 ht.2⟩

theorem _root_.DM.Lemmas.EncRT.SyncT.padded (hs : SyncT T pre out0 body cw pos) (hpos : body.length ≤ pos) (n : Nat)
    (hT : T (DM.Props.C04.padsOf cw.length n)) :
    ∃ ef, decRun .ascii { rest := cw.drop pre.length ++ DM.Props.C04.padsOf cw.length n, eaten := pre.length,
                          out := out0, ecis := [] } = .ok { rest := [], eaten := ef, out := out0 ++ body, ecis := [] } := by
  obtain ⟨ef, hp⟩ := DM.Props.C04.decRun_pads cw.length n (out0 ++ body) []
  exact ⟨ef, by rw [hs.2.2 _ hT, List.take_of_length_le hpos]; exact hp⟩

theorem _root_.DM.Lemmas.EncRT.SyncT.asciiRest (hs : SyncT T pre out0 body cw pos) (hb : ByteList body) :
    SyncT (fun t => T (asciiEnc (body.drop pos) ++ t)) pre out0 body (cw ++ asciiEnc (body.drop pos)) body.length :=
  hs.extend ((asciiSeg_Seg (asciiSeg_enc _ (hb.drop _)) _).mono fun _ _ => trivial)
    (by rw [List.take_append_drop, List.take_length]) fun _ h => h

end

theorem tend_MI (e : Bool) (pre out0 : List Nat) (list : List Sym) (body : List Nat) (p0 : Nat) (c0 : List Nat) (latch : Nat) (hl : latch ≠ 254)
    (hl2 : latch ≠ 232 ∧ latch ≠ 236 ∧ latch ≠ 237) (hc0 : HeadOK (c0.drop pre.length))
    (s' : St) (hsync : Sync pre out0 body c0 p0) (h : TEnd list body p0 c0 latch s') (hne : e = false → NE (key s')) :
    MI e pre out0 list body s' := by
  obtain ⟨X, p, un, hsd, hp0, hp, hcw, hpos, hin, hli, hctl, hex⟩ := h.out
  have hcw' : s'.cw = c0 ++ (latch :: (X ++ (if un then [254] else []))) := by rw [hcw]; simp
  have hs : SyncT (TripleTail un) pre out0 body s'.cw s'.pos := by
    rw [hcw', hpos]
    exact SyncT.extend hsync (segDec_iff.mp hsd un c0.length) (take_seg body p0 p hp0) fun t _ => niceTail_cons latch _ hl
  refine ⟨hin, hli, by rw [hpos]; exact hp, by rw [hcw']; exact headOK_extend hsync.1 hc0 (headOK_cons latch _ hl2), ?_, hne⟩
  cases un with
  | true =>
    have hs : Sync pre out0 body s'.cw s'.pos := hs.mono fun _ ht => ⟨ht, nofun⟩
    rcases hctl with ⟨a1, a2, a3⟩ | ⟨_, a2, a3, a4⟩ | ⟨_, a2⟩
    · exact .normal hs (Or.inl ⟨a1, a3⟩) (by rw [a2]; exact planOKE_ascii body)
        (fun hne => absurd a3 hne)
    · exact .normal hs a3 a4 (fun _ => a2)
    · cases a2
  | false =>
    obtain ⟨hone, hfit⟩ := hex rfl
    rw [← hpos] at hone hfit
    by_cases hmore : s'.hasMore = true
    · rcases hctl with ⟨a1, a2, a3⟩ | ⟨a1, _⟩ | ⟨a1, _⟩
      · exact .endgame hmore (hs.syncEnd fun _ hlen ht => ⟨ht, fun _ => hlen⟩) a1 a2 a3 hone hfit
      · cases a1
      · exfalso
        have := of_decide_eq_true hmore
        rw [hpos, hin, a1] at this
        omega
    · have hmf : s'.hasMore = false := by simpa using hmore
      have hposl : body.length ≤ s'.pos := by
        have := of_decide_eq_false hmf
        rw [hin] at this
        omega
      rw [List.drop_eq_nil_of_le hposl] at hfit
      exact .done hmf hs.2.1 ⟨_, hs.done ⟨nofun, fun _ => Nat.zero_le _⟩ hposl⟩ hfit

theorem bend_MI (e : Bool) (pre out0 : List Nat) (list : List Sym) (body : List Nat) (hb : ByteList body) (p0 : Nat) (c0 : List Nat)
    (hc0 : HeadOK (c0.drop pre.length))
    (s' : St) (hsync : Sync pre out0 body c0 p0) (h : BEnd list body p0 c0 s') (hne : e = false → NE (key s')) :
    MI e pre out0 list body s' := by
  obtain ⟨p, toEnd, hp0, hp, hcw, hpos, hin, hli, hte, htf, hctl⟩ := h.out
  have hcw' : s'.cw = c0 ++ (231 :: randFrom (c0.length + 2) (b256Hdr (seg body p0 p) toEnd ++ seg body p0 p)) := by
    rw [hcw]; simp
  have hs : SyncT (B256OK (seg body p0 p) toEnd) pre out0 body s'.cw s'.pos := by
    rw [hcw', hpos]
    exact SyncT.extend hsync (b256_Seg (seg body p0 p) toEnd c0.length) (take_seg body p0 p (by omega))
      fun t _ => niceTail_cons 231 _ (by omega)
  refine ⟨hin, hli, by rw [hpos]; exact hp,
    by rw [hcw']; exact headOK_extend hsync.1 hc0 (headOK_cons 231 _ (by omega)), ?_, hne⟩
  cases toEnd with
  | false =>
    have hs : Sync pre out0 body s'.cw s'.pos := hs.mono fun _ _ => ⟨seg_bytes body hb p0 p, by
      simp only [Bool.false_eq_true, ↓reduceIte]
      have := seg_length body p0 p (by omega) hp
      exact ⟨by omega, htf rfl⟩⟩
    rcases hctl with ⟨a1, a2, a3, _⟩ | ⟨_, a2, a3, a4⟩
    · exact .normal hs (Or.inl ⟨a1, a3⟩) (by rw [a2]; exact planOKE_ascii body)
        (fun hne => absurd a3 hne)
    · exact .normal hs a3 a4 (fun _ => a2)
  | true =>
    obtain ⟨hposl, hfit⟩ := hte rfl
    exact .done (by simp [St.hasMore, hpos, hin, hposl]) hs.2.1
      ⟨_, hs.done ⟨seg_bytes body hb p0 p, by simp⟩ (by omega)⟩ hfit

theorem edi_sync2 {pre out0 body c0 : List Nat} {p0 : Nat} (q : Nat) (hsync : Sync pre out0 body c0 p0)
    (hc : EdiChars (bE body p0)) (hq : p0 + 4 * q ≤ body.length) :
    SyncT (fun t => t.length ≤ 2) pre out0 body (cwE body p0 c0 q) (p0 + 4 * q) := by
  have hlen : 4 * q ≤ (bE body p0).length := by simp only [bE, List.length_drop]; omega
  unfold cwE
  rw [ediC_groups _ q hlen]
  exact (SyncT.extend hsync (edifact_Seg ((bE body p0).take (4 * q)) false c0.length) (List.take_add ..).symm
    fun _ _ => niceTail_cons 240 _ (by omega)).mono fun t ht =>
      ⟨fun x hx => hc x (List.mem_of_mem_take hx), by
        simp only [Bool.false_eq_true, ↓reduceIte, List.length_take]
        exact ⟨by omega, ht⟩⟩

theorem edi_unlatch {pre out0 body c0 : List Nat} {p0 : Nat} (q : Nat) (hsync : Sync pre out0 body c0 p0)
    (hc : EdiChars (bE body p0)) (hq : p0 + 4 * q ≤ body.length) (hr : (restE body p0 q).length ≤ 3) :
    SyncT (fun pads => (ediLast (restE body p0 q)).length + pads.length ≥ 3) pre out0 body
      (cwE body p0 c0 q ++ ediLast (restE body p0 q)) body.length := by
  have hblen : (bE body p0).length = body.length - p0 := by simp only [bE, List.length_drop]
  have hrl : (bE body p0).length - 4 * q ≤ 3 := by
    have := hr
    simp only [restE, List.length_drop] at this
    exact this
  have hq4 : (bE body p0).length / 4 = q := by omega
  unfold cwE restE
  rw [List.append_assoc, ediC_last _ q (by omega) hrl]
  exact (SyncT.extend hsync (edifact_Seg (bE body p0) true c0.length) (by rw [bE, List.take_append_drop, List.take_length])
    fun _ _ => niceTail_cons 240 _ (by omega)).mono fun t ht => ⟨hc, by simp only [↓reduceIte]; rw [hq4]; exact ht⟩

theorem ascii_end_dec {pre out0 : List Nat} {list : List Sym} {body : List Nat} (hb : ByteList body) {cw cw' : List Nat} {pos : Nat}
    (sync : SyncT (fun t => t.length ≤ 2) pre out0 body cw pos)
    (ok : AsciiEndOK list cw.length (body.drop pos)) (hcw' : cw' = cw ++ asciiEnc (body.drop pos))
    (S : Sym) (hS : firstBigEnough list cw'.length = some S) :
    ∃ ef, decRun .ascii { rest := cw'.drop pre.length ++ DM.Props.C04.padsOf cw'.length (dataCw S - cw'.length),
                          eaten := pre.length, out := out0, ecis := [] } =
      .ok { rest := [], eaten := ef, out := out0 ++ body, ecis := [] } := by
  subst hcw'
  obtain ⟨hr4, hasz, S', hS', hroom⟩ := ok
  have hl2 : (cw ++ asciiEnc (body.drop pos)).length = cw.length + asciiSize (body.drop pos) := by simp [asciiEnc_size]
  refine (sync.asciiRest hb).padded (Nat.le_refl _) _ ?_
  have hSge := SymbolList.fbe_some_ge _ _ _ hS'
  rw [hl2, hS'] at hS
  cases hS
  simp only [List.length_append, length_padsOf, asciiEnc_size]
  omega

theorem eend_MI (pre out0 : List Nat) (list : List Sym) (body : List Nat) (hb : ByteList body) (p0 : Nat) (c0 : List Nat)
    (hc0 : HeadOK (c0.drop pre.length)) (s' : St) (hsync : Sync pre out0 body c0 p0) (hc : EdiChars (bE body p0))
    (h : EEnd list body p0 c0 s') : MI true pre out0 list body s' := by
  have hhdE : ∀ q (Y : List Nat), HeadOK ((cwE body p0 c0 q ++ Y).drop pre.length) := fun q Y => by
    rw [cwE, ediC, List.append_assoc]
    exact headOK_extend hsync.1 hc0 (headOK_cons 240 _ (by omega))
  have hhd0 : ∀ q, HeadOK ((cwE body p0 c0 q).drop pre.length) := fun q => List.append_nil (cwE body p0 c0 q) ▸ hhdE q []
  cases h with
  | ascii q hq ok eq =>
    subst eq
    rw [restE_eq] at ok
    have hs := edi_sync2 q hsync hc hq
    refine ⟨rfl, rfl, hq, hhd0 q, ?_, fun he => by cases he⟩
    by_cases hmore : (stAscii list body (p0 + 4 * q) (cwE body p0 c0 q)).hasMore = true
    · exact .ediAscii rfl hmore hs.1 hs.2.1 hs.2.2 rfl rfl rfl ok
    · have hmf : (stAscii list body (p0 + 4 * q) (cwE body p0 c0 q)).hasMore = false := by simpa using hmore
      refine .final rfl hmf rfl hs.1 hs.2.1 fun S hS => ?_
      have hnil : body.drop (p0 + 4 * q) = [] := by
        have := of_decide_eq_false hmf
        simp only [stAscii] at this
        exact List.drop_eq_nil_of_le (Nat.le_of_not_lt this)
      exact ascii_end_dec hb hs ok (by simp [stAscii, hnil, asciiEnc]) S hS
  | unlatch q hq hr three eq =>
    subst eq
    have hs := edi_unlatch q hsync hc hq hr
    refine ⟨rfl, rfl, Nat.le_refl _, hhdE q _, ?_, fun he => by cases he⟩
    refine .final rfl (by simp [St.hasMore, stAscii]) rfl hs.1 hs.2.1 fun S hS => ?_
    simp only [stAscii] at hS ⊢
    have hthree := three S hS
    exact hs.padded (Nat.le_refl _) _ (by rw [length_padsOf, List.length_append]; omega)
  | exact q hq fit cw pos inp lst =>
    have hs := edi_sync2 q hsync hc (Nat.le_of_eq hq)
    rw [← cw] at hs
    refine ⟨inp, lst, by rw [pos]; exact Nat.le_refl _, by rw [cw]; exact hhd0 q, ?_, fun he => by cases he⟩
    exact .done (by simp [St.hasMore, pos, inp]) hs.2.1 ⟨_, hs.done (Nat.zero_le _) (by omega)⟩ (by rw [cw]; exact fit)

theorem step_MI (e : Bool) (pre out0 : List Nat) (list : List Sym) (body : List Nat) (hb : ByteList body) (s s' : St)
    (mi : MI e pre out0 list body s)
    (hmore : s.hasMore = true) (h : encodeMode (latched s) = .ok s') : MI e pre out0 list body s' := by
  have hlt : s.pos < body.length := by
    have := of_decide_eq_true hmore
    rw [mi.inp] at this
    exact this
  have hne' : e = false → NE (key s') := fun he =>
    q_encodeMode ne_closed _ _ h (q_latched ne_closed s (mi.noE he))
  cases mi.phase with
  | done nomore _ _ _ => exact absurd (nomore.symm.trans hmore) Bool.false_ne_true
  | final _ nomore _ _ _ _ => exact absurd (nomore.symm.trans hmore) Bool.false_ne_true
  | ediAscii he _ len pfx sync mode plan nm ok =>
    cases asciiRest_call nm mode plan (by rw [mi.inp]; exact mi.le) h
    have hrest : s.rest = body.drop s.pos := by simp [St.rest, mi.inp]
    have hs : SyncT (fun t => t.length ≤ 2) pre out0 body s.cw s.pos := ⟨len, pfx, sync⟩
    have hs' := hs.asciiRest hb
    rw [← hrest] at hs'
    exact ⟨mi.inp, mi.lst, by simp [mi.inp], headOK_extend len mi.hd (headOK_asciiSeg (asciiSeg_enc _ (hrest ▸ hb.drop s.pos))),
      .final he (by simp [St.hasMore]) mode hs'.1 hs'.2.1 fun S hS => ascii_end_dec hb hs ok (by simp only [hrest]) S hS, hne'⟩
  | endgame _ sync mode plan nm one fit =>
    cases asciiRest_call nm mode plan (by rw [mi.inp]; exact mi.le) h
    have hrest : s.rest = body.drop s.pos := by simp [St.rest, mi.inp]
    have hseg := asciiSeg_enc _ (hb.drop s.pos)
    have hs' := sync.syncT.asciiRest hb
    rw [← hrest] at hs' hseg one fit
    refine ⟨mi.inp, mi.lst, by simp [mi.inp], headOK_extend sync.1 mi.hd (headOK_asciiSeg hseg),
      .done (by simp [St.hasMore]) hs'.2.1 ⟨_, hs'.done ⟨?_, ?_⟩ (by simp)⟩
        (by simpa [asciiEnc_size] using fit), hne'⟩
    · simpa [asciiEnc_size] using one
    · exact niceTail_append (fun c hc => (hseg.1 c (List.mem_of_mem_head? hc)).1) nofun
  | normal sync pend plan more =>
    have htend : ∀ l, l = 230 ∨ l = 239 ∨ l = 238 → TEnd list body s.pos s.cw l s' → MI e pre out0 list body s' := fun l hl hend =>
      tend_MI e pre out0 list body s.pos s.cw l (by omega) (by omega) mi.hd s' sync hend hne'
    cases pending_call hb mi.inp mi.lst hmore pend plan h with
    | tend l hl _ out => exact htend l hl out
    | bend _ out => exact bend_MI e pre out0 list body hb s.pos s.cw mi.hd s' sync out hne'
    | eend hm _ hcE out =>
      cases e with
      | false => exact absurd hm (mi.noE rfl).2.1
      | true => exact eend_MI pre out0 list body hb s.pos s.cw mi.hd s' sync hcE out
    | ascii hnm hmode h =>
      have hco := encodeMode_pend mi.inp plan ‹encodeMode (latched s) = .ok s'›
      rw [hmode] at hco
      obtain ⟨X, c1, c2, c3, c4, c5, c6⟩ := asciiLoop_gen _ s s' h (by rw [mi.inp]; exact hb)
      have hin' : s'.input = body := hco.input
      have hle' : s'.pos ≤ body.length := by
        have := asciiLoop_pos_le _ s s' h (by rw [mi.inp]; exact mi.le)
        rw [mi.inp] at this
        exact this
      refine ⟨hin', c4.2.trans mi.lst, hle',
        by rw [c1, List.drop_append_of_le_length sync.1]; exact headOK_append mi.hd (headOK_asciiSeg c2), ?_, hne'⟩
      have hs : Sync pre out0 body s'.cw s'.pos := by
        rw [c1]
        exact sync_ascii sync c2 (by rw [mi.inp]; exact take_seg body s.pos s'.pos c3)
      exact .normal hs hco.pending_ascii hco.plan (encodeMode_more ‹encodeMode (latched s) = .ok s'›)

theorem mainLoop_MI (e : Bool) (pre out0 : List Nat) (list : List Sym) (body : List Nat) (hb : ByteList body) :
    ∀ (f : Nat) (s : St) (k : Nat) (sE : St), Enc.mainLoop f s k = .ok sE → MI e pre out0 list body s →
      MI e pre out0 list body sE ∧ sE.hasMore = false :=
  mainLoop_ind (step_MI e pre out0 list body hb)

theorem padded_fit {list : List Sym} {cw' cw : List Nat} {b : Bool} {sym : Sym} (fit : ExactFit list cw'.length)
    (hsym : firstBigEnough list cw'.length = some sym) (hpad : addPadding cw' b (dataCw sym) = some cw) : cw = cw' := by
  obtain ⟨S, f1, f2⟩ := fit
  rw [f1] at hsym
  cases hsym
  rw [addPadding_exact _ _ _ f2.symm] at hpad
  exact (Option.some.inj hpad).symm

theorem padded_ascii {list : List Sym} {cw' cw : List Nat} {sym : Sym}
    (hsym : firstBigEnough list cw'.length = some sym) (hpad : addPadding cw' (EMode.ascii == .ascii) (dataCw sym) = some cw) :
    cw = cw' ++ DM.Props.C04.padsOf cw'.length (dataCw sym - cw'.length) := by
  have hbeq : (EMode.ascii == EMode.ascii) = true := by decide
  rw [hbeq, addPadding_pads _ _ _ (SymbolList.fbe_some_ge list _ sym hsym) (Or.inl rfl)] at hpad
  exact (Option.some.inj hpad).symm

theorem mainLoop_decRun (e : Bool) (pre out0 : List Nat) (list : List Sym) (body cw : List Nat) (hb : ByteList body)
    (f : Nat) (s0 sE : St) (k : Nat) (sym : Sym) (mi0 : MI e pre out0 list body s0)
    (hmain : Enc.mainLoop f s0 k = .ok sE) (hsym : firstBigEnough list sE.cw.length = some sym)
    (hpad : addPadding sE.cw (sE.mode == .ascii) (dataCw sym) = some cw) :
    cw.take pre.length = pre ∧ HeadOK (cw.drop pre.length) ∧
    ∃ ef, decRun .ascii { rest := cw.drop pre.length, eaten := pre.length, out := out0, ecis := [] } =
      .ok { rest := [], eaten := ef, out := out0 ++ body, ecis := [] } := by
  obtain ⟨miE, hmf⟩ := mainLoop_MI e pre out0 list body hb f s0 k sE hmain mi0
  have hposl : sE.pos = body.length := by
    have := of_decide_eq_false hmf
    rw [miE.inp] at this
    have := miE.le
    omega
  -- the encoder ends in ASCII mode and pads: enough to know what the padded codewords decode to
  have padded : sE.mode = .ascii → pre.length ≤ sE.cw.length → sE.cw.take pre.length = pre →
      (∃ ef, decRun .ascii { rest := sE.cw.drop pre.length ++ DM.Props.C04.padsOf sE.cw.length (dataCw sym - sE.cw.length),
                             eaten := pre.length, out := out0, ecis := [] } =
        .ok { rest := [], eaten := ef, out := out0 ++ body, ecis := [] }) →
      cw.take pre.length = pre ∧ HeadOK (cw.drop pre.length) ∧
      ∃ ef, decRun .ascii { rest := cw.drop pre.length, eaten := pre.length, out := out0, ecis := [] } =
        .ok { rest := [], eaten := ef, out := out0 ++ body, ecis := [] } := by
    intro mode len pfx dec
    rw [mode] at hpad
    rw [padded_ascii hsym hpad]
    rw [List.take_append_of_le_length len, List.drop_append_of_le_length len]
    refine ⟨pfx, headOK_append miE.hd ?_, dec⟩
    unfold HeadOK DM.Props.C04.padsOf
    split <;> simp
  cases miE.phase with
  | endgame more _ _ _ _ _ _ => exact absurd (hmf.symm.trans more) Bool.false_ne_true
  | ediAscii _ more _ _ _ _ _ _ _ => exact absurd (hmf.symm.trans more) Bool.false_ne_true
  | final _ _ mode len pfx dec => exact padded mode len pfx (dec sym hsym)
  | done _ pfx dec fit =>
    rw [padded_fit fit hsym hpad]
    exact ⟨pfx, miE.hd, dec⟩
  | normal sync pend _ more =>
    exact padded (ascii_at_end pend.latch more hmf) sync.1 sync.2.1 (SyncT.padded sync (by omega) _ (niceTail_pads _ _))

theorem run_decRun_E (pre out0 : List Nat) (list : List Sym) (body cw : List Nat) (plan : List (Nat × EMode)) (sym : Sym)
    (hb : ByteList body) (hplan : PlanOKE body plan) (h : run list pre body plan = .ok (cw, sym)) :
    cw.take pre.length = pre ∧ HeadOK (cw.drop pre.length) ∧
    ∃ e, decRun .ascii { rest := cw.drop pre.length, eaten := pre.length, out := out0, ecis := [] } =
      .ok { rest := [], eaten := e, out := out0 ++ body, ecis := [] } := by
  obtain ⟨sE, hmain, hsym, hpad⟩ := run_unfoldP list pre body cw plan sym h
  exact mainLoop_decRun true pre out0 list body cw hb _ _ sE 0 sym
    ⟨rfl, rfl, Nat.zero_le _, by intro c hc; simp at hc,
      .normal (sync_init pre out0 body) (Or.inl ⟨rfl, rfl⟩) hplan (fun hne => absurd rfl hne), fun he => by cases he⟩
    hmain hsym hpad

theorem run_decRun (pre out0 : List Nat) (list : List Sym) (body cw : List Nat) (plan : List (Nat × EMode)) (sym : Sym)
    (hb : ByteList body) (hplan : PlanOK plan) (h : run list pre body plan = .ok (cw, sym)) :
    cw.take pre.length = pre ∧ HeadOK (cw.drop pre.length) ∧
    ∃ e, decRun .ascii { rest := cw.drop pre.length, eaten := pre.length, out := out0, ecis := [] } =
      .ok { rest := [], eaten := e, out := out0 ++ body, ecis := [] } :=
  run_decRun_E pre out0 list body cw plan sym hb (planOKE_of_planOK body hplan) h

/-- **Round trip at the level of `decode_parts`, behind any header** (none, FNC1 in first position, Macro 05 / 06, an ECI
designator): output, spans and FNC1 flag. `decode_data` and `decode_str` are read off it. -/
theorem parts_roundtrip_E {pre out0 : List Nat} {mac fnc1 : Bool} {sp : Bool → List (Nat × Nat)}
    (H : Header pre out0 mac fnc1 sp) (list : List Sym) (body cw : List Nat) (plan : List (Nat × EMode)) (sym : Sym)
    (hb : ByteList body) (hplan : PlanOKE body plan) (h : run list pre body plan = .ok (cw, sym)) (raw : Bool) :
    ∃ e, decodeParts cw raw =
      partsFinish mac fnc1 (.ok { rest := [], eaten := e, out := out0 ++ body, ecis := sp raw }) := by
  obtain ⟨hpfx, hhd, e, hdec⟩ := run_decRun_E pre out0 list body cw plan sym hb hplan h
  refine ⟨e, ?_⟩
  conv => lhs; rw [← List.take_append_drop pre.length cw, hpfx]
  rw [decodeParts_header H hhd raw, EciFrame.decRun_spans hdec]

theorem header_roundtrip_E {pre out0 : List Nat} {mac fnc1 : Bool} {sp : Bool → List (Nat × Nat)}
    (H : Header pre out0 mac fnc1 sp) (hs : sp true = []) (list : List Sym)
    (body cw : List Nat) (plan : List (Nat × EMode)) (sym : Sym) (hb : ByteList body) (hplan : PlanOKE body plan)
    (h : run list pre body plan = .ok (cw, sym)) :
    decodeData cw = .ok (if mac then out0 ++ body ++ macroTrail else out0 ++ body) := by
  obtain ⟨e, hp⟩ := parts_roundtrip_E H list body cw plan sym hb hplan h true
  unfold decodeData
  rw [hp, hs]
  cases mac <;> rfl

theorem general_roundtrip_E (list : List Sym) (body cw : List Nat) (plan : List (Nat × EMode)) (sym : Sym)
    (hb : ByteList body) (hplan : PlanOKE body plan) (h : run list [] body plan = .ok (cw, sym)) :
    decodeData cw = .ok body :=
  header_roundtrip_E .none rfl list body cw plan sym hb hplan h

/-- the plan latches at the first character, whatever the length of the message (also within the last four
characters, which `PlanOKE` excludes for later latches: nothing is written yet that could go stale),
and the main-loop invariant holds from the state with that latch pending. -/
theorem pure_roundtrip (m : EMode) (l : Nat) (hl : m.latch = some l) (list : List Sym) (body cw : List Nat) (sym : Sym)
    (hb : ByteList body) (hc : m = .edifact → EdiChars body)
    (h : run list [] body [(body.length, m), (0, m)] = .ok (cw, sym)) : decodeData cw = .ok body := by
  by_cases hne : body = []
  · subst hne
    exact general_roundtrip_E list [] cw _ sym hb (planOKE_zero [] m _ (by simp)) h
  obtain ⟨sE, k1, hm1, hsym, hpad⟩ := run_pure_first hne hl h
  have hlen : 0 < body.length := List.length_pos_iff.mpr hne
  obtain ⟨_, hhd, ef, hdec⟩ := mainLoop_decRun true [] [] list body cw hb _ _ sE k1 sym
    ⟨rfl, rfl, Nat.zero_le _, by intro c hc; simp at hc,
      .normal (sync_init [] [] body)
        (Or.inr ⟨l, hl, rfl, fun (hm : m = .edifact) => ⟨by simp [hm], by simpa [St.charsLeft] using hc hm⟩⟩)
        (planOKE_zero body m _ (by simp)) (fun _ => by simp [St.hasMore, hlen]), fun he => by cases he⟩
    hm1 hsym hpad
  exact decodeData_header .none rfl hhd hdec

theorem general_roundtrip (list : List Sym) (body cw : List Nat) (plan : List (Nat × EMode)) (sym : Sym)
    (hb : ByteList body) (hplan : PlanOK plan) (h : run list [] body plan = .ok (cw, sym)) :
    decodeData cw = .ok body :=
  general_roundtrip_E list body cw plan sym hb (planOKE_of_planOK body hplan) h

theorem fnc1_roundtrip (list : List Sym) (body cw : List Nat) (plan : List (Nat × EMode)) (sym : Sym)
    (hb : ByteList body) (hplan : PlanOK plan) (h : run list [232] body plan = .ok (cw, sym)) :
    decodeData cw = .ok body :=
  header_roundtrip_E .fnc1 rfl list body cw plan sym hb (planOKE_of_planOK body hplan) h

theorem macro_roundtrip (six : Bool) (list : List Sym) (body cw : List Nat) (plan : List (Nat × EMode)) (sym : Sym)
    (hb : ByteList body) (hplan : PlanOK plan) (h : run list [if six then 237 else 236] body plan = .ok (cw, sym)) :
    decodeData cw = .ok ((if six then macroHead06 else macroHead05) ++ body ++ macroTrail) := by
  cases six
  · exact header_roundtrip_E .m05 rfl list body cw plan sym hb (planOKE_of_planOK body hplan) h
  · exact header_roundtrip_E .m06 rfl list body cw plan sym hb (planOKE_of_planOK body hplan) h

end DM.Lemmas.MainRT
