import DM.Lemmas.Blocks
import DM.Lemmas.Couple
/-!
Every mode's closed form follows a fresh plan (`newPlan m (ctxAt body list p w)`: created at position `p` behind `w`
codewords) along `StepsTo` with an invariant of the mode's own plan, indexed by the number of characters read
(`fresh_inv`: position, symbol list, mode and `extra` of the plan come with the induction, as `PlanInv.Core`).
`SwitchPlan m` and `EndPlan m` are what the compositions along the history of a plan (`hist_extra`, `final_cost_ge`) need
of a mode: the price of leaving it at a planned switch, and a lower bound of its price when it runs to the end of the data.
Namespace: `CoupleSeg`.
-/
namespace DM.Lemmas.CoupleSeg
open DM.Model DM.Model.Plan DM.Model.Enc DM.Lemmas.Couple

theorem stepsTo_induct {I : Nat → GPlan → Prop}
    (hstep : ∀ t g g1 r, I t g → g.step = .ok (some (g1, r)) → r.end = false → I (t + 1) g1) :
    ∀ (k t : Nat) (g gk : GPlan), I t g → StepsTo k g gk → I (t + k) gk
  | 0, _, _, _, h, hs => hs ▸ h
  | k + 1, t, _, gk, h, ⟨g1, r, h1, h2, h3⟩ =>
    Nat.add_right_comm t k 1 ▸ stepsTo_induct hstep k (t + 1) g1 gk (hstep t _ g1 r h h1 h2) h3

/-- The step hypothesis hands out `Core` (hence `CtxAt`) and `p + t < body.length`, so the invariants of the modes need
not speak of data, symbol list and position. -/
theorem stepsTo_inv {body : List Nat} {list : List Sym} {I : Nat → PlanImpl → Prop} {p : Nat}
    (hstep : ∀ t (g g1 : GPlan) r, PlanInv.Core body list (p + t) g.plan → p + t < body.length → I t g.plan →
      g.step = .ok (some (g1, r)) → r.end = false → I (t + 1) g1.plan)
    (k t : Nat) (g gk : GPlan) (hc : PlanInv.Core body list (p + t) g.plan) (h : I t g.plan) (hst : StepsTo k g gk) :
    I (t + k) gk.plan ∧ PlanInv.Core body list (p + (t + k)) gk.plan ∧ gk.current = g.current ∧
      gk.switches = g.switches ∧ gk.extra = g.extra ∧ p + (t + k) ≤ body.length := by
  refine stepsTo_induct (I := fun t' g' => I t' g'.plan ∧ PlanInv.Core body list (p + t') g'.plan ∧
      g'.current = g.current ∧ g'.switches = g.switches ∧ g'.extra = g.extra ∧ p + t' ≤ body.length)
    ?_ k t g gk ⟨h, hc, rfl, rfl, rfl, hc.2.1⟩ hst
  intro t' g' g1 r ⟨a, b, c, d, e, _⟩ h1 h2
  obtain ⟨e2, e3, e4, e5, e6, _⟩ := PlanInv.step_some_spec b h1
  have hlt := PlanInv.lt_of_end_false e6 h2
  rw [show PlanInv.nxt body (p + t') = p + (t' + 1) by simp [PlanInv.nxt, hlt, Nat.add_assoc]] at e5
  exact ⟨hstep t' g' g1 r b hlt a h1 h2, e5, e4.trans c, e2.trans d, e3.trans e, e5.2.1⟩

theorem fresh_inv {body : List Nat} {list : List Sym} {I : Nat → PlanImpl → Prop} {p w k : Nat} {m : EMode} {g0 gk : GPlan}
    (hstep : ∀ t (g g1 : GPlan) r, PlanInv.Core body list (p + t) g.plan → p + t < body.length → I t g.plan →
      g.step = .ok (some (g1, r)) → r.end = false → I (t + 1) g1.plan)
    (hp : p ≤ body.length) (hg0 : g0.plan = newPlan m (ctxAt body list p w)) (h0 : I 0 (newPlan m (ctxAt body list p w)))
    (hst : StepsTo k g0 gk) : I k gk.plan ∧ PlanInv.Core body list (p + k) gk.plan ∧ gk.extra = g0.extra := by
  have hc := (PlanInv.newPlan_core (data := body) (list := list) m (ctxAt body list p w) ⟨rfl, rfl, rfl⟩ hp).1
  have := stepsTo_inv hstep k 0 g0 gk (hg0 ▸ hc) (hg0 ▸ h0) hst
  rw [Nat.zero_add] at this
  exact ⟨this.1, this.2.1, this.2.2.2.2.1⟩

/-- **Planner half of a segment that ends with a planned switch**: the price `add_switches` charges is twelve times the
codewords `write_unlatch` accounts for; a mode other than ASCII accounts for two or more (the main loop's no-progress
counter); and no mode packs more than two characters into a codeword (`max_capacity`, `CoupleGate`).  No encoder state. -/
def SwitchPlan (m : EMode) : Prop :=
  ∀ (body : List Nat) (list : List Sym) (p w k : Nat) (g0 gk : GPlan) (ac : Nat) (ctx' : Ctx),
    p + k < body.length → (1 ≤ k ∨ m = .ascii) →
    g0.plan = newPlan m (ctxAt body list p w) →
    StepsTo k g0 gk → SwitchPoint gk → gk.switchCost = some ac → gk.unlatch = .ok ctx' →
    ac = g0.extra + 12 * (ctx'.written - w) ∧ w ≤ ctx'.written ∧ (m ≠ .ascii → w + 2 ≤ ctx'.written) ∧
      k ≤ 2 * (ctx'.written - w)

/-- **Planner half of the segment that runs to the end of the data.**
What the price is exactly depends on the mode and on the symbol list (`x12_end_plan`, `edi_end_plan`, `plan_end`, …). -/
def EndPlan (m : EMode) : Prop :=
  ∀ (body : List Nat) (list : List Sym) (p w k : Nat) (g0 gk gE : GPlan) (r : StepResult),
    p + k = body.length → 1 ≤ k → g0.plan = newPlan m (ctxAt body list p w) →
    StepsTo k g0 gk → gk.step = .ok (some (gE, r)) → r.end = true →
    g0.extra + 6 * k ≤ gE.cost

/-- the per-character portions of an ASCII tail of `u` characters add up to its whole codewords -/
theorem portion_sum (a u : Nat) (h1 : 1 ≤ u) (h4 : u ≤ 4) : u * (a * (12 / u)) = 12 * a := by
  have h : u = 1 ∨ u = 2 ∨ u = 3 ∨ u = 4 := by omega
  rcases h with rfl | rfl | rfl | rfl <;> simp only [Nat.reduceDiv] <;> omega

end DM.Lemmas.CoupleSeg
