import DM.Model.RSDec
/-
The two judgements on the Reed–Solomon decoder model.  `Safe A x P`: `x` returns a value satisfying
`P`, fails with a non-panic error, or panics at a site allowed by `A`.  `Tot A x P`, its total
counterpart: `x` returns a value satisfying `P` or panics at a site allowed by `A`; it never returns
one of the non-panic errors, and with `A = NoSite` it says `x = .ok a` for some `a` with `P a`.
Namespaces: `RSTotal`, `RSTot`.
-/
namespace DM.Lemmas.RSTotal
open DM.Model DM.Model.RS

def AlgebraicSite (s : String) : Prop :=
  s = "debug_assert eq (3)" ∨ s = "debug_assert eq (4)"

def Safe (A : String → Prop) {α} (x : R α) (P : α → Prop) : Prop :=
  match x with
  | .ok a => P a
  | .error (.panic s) => A s
  | .error _ => True

variable {A : String → Prop}

theorem Safe_pure {α} {a : α} {P : α → Prop} (h : P a) : Safe A (pure a : R α) P := h
theorem Safe_ok {α} {a : α} {P : α → Prop} (h : P a) : Safe A (.ok a : R α) P := h

theorem Safe_bind {α β} {x : R α} {f : α → R β} {P : β → Prop}
    (h : Safe A x (fun a => Safe A (f a) P)) : Safe A (x >>= f) P := by
  cases x with
  | ok a => exact h
  | error e => cases e <;> exact h

theorem Safe_mono {α} {x : R α} {P Q : α → Prop} (h : Safe A x P) (hpq : ∀ a, P a → Q a) :
    Safe A x Q := by
  cases x with
  | ok a => exact hpq a h
  | error e => cases e <;> exact h

theorem Safe_panic {α} {x : R α} {P : α → Prop} (h : Safe A x P) {site : String}
    (he : x = .error (.panic site)) : A site := by
  subst he; exact h

theorem Safe_val {α} {x : R α} {P : α → Prop} (h : Safe A x P) {a : α} (he : x = .ok a) : P a := by
  subst he; exact h

theorem Safe_throw {α} {e : RErr} {P : α → Prop} (h : ∀ s, e = .panic s → A s) :
    Safe A (throw e : R α) P := by
  cases e with
  | panic s => exact h s rfl
  | _ => trivial

theorem Safe_ite {α} {c : Prop} [Decidable c] {t e : R α} {P : α → Prop}
    (ht : c → Safe A t P) (he : ¬c → Safe A e P) : Safe A (if c then t else e) P := by
  split
  · exact ht ‹_›
  · exact he ‹_›

theorem Safe_forIn {α β} (l : List α) (init : β) (f : α → β → R (ForInStep β))
    (I : List α → β → Prop) (Q : β → Prop)
    (h0 : I l init)
    (hstep : ∀ a rest b, a ∈ l → I (a :: rest) b →
      Safe A (f a b) (fun r => match r with | .yield b' => I rest b' | .done b' => Q b'))
    (hfin : ∀ b, I [] b → Q b) : Safe A (forIn l init f) Q := by
  suffices H : ∀ suf pre b, l = pre ++ suf → I suf b → Safe A (forIn suf b f) Q from
    H l [] init rfl h0
  intro suf
  induction suf with
  | nil => intro pre b _ hI; exact hfin b hI
  | cons a rest ih =>
    intro pre b hl hI
    rw [List.forIn_cons]
    apply Safe_bind
    apply Safe_mono (hstep a rest b (by simp [hl]) hI)
    intro r hr
    cases r with
    | done b' => exact hr
    | yield b' => exact ih (pre ++ [a]) b' (by simp [hl]) hr

end DM.Lemmas.RSTotal

namespace DM.Lemmas.RSTot
open DM.Model DM.Model.RS DM.Lemmas DM.Lemmas.RSTotal

def Tot (A : String → Prop) {α} (x : R α) (P : α → Prop) : Prop :=
  match x with
  | .ok a => P a
  | .error (.panic s) => A s
  | .error _ => False

def NoSite : String → Prop := fun _ => False

variable {A : String → Prop}

theorem Tot_pure {α} {a : α} {P : α → Prop} (h : P a) : Tot A (pure a : R α) P := h
theorem Tot_ok {α} {a : α} {P : α → Prop} (h : P a) : Tot A (.ok a : R α) P := h

theorem Tot_bind {α β} {x : R α} {f : α → R β} {P : β → Prop}
    (h : Tot A x (fun a => Tot A (f a) P)) : Tot A (x >>= f) P := by
  cases x with
  | ok a => exact h
  | error e => cases e <;> exact h

theorem Tot_bind_eq {α β} {x : R α} {f : α → R β} {P : β → Prop}
    (h : Tot A x (fun a => x = .ok a → Tot A (f a) P)) : Tot A (x >>= f) P := by
  cases x with
  | ok a => exact h rfl
  | error e => cases e <;> exact h

theorem Tot_mono {α} {x : R α} {P Q : α → Prop} (h : Tot A x P) (hpq : ∀ a, P a → Q a) :
    Tot A x Q := by
  cases x with
  | ok a => exact hpq a h
  | error e => cases e <;> exact h

theorem Tot_and {α} {x : R α} {P Q : α → Prop} (h1 : Tot A x P) (h2 : Tot A x Q) :
    Tot A x (fun a => P a ∧ Q a) := by
  cases x with
  | ok a => exact ⟨h1, h2⟩
  | error e => cases e <;> exact h1

theorem Tot_weaken {B : String → Prop} {α} {x : R α} {P : α → Prop} (h : Tot A x P)
    (hab : ∀ s, A s → B s) : Tot B x P := by
  cases x with
  | ok a => exact h
  | error e =>
    cases e with
    | panic s => exact hab s h
    | _ => exact h

theorem Tot_safe {α} {x : R α} {P : α → Prop} (h : Tot A x P) : Safe A x P := by
  cases x with
  | ok a => exact h
  | error e => cases e <;> first | exact h | trivial

theorem Tot_elim {α} {x : R α} {P : α → Prop} (h : Tot NoSite x P) : ∃ a, x = .ok a ∧ P a := by
  cases x with
  | ok a => exact ⟨a, rfl, h⟩
  | error e => cases e <;> exact absurd h id

theorem Tot_elim_of_noPanic {α} {x : R α} {P : α → Prop} (h : Tot A x P)
    (hp : ∀ s, x ≠ .error (.panic s)) : ∃ a, x = .ok a ∧ P a := by
  cases x with
  | ok a => exact ⟨a, rfl, h⟩
  | error e =>
    cases e with
    | panic s => exact absurd rfl (hp s)
    | _ => exact absurd h id

theorem Tot_val {α} {x : R α} {P : α → Prop} (h : Tot A x P) {a : α} (he : x = .ok a) : P a := by
  subst he; exact h

theorem Tot_throw_panic {α} {site : String} {P : α → Prop} (h : A site) :
    Tot A (throw (RErr.panic site) : R α) P := h

theorem Tot_ite {α} {c : Prop} [Decidable c] {t e : R α} {P : α → Prop}
    (ht : c → Tot A t P) (he : ¬c → Tot A e P) : Tot A (if c then t else e) P := by
  split
  · exact ht ‹_›
  · exact he ‹_›

theorem Tot_forIn {α β} (l : List α) (init : β) (f : α → β → R (ForInStep β))
    (I : List α → β → Prop) (Q : β → Prop)
    (h0 : I l init)
    (hstep : ∀ pre a rest b, l = pre ++ a :: rest → I (a :: rest) b →
      Tot A (f a b) (fun r => match r with | .yield b' => I rest b' | .done b' => Q b'))
    (hfin : ∀ b, I [] b → Q b) : Tot A (forIn l init f) Q := by
  suffices H : ∀ suf pre b, l = pre ++ suf → I suf b → Tot A (forIn suf b f) Q from
    H l [] init rfl h0
  intro suf
  induction suf with
  | nil => intro pre b _ hI; exact hfin b hI
  | cons a rest ih =>
    intro pre b hl hI
    rw [List.forIn_cons]
    apply Tot_bind
    apply Tot_mono (hstep pre a rest b hl hI)
    intro r hr
    cases r with
    | done b' => exact hr
    | yield b' => exact ih (pre ++ [a]) b' (by simp [hl]) hr

theorem Tot_forIn_inv {α β} (l : List α) (init : β) (f : α → β → R (ForInStep β))
    (I : β → Prop) (h0 : I init)
    (hstep : ∀ a, a ∈ l → ∀ b, I b → Tot A (f a b) (fun r => I r.value)) :
    Tot A (forIn l init f) I := by
  apply Tot_forIn l init f (fun _ b => I b) I h0
  · intro pre a rest b hl hI
    apply Tot_mono (hstep a (by simp [hl]) b hI)
    intro r hr
    cases r <;> exact hr
  · intro b h; exact h

end DM.Lemmas.RSTot
