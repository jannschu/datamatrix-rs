import DM.Lemmas.PlanInv
import DM.Lemmas.PruneBy
/-!
Pruning and the answer of the planner's main loop: an accepted permutation log sorts the candidates by cost;
`removeHopelessPlans` rejects the log or keeps at most 36 plans, all of them candidates; `pickBest` picks a cheapest of
the live plans; the switch list of a live plan makes a well-formed plan (`PlanOK`). The induction over the loop itself
is `PlanRounds.optLoop_inv`.
Namespaces: `PlanLoop`, `CoupleReach` (`startPlan`, `finPlan`).
-/
namespace DM.Lemmas.PlanLoop
open DM.Model DM.Model.Plan DM.Model.Enc DM.Lemmas.PlanInv DM.Lemmas.PruneBy

def pkey (p : GPlan) : Nat := modeIndex p.startMode * 6 + modeIndex p.current

theorem modeIndex_lt (m : EMode) : modeIndex m < 6 := by cases m <;> decide

theorem dedupPlans_eq : ∀ (l : List GPlan) (seen : List Nat), dedupPlans l seen = dedupBy pkey l seen := by
  intro l
  induction l with
  | nil => intro seen; rfl
  | cons p ps ih => intro seen; simp only [dedupPlans, dedupBy, ih]; rfl

theorem dominancePlans_eq (first : GPlan) : ∀ l : List GPlan,
    dominancePlans first l = dominanceBy GPlan.cost (fun f s => f.costForSwitchingTo s.current) first l := by
  intro l
  induction l with
  | nil => rfl
  | cons s rest ih => simp only [dominancePlans, dominanceBy, ih]; rfl

theorem phase2Plans_eq : ∀ (f : Nat) (pre l : List GPlan),
    phase2Plans f pre l = phase2By GPlan.cost (fun f s => f.costForSwitchingTo s.current) f pre l := by
  intro f
  induction f with
  | zero => intro pre l; rfl
  | succ f ih => intro pre l; cases l <;> simp only [phase2Plans, phase2By, ih, dominancePlans_eq]

theorem dedupPlans_sublist (l : List GPlan) (seen : List Nat) : (dedupPlans l seen).Sublist l := by
  rw [dedupPlans_eq]; exact dedupBy_sublist ..

theorem dominancePlans_sublist (first : GPlan) (l : List GPlan) : (dominancePlans first l).1.Sublist l := by
  rw [dominancePlans_eq]; exact dominanceBy_sublist ..

theorem dedupPlans_keys (l : List GPlan) (seen : List Nat) :
    ((dedupPlans l seen).map pkey).Nodup ∧ ∀ p ∈ dedupPlans l seen, pkey p ∉ seen := by
  rw [dedupPlans_eq]; exact dedupBy_keys ..

theorem phase2Plans_sublist (f : Nat) (pre l : List GPlan) : (phase2Plans f pre l).Sublist (pre ++ l) := by
  rw [phase2Plans_eq]; exact phase2By_sublist ..

theorem perm_surj (perm : List Nat) (n : Nat) (hlen : perm.length = n) (hall : ∀ x ∈ perm, x < n)
    (hnd : perm.Nodup) : ∀ i, i < n → i ∈ perm := by
  intro i hi
  apply Classical.byContradiction
  intro hni
  have h1 := hnd.length_le_of_subset (l₂ := (List.range n).erase i) (fun x hx =>
    (List.mem_erase_of_ne (by intro h; subst h; exact hni hx)).mpr (List.mem_range.mpr (hall x hx)))
  rw [List.length_erase_of_mem (List.mem_range.mpr hi), List.length_range] at h1
  omega

theorem chain_pairwise : ∀ l : List Nat, ((l.zip l.tail).all fun (a, b) => decide (a ≤ b)) = true →
    l.Pairwise (· ≤ ·) := by
  intro l
  induction l with
  | nil => intro _; exact List.Pairwise.nil
  | cons a t ih =>
    intro h
    cases t with
    | nil => simp
    | cons b t =>
      simp only [List.tail_cons, List.zip_cons_cons, List.all_cons, Bool.and_eq_true, decide_eq_true_eq] at h
      have hp := ih (by simpa using h.2)
      rw [List.pairwise_cons] at hp ⊢
      refine ⟨?_, List.pairwise_cons.mpr hp⟩
      intro x hx
      rcases List.mem_cons.mp hx with rfl | hx
      · exact h.1
      · exact Nat.le_trans h.1 (hp.1 x hx)

theorem applyPerm_spec {cands sorted : List GPlan} {perm : List Nat} (h : applyPerm cands perm = .ok sorted) :
    (∀ c ∈ cands, c ∈ sorted) ∧ (∀ c ∈ sorted, c ∈ cands) ∧ sorted.Pairwise (fun a b => a.cost ≤ b.cost) := by
  unfold applyPerm at h
  split at h
  · cases h
  · rename_i hlen
    split at h
    · cases h
    · rename_i hall
      simp only [] at h
      split at h
      · rename_i hsorted
        cases h
        simp only [ne_eq, Decidable.not_not] at hlen
        simp only [Bool.not_eq_eq_eq_not, Bool.not_true, not_or, Bool.not_eq_false,
          List.all_eq_true, decide_eq_true_eq] at hall
        have hnd : perm.Nodup := by simpa using hall.2
        refine ⟨?_, ?_, ?_⟩
        · intro c hc
          obtain ⟨i, hi, rfl⟩ := List.mem_iff_getElem.mp hc
          exact List.mem_filterMap.mpr ⟨i, perm_surj perm cands.length hlen hall.1 hnd i hi,
            List.getElem?_eq_getElem hi⟩
        · intro c hc
          obtain ⟨i, _, hi⟩ := List.mem_filterMap.mp hc
          exact List.mem_of_getElem? hi
        · have := chain_pairwise _ hsorted
          exact List.pairwise_map.mp this
      · cases h

theorem applyPerm_err {cands : List GPlan} {perm : List Nat} {e : PErr} (h : applyPerm cands perm = .error e) :
    e = .badPerm := by
  unfold applyPerm at h
  split at h
  · cases h; rfl
  · split at h
    · cases h; rfl
    · dsimp only at h
      split at h <;> cases h
      rfl

theorem removeHopelessPlans_ok {cands live : List GPlan} {perm : List Nat}
    (h : removeHopelessPlans cands perm = .ok live) :
    ∃ sorted, applyPerm cands perm = .ok sorted ∧
      live = phase2Plans (dedupPlans sorted []).length [] (dedupPlans sorted []) := by
  unfold removeHopelessPlans at h
  cases ha : applyPerm cands perm with
  | error e => rw [ha] at h; cases h
  | ok sorted => rw [ha] at h; cases h; exact ⟨sorted, rfl, rfl⟩

theorem removeHopelessPlans_err {cands : List GPlan} {perm : List Nat} {e : PErr}
    (h : removeHopelessPlans cands perm = .error e) : e = .badPerm := by
  unfold removeHopelessPlans at h
  cases ha : applyPerm cands perm with
  | error e' => rw [ha] at h; cases h; exact applyPerm_err ha
  | ok sorted => rw [ha] at h; cases h

theorem prunePlans_eq (sorted : List GPlan) :
    phase2Plans (dedupPlans sorted []).length [] (dedupPlans sorted []) =
      pruneBy pkey GPlan.cost (fun f s => f.costForSwitchingTo s.current) sorted := by
  simp only [pruneBy, dedupPlans_eq, phase2Plans_eq]

theorem removeHopelessPlans_cases (cands : List GPlan) (perm : List Nat) :
    removeHopelessPlans cands perm = .error .badPerm ∨
    ∃ live, removeHopelessPlans cands perm = .ok live ∧ live.length ≤ 36 ∧ ∀ g ∈ live, g ∈ cands := by
  cases hr : removeHopelessPlans cands perm with
  | error e => rw [removeHopelessPlans_err hr]; exact Or.inl rfl
  | ok live =>
    obtain ⟨sorted, ha, rfl⟩ := removeHopelessPlans_ok hr
    rw [prunePlans_eq]
    refine Or.inr ⟨_, rfl, pruneBy_length _ _ _ sorted 36 fun p _ => ?_, fun g hg => ?_⟩
    · -- 36 keys (start mode, current mode)
      have a := modeIndex_lt p.startMode
      have b := modeIndex_lt p.current
      unfold pkey
      omega
    · exact (applyPerm_spec ha).2.1 g ((pruneBy_sublist _ _ _ _).subset hg)

theorem foldl_pick {α : Type} (m : α → Nat) (f : α → α → Bool) (h1 : ∀ g b, f g b = true → m g ≤ m b)
    (h2 : ∀ g b, f g b = false → m b ≤ m g) : ∀ (ps : List α) (p : α),
      ps.foldl (fun best g => if f g best then g else best) p ∈ p :: ps ∧
      ∀ c ∈ p :: ps, m (ps.foldl (fun best g => if f g best then g else best) p) ≤ m c := by
  intro ps
  induction ps with
  | nil => intro p; exact ⟨by simp, fun c hc => by rw [List.mem_singleton.mp hc]; exact Nat.le_refl _⟩
  | cons q qs ih =>
    intro p
    simp only [List.foldl_cons]
    cases hf : f q p with
    | true =>
      simp only [↓reduceIte]
      obtain ⟨i1, i2⟩ := ih q
      refine ⟨List.mem_cons_of_mem _ i1, fun c hc => ?_⟩
      rcases List.mem_cons.mp hc with rfl | hc
      · exact Nat.le_trans (i2 q (List.mem_cons_self ..)) (h1 q c hf)
      · exact i2 c hc
    | false =>
      simp only [Bool.false_eq_true, ↓reduceIte]
      obtain ⟨i1, i2⟩ := ih p
      refine ⟨?_, fun c hc => ?_⟩
      · rcases List.mem_cons.mp i1 with h | h
        · rw [h]; exact List.mem_cons_self ..
        · exact List.mem_cons_of_mem _ (List.mem_cons_of_mem _ h)
      · rcases List.mem_cons.mp hc with rfl | hc
        · exact i2 c (List.mem_cons_self ..)
        · rcases List.mem_cons.mp hc with rfl | hc
          · exact Nat.le_trans (i2 p (List.mem_cons_self ..)) (h2 c p hf)
          · exact i2 c (List.mem_cons_of_mem _ hc)

theorem pickBest_spec (l : List GPlan) :
    match pickBest l with
    | none => l = []
    | some b => b ∈ l ∧ ∀ c ∈ l, ceil12 b.cost ≤ ceil12 c.cost := by
  cases l with
  | nil => rfl
  | cons p ps =>
    simp only [pickBest]
    -- the key is compared lexicographically, `ceil12 cost` first
    refine foldl_pick (fun g => ceil12 g.cost) _ ?_ ?_ ps p
    · intro g b hlt
      simp only [Bool.or_eq_true, decide_eq_true_eq, Bool.and_eq_true, beq_iff_eq] at hlt
      omega
    · intro g b hlt
      simp only [Bool.or_eq_false_iff, decide_eq_false_iff_not, Bool.and_eq_false_imp, beq_iff_eq] at hlt
      omega

theorem pickBest_mem (l : List GPlan) (b : GPlan) (h : pickBest l = some b) : b ∈ l := by
  have := pickBest_spec l; rw [h] at this; exact this.1

theorem pickBest_min (l : List GPlan) (b : GPlan) (h : pickBest l = some b) :
    ∀ c ∈ l, ceil12 b.cost ≤ ceil12 c.cost := by
  have := pickBest_spec l; rw [h] at this; exact this.2

end DM.Lemmas.PlanLoop

namespace DM.Lemmas.CoupleReach
open DM.Model DM.Model.Plan DM.Model.Enc DM.Lemmas.Couple

/-- the plan `optimize` starts with -/
def startPlan (body : List Nat) (list : List Sym) (W : Nat) : GPlan :=
  { extra := 0, switches := [(body.length, .ascii)], plan := newPlan .ascii (ctxAt body list 0 W) }

/-- the list handed to the encoder: a leading `(len, ASCII)` is dropped when nothing has been written -/
def finPlan (W len : Nat) (sw : List (Nat × EMode)) : List (Nat × EMode) :=
  if W = 0 ∧ sw.head? = some (len, EMode.ascii) then sw.tail else sw

end DM.Lemmas.CoupleReach

namespace DM.Lemmas.PlanLoop
open DM.Model.Plan DM.Model.Enc DM.Lemmas.PlanInv
open DM.Lemmas.CoupleReach (finPlan)

/-- what users of the plan rely on
(the `PlanOK` of `Lemmas/PlanCond.lean` is another predicate: the side condition of the round trip) -/
def PlanOK (modes len : Nat) (p : List (Nat × EMode)) : Prop :=
  (∀ e ∈ p, enabledMode modes e.2 = true ∧ e.1 ≤ len) ∧ p.Pairwise (fun a b => a.1 ≥ b.1) ∧
  ∃ m, p.getLast? = some (0, m)

theorem finalPlan_ok {modes len k : Nat} (written dl : Nat) (g : GPlan) (h : SwOK modes len k g) :
    PlanOK modes len (finPlan written dl (g.switches ++ [(0, g.current)])) := by
  obtain ⟨h1, h2, h3, h4⟩ := h
  have hfull : PlanOK modes len (g.switches ++ [(0, g.current)]) := by
    refine ⟨?_, ?_, ⟨g.current, by simp⟩⟩
    · intro e he
      rcases List.mem_append.mp he with he | he
      · exact ⟨(h2 e he).1, (h2 e he).2.2⟩
      · simp only [List.mem_singleton] at he
        subst he
        exact ⟨h1, by simp⟩
    · rw [List.pairwise_append]
      refine ⟨h3, by simp, ?_⟩
      intro a _ b hb
      simp only [List.mem_singleton] at hb
      subst hb
      simp
  unfold finPlan
  split
  · obtain ⟨f1, f2, m, f3⟩ := hfull
    cases hs : g.switches with
    | nil => exact absurd hs h4
    | cons a rest =>
      rw [hs] at f1 f2 f3
      simp only [List.cons_append, List.tail_cons] at f1 f2 f3 ⊢
      refine ⟨fun e he => f1 e (List.mem_cons_of_mem _ he), (List.pairwise_cons.mp f2).2, ⟨g.current, by simp⟩⟩
  · exact hfull

end DM.Lemmas.PlanLoop
