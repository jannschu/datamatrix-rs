import DM.Props.C18Couple
import DM.Lemmas.CoupleGate
/-!
# The encoder model succeeds on the planner model's plan when the prediction fits

A rephrasing of `DM.Props.C18Couple.predicted_size_suffices_planOK` for use in the "planned" corollaries
(`Props/C01Planner.lean`, `Props/C02Planner.lean`, `Props/C16Planner.lean`, `Props/C14Planner.lean`): of its
four cases only the third survives once prefix + predicted codewords fit a listed symbol.  Any prefix
codewords `pre` (FNC1, Macro 05 / 06, ECI designator) are allowed; the planner is told their number.
By `CoupleGate.gate_prediction_none` a message that does not pass the encoder's early-exit gate
(`body.length ≤ maxCapacity list`) has a prediction that fits no listed symbol, so a fitting prediction needs no
hypothesis on the gate (`planned_run_nogate`).
-/
namespace DM.Lemmas.PlannedRun
open DM.Model DM.Model.Plan DM.Model.Enc DM.Model.PlanSide DM.Lemmas DM.Lemmas.AsciiRT

/-- **C18, last sentence, with the early exit resolved**: prefix + predicted codewords fit no listed symbol whether the
`tooMuch` comes from the early exit "more characters than `max_capacity()`" or from a mode encoder. -/
theorem predicted_size_suffices_gate
    (body pre : List Nat) (list : List Sym) (modes : Nat) (perms : List (List Nat)) (o : Outcome)
    (plan : List (Nat × EMode)) (hb : ByteList body)
    (hopt : Plan.optimize body pre.length list modes perms = .ok o) (hp : o.plan = some plan)
    (hok : planOK body plan = true) :
    (list = [] ∧ Enc.run list pre body plan = .error .listEmpty) ∨
    (list ≠ [] ∧ ∃ cw sym, Enc.run list pre body plan = .ok (cw, sym) ∧
      ∀ ps, firstBigEnough list (pre.length + o.cost12 / 12) = some ps → dataCw sym ≤ dataCw ps) ∨
    (list ≠ [] ∧ Enc.run list pre body plan = .error .tooMuch ∧
      firstBigEnough list (pre.length + o.cost12 / 12) = none) := by
  rcases DM.Props.C18Couple.predicted_size_suffices_planOK body pre list modes perms o plan hb hopt hp hok with
    h | ⟨h1, h2, h3⟩ | ⟨h1, _, h3⟩ | ⟨h1, _, h3⟩
  · exact Or.inl h
  · exact Or.inr (Or.inr ⟨h1, h3, CoupleGate.gate_prediction_none body pre.length list modes perms o plan hopt hp h2⟩)
  · exact Or.inr (Or.inl ⟨h1, h3⟩)
  · exact Or.inr (Or.inr ⟨h1, h3⟩)

theorem fit_passes_gate (body : List Nat) (w : Nat) (list : List Sym) (modes : Nat) (perms : List (List Nat))
    (o : Outcome) (plan : List (Nat × EMode)) (ps : Sym)
    (hopt : Plan.optimize body w list modes perms = .ok o) (hp : o.plan = some plan)
    (hfit : firstBigEnough list (w + o.cost12 / 12) = some ps) : body.length ≤ maxCapacity list := by
  by_cases h : body.length ≤ maxCapacity list
  · exact h
  · have := CoupleGate.gate_prediction_none body w list modes perms o plan hopt hp (by omega)
    rw [hfit] at this
    cases this

theorem planned_run_nogate (body pre : List Nat) (list : List Sym) (modes : Nat) (perms : List (List Nat)) (o : Outcome)
    (plan : List (Nat × EMode)) (ps : Sym) (hb : ByteList body)
    (hopt : Plan.optimize body pre.length list modes perms = .ok o) (hp : o.plan = some plan)
    (hok : planOK body plan = true)
    (hfit : firstBigEnough list (pre.length + o.cost12 / 12) = some ps) :
    ∃ cw sym, Enc.run list pre body plan = .ok (cw, sym) ∧ dataCw sym ≤ dataCw ps := by
  rcases predicted_size_suffices_gate body pre list modes perms o plan hb hopt hp hok with
    ⟨rfl, _⟩ | ⟨_, cw, sym, hrun, hsz⟩ | ⟨_, _, hnone⟩
  · cases hfit
  · exact ⟨cw, sym, hrun, hsz ps hfit⟩
  · rw [hfit] at hnone
    cases hnone

/-! ### non-vacuity of `CoupleGate.gate_prediction_none`

Six digits and a letter, the symbol list {10x10} (3 data codewords, `max_capacity()` = 6), all modes, the
sort permutations of a stable sort by cost: the planner model returns the all-ASCII plan at 4 codewords
(`48 / 12`), which fit no listed symbol; the message has 7 > 6 characters. -/

example : ∃ o,
    Plan.optimize [49, 50, 51, 52, 53, 54, 65] 0 (symbolList [0]) 63
      [[0], [0], [0], [0], [0], [0], [0, 3, 1, 2], [0, 1, 2]] = .ok o ∧
    o.plan = some [(0, .ascii)] ∧ o.cost12 = 48 ∧
    maxCapacity (symbolList [0]) = 6 ∧ firstBigEnough (symbolList [0]) (0 + o.cost12 / 12) = none := by
  refine ⟨{ plan := some [(0, .ascii)], cost12 := 48, steps := 15, maxLive := 3 }, ?_, rfl, rfl,
    by decide +kernel, by decide +kernel⟩
  decide +kernel

end DM.Lemmas.PlannedRun
