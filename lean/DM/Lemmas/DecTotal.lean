import DM.Lemmas.DecStep
import DM.Lemmas.Bytes
/-
Totality of the data decoder model: no `.panic` outcome is reachable, the fuel `decode_parts` gives
the main loop suffices, and what is handed to `eci::convert` is in order (bytes, with span starts
non-decreasing and inside the output).

Each decoder is gone through once, for a statement `Ensures P (decoder …)`: the result is a benign
error or a value with `P`, where `P` says that the rest is a suffix of the input, that the output
has only grown, and that bytes stay bytes.
Namespaces: `DM.Lemmas`, `Props.C04` (`instDecidableByteList`).
-/
namespace DM.Lemmas
open DM.Model.Dec DM.Gen

def Benign : DErr → Prop
  | .panic _ => False
  | .fuel => False
  | _ => True

def Good {α : Type} (r : R α) : Prop := ∀ e, r = .error e → Benign e

def NoPanic {α : Type} (r : R α) : Prop := ∀ s, r ≠ .error (.panic s)

theorem Good.noPanic {α : Type} {r : R α} (h : Good r) : NoPanic r := by
  intro s hr; exact h _ hr

theorem Good.ok {α : Type} (a : α) : Good (.ok a : R α) := by intro e h; cases h
theorem good_err {α : Type} (e : DErr) (h : Benign e) : Good (.error e : R α) := by
  intro e' h'; injection h' with h'; subst h'; exact h

def Ensures {α : Type} (P : α → Prop) (r : R α) : Prop := Good r ∧ ∀ a, r = .ok a → P a

theorem Ensures.ok {α : Type} {P : α → Prop} {a : α} (h : P a) : Ensures P (.ok a) :=
  ⟨Good.ok a, fun _ e => by cases e; exact h⟩

theorem Ensures.error {α : Type} {P : α → Prop} {e : DErr} (h : Benign e) : Ensures P (.error e) :=
  ⟨good_err e h, fun _ e => by cases e⟩

theorem Ensures.imp {α : Type} {P Q : α → Prop} {r : R α} (h : Ensures P r) (hpq : ∀ a, P a → Q a) : Ensures Q r :=
  ⟨h.1, fun a e => hpq a (h.2 a e)⟩

theorem Ensures.ite {α : Type} {P : α → Prop} {c : Prop} [Decidable c] {a b : R α}
    (ha : c → Ensures P a) (hb : ¬c → Ensures P b) : Ensures P (if c then a else b) := by
  split
  · exact ha ‹_›
  · exact hb ‹_›

/-- for the step equations stated with `bind`; a `match` of the model on a result is taken apart with
`cases` instead, since each has a matcher of its own that does not unfold to `bind` by unification -/
theorem Ensures.bind {α β : Type} {P : α → Prop} {Q : β → Prop} {r : R α} {f : α → R β}
    (hr : Ensures P r) (hf : ∀ a, P a → Ensures Q (f a)) : Ensures Q (r.bind f) := by
  cases r with
  | error e => exact .error (hr.1 e rfl)
  | ok a => exact hf a (hr.2 a rfl)

def ByteList (l : List Nat) : Prop := ∀ b ∈ l, b < 256

instance _root_.DM.Props.C04.instDecidableByteList (l : List Nat) : Decidable (ByteList l) := by unfold ByteList; infer_instance

def SpansOK (n : Nat) (ecis : List (Nat × Nat)) : Prop :=
  ecis.Pairwise (fun a b => a.1 ≤ b.1) ∧ ∀ e ∈ ecis, e.1 ≤ n

def OutInv (out : List Nat) (ecis : List (Nat × Nat)) : Prop := ByteList out ∧ SpansOK out.length ecis

theorem bytes_nil : ByteList [] := fun _ hb => nomatch hb

theorem ByteList.cons {a : Nat} {l : List Nat} (ha : a < 256) (hl : ByteList l) : ByteList (a :: l) :=
  Bytes.cons ha hl

theorem ByteList.append {a b : List Nat} (ha : ByteList a) (hb : ByteList b) : ByteList (a ++ b) :=
  Bytes.append ha hb

theorem ByteList.suffix {r l : List Nat} (hl : ByteList l) (h : r <:+ l) : ByteList r :=
  fun b hb => hl b (h.subset hb)

theorem ByteList.tail {a : Nat} {l : List Nat} (h : ByteList (a :: l)) : ByteList l := h.suffix (List.suffix_cons a l)

theorem ByteList.head {a : Nat} {l : List Nat} (h : ByteList (a :: l)) : a < 256 := h a (List.mem_cons_self ..)

theorem ByteList.drop {l : List Nat} (h : ByteList l) (n : Nat) : ByteList (l.drop n) := h.suffix (List.drop_suffix n l)

theorem SpansOK.mono {n n' : Nat} {ecis : List (Nat × Nat)} (h : SpansOK n ecis) (hn : n ≤ n') : SpansOK n' ecis :=
  ⟨h.1, fun e he => Nat.le_trans (h.2 e he) hn⟩

theorem SpansOK.push {n : Nat} {ecis : List (Nat × Nat)} (h : SpansOK n ecis) (e : Nat) : SpansOK n (ecis ++ [(n, e)]) := by
  refine ⟨?_, ?_⟩
  · rw [List.pairwise_append]
    refine ⟨h.1, by simp, ?_⟩
    intro a ha b hb
    rw [List.mem_singleton.mp hb]
    exact h.2 a ha
  · intro x hx
    rcases List.mem_append.mp hx with hx | hx
    · exact h.2 x hx
    · rw [List.mem_singleton.mp hx]
      exact Nat.le_refl _

theorem OutInv.grow {out add : List Nat} {ecis : List (Nat × Nat)} (h : OutInv out ecis) (ha : ByteList add) :
    OutInv (out ++ add) ecis :=
  ⟨h.1.append ha, h.2.mono (by simp)⟩

theorem readEci_spec : ∀ l : List Nat, Ensures (fun p => p.2 ≤ l.length) (readEci l)
  | [] => .error trivial
  | c1 :: t => by
    refine .ite (fun _ => .ok (Nat.le_add_left 1 _)) fun _ =>
      .ite (fun _ => ?_) fun _ => .ite (fun _ => ?_) fun _ => .error trivial
    · cases t with
      | nil => exact .error (e := .unexpectedEnd) trivial
      | cons c2 t2 => exact .ite (fun _ => .ok (Nat.le_add_left 2 _)) fun _ => .error trivial
    · cases t with
      | nil => exact .error (e := .unexpectedEnd) trivial
      | cons c2 t2 =>
        refine .ite (fun _ => .error trivial) fun _ => ?_
        cases t2 with
        | nil => exact .error (e := .unexpectedEnd) trivial
        | cons c3 t3 => exact .ite (fun _ => .error trivial) fun _ => .ok (Nat.le_add_left 3 _)

theorem checkPads_good (l : List Nat) (e : Nat) : Good (checkPads l e) := by
  induction l generalizing e with
  | nil => exact Good.ok _
  | cons c t ih =>
    unfold checkPads
    simp only
    split
    · exact good_err _ trivial
    · exact ih _

def AsciiPost (l out : List Nat) (ecis : List (Nat × Nat)) (p : DSt × DMode) : Prop :=
  p.1.rest <:+ l.tail ∧ (ByteList l → OutInv out ecis → OutInv p.1.out p.1.ecis ∧ ByteList p.1.rest)

def AsciiAct.OK (ch : Nat) : AsciiAct → Prop
  | .emit bs _ => ch < 256 → ByteList bs
  | .err e => Benign e
  | _ => True

theorem asciiAct_ok (upper : Bool) (ch : Nat) : (asciiAct upper ch).OK ch := by
  have ite : ∀ {c : Prop} [Decidable c] {a b : AsciiAct}, (c → a.OK ch) → (¬c → b.OK ch) →
      (if c then a else b).OK ch := fun ha hb => by split; exact ha ‹_›; exact hb ‹_›
  refine ite (fun h _ => .cons (by split <;> omega) bytes_nil) fun _ => ite (fun _ => trivial) fun _ =>
    ite (fun _ => trivial) fun _ => ite (fun _ _ => .cons (by omega) (.cons (by omega) bytes_nil)) fun _ =>
    ite (fun _ => trivial) fun _ => ite (fun _ => trivial) fun _ => ite (fun _ _ => .cons (by omega) bytes_nil) fun _ =>
    ite (fun _ => trivial) fun _ => ite (fun _ => trivial) fun _ => ite (fun _ _ => bytes_nil) fun _ =>
    ite (fun _ => trivial) fun _ => ite (fun _ => trivial) fun _ => ite (fun _ => trivial) fun _ =>
    ite (fun _ => trivial) fun _ => trivial

theorem decodeAscii_spec (l : List Nat) :
    ∀ (eaten : Nat) (out : List Nat) (ecis : List (Nat × Nat)) (upper : Bool) (skip : Nat), skip ≤ l.length →
      Ensures (AsciiPost l out ecis) (decodeAscii l eaten out ecis upper skip) := by
  induction l with
  | nil =>
    intro eaten out ecis upper skip hs
    obtain rfl : skip = 0 := Nat.le_zero.mp hs
    rw [decodeAscii, if_neg (fun h => h rfl)]
    exact .ite (fun _ => .error trivial) fun _ => .ok ⟨List.suffix_refl _, fun hb h => ⟨h, hb⟩⟩
  | cons ch t ih =>
    intro eaten out ecis upper skip hs
    have more : ∀ {out' : List Nat} {ecis' : List (Nat × Nat)} {upper' : Bool} {skip' : Nat}, skip' ≤ t.length →
        (ch < 256 → OutInv out ecis → OutInv out' ecis') →
        Ensures (AsciiPost (ch :: t) out ecis) (decodeAscii t (eaten + 1) out' ecis' upper' skip') := by
      intro out' ecis' upper' skip' hs' hinv
      exact (ih _ out' ecis' upper' skip' hs').imp fun p hp =>
        ⟨hp.1.trans (List.tail_suffix t), fun hb ho => hp.2 hb.tail (hinv hb.head ho)⟩
    cases skip with
    | succ k => rw [decodeAscii_skip1]; exact more (Nat.le_of_succ_le_succ hs) fun _ ho => ho
    | zero =>
      rw [decodeAscii_cons]
      have hact := asciiAct_ok upper ch
      generalize asciiAct upper ch = act at hact
      cases act with
      | emit bs u => exact more (Nat.zero_le _) fun hc ho => ho.grow (hact hc)
      | latch m => exact .ok ⟨List.suffix_refl t, fun hb ho => ⟨ho, hb.tail⟩⟩
      | pad =>
        simp only [asciiThen]
        cases hc : checkPads t (eaten + 1) with
        | error e => exact .error (checkPads_good _ _ e hc)
        | ok e => exact .ok ⟨List.nil_suffix, fun _ ho => ⟨ho, bytes_nil⟩⟩
      | eci => exact (readEci_spec t).bind fun p hp => more hp fun _ ho => ⟨ho.1, ho.2.push p.1⟩
      | err e => exact .error hact

/-- facts about the regenerated lookup tables: lengths as the code indexes them, entries
below 128 (so that an upper shift cannot overflow a byte) -/
def c40TablesOK : Bool :=
  baseC40.length == 37 && baseText.length == 37 && shift2.length == 27 &&
  shift3C40.length == 32 && shift3Text.length == 32 &&
  baseC40.all (· ≤ 127) && baseText.all (· ≤ 127) && shift2.all (· ≤ 127) &&
  shift3C40.all (· ≤ 127) && shift3Text.all (· ≤ 127)

theorem c40_tables_ok : c40TablesOK = true := by decide +kernel

structure GoodTables (base shift3 : List Nat) : Prop where
  baseLen : base.length = 37
  sh3Len : shift3.length = 32
  baseLe : ∀ x ∈ base, x ≤ 127
  sh3Le : ∀ x ∈ shift3, x ≤ 127

theorem c40_tables : GoodTables baseC40 shift3C40 ∧ GoodTables baseText shift3Text ∧
    shift2.length = 27 ∧ ∀ x ∈ shift2, x ≤ 127 := by
  have h := c40_tables_ok
  simp only [c40TablesOK, Bool.and_eq_true, beq_iff_eq, List.all_eq_true, decide_eq_true_eq] at h
  obtain ⟨⟨⟨⟨⟨⟨⟨⟨⟨b1, b2⟩, s2⟩, t1⟩, t2⟩, b1le⟩, b2le⟩, s2le⟩, t1le⟩, t2le⟩ := h
  exact ⟨⟨b1, t1, b1le, t1le⟩, ⟨b2, t2, b2le, t2le⟩, s2, s2le⟩

def EmitsByte (p : CSt × Option Nat) : Prop := ∀ x, p.2 = some x → x < 256

theorem c40Value_spec (base shift3 : List Nat) (G : GoodTables base shift3) (st : CSt) (v : Nat) :
    Ensures EmitsByte (c40Value base shift3 st v) := by
  have silent : ∀ st', Ensures EmitsByte (.ok (st', none)) := fun _ => .ok fun _ h => nomatch h
  have tab : ∀ {site : String} {tab : List Nat} {i : Nat} {f : Nat → R (CSt × Option Nat)}, i < tab.length →
      (∀ x ∈ tab, x ≤ 127) → (∀ b, b ≤ 127 → Ensures EmitsByte (f b)) →
      Ensures EmitsByte (match tableGet site tab i with | .error e => .error e | .ok b => f b) := by
    intro site tab i f hi hle hf
    rw [tableGet_ok _ _ _ hi]
    exact hf _ (hle _ (List.getElem_mem _))
  unfold c40Value
  extract_lets emit
  have hemit : ∀ b, b ≤ 127 → Ensures EmitsByte (emit b) := by
    intro b hb
    refine .ite (fun _ => ?_) fun _ => .ok fun x h => by cases h; omega
    rw [addU8_ok _ _ _ (by omega)]
    exact .ok fun x h => by cases h; omega
  refine .ite (fun _ => .ite (fun _ => silent _) fun _ => .ite (fun _ => ?_) fun _ => .error trivial) fun _ => ?_
  · exact tab (by rw [G.baseLen]; omega) G.baseLe hemit
  refine .ite (fun _ => .ite (fun _ => hemit v (by omega)) fun _ => .error trivial) fun _ => ?_
  refine .ite (fun _ => .ite (fun _ => ?_) fun _ => ?_) fun _ => .ite (fun _ => ?_) fun _ => .error trivial
  · exact tab (by rw [c40_tables.2.2.1]; omega) c40_tables.2.2.2 hemit
  · exact .ite (fun _ => .error trivial) fun _ => .ite (fun _ => silent _) fun _ => .error trivial
  · exact tab (by rw [G.sh3Len]; omega) G.sh3Le hemit

theorem c40Values_spec (base shift3 : List Nat) (G : GoodTables base shift3) :
    ∀ (vs : List Nat) (st : CSt) (out : List Nat),
      Ensures (fun p => out <+: p.2 ∧ (ByteList out → ByteList p.2)) (c40Values base shift3 vs st out)
  | [], st, out => .ok ⟨List.prefix_refl _, id⟩
  | v :: vs, st, out => by
    have hp := c40Value_spec base shift3 G st v
    rw [c40Values]
    cases hv : c40Value base shift3 st v with
    | error e => exact .error (hp.1 e hv)
    | ok p =>
      obtain ⟨st', ob⟩ := p
      cases ob with
      | none => exact c40Values_spec base shift3 G vs st' out
      | some b =>
        exact (c40Values_spec base shift3 G vs st' (out ++ [b])).imp fun q hq =>
          ⟨(List.prefix_append _ _).trans hq.1, fun ho => hq.2 (ho.append (.cons (hp.2 _ hv b rfl) bytes_nil))⟩

def SegPost (l out : List Nat) (p : List Nat × Nat × List Nat) : Prop :=
  p.1 <:+ l ∧ out <+: p.2.2 ∧ (ByteList l → ByteList out → ByteList p.2.2)

theorem SegPost.stop {l out r : List Nat} {e : Nat} (h : r <:+ l) : SegPost l out (r, e, out) :=
  ⟨h, List.prefix_refl _, fun _ h => h⟩

theorem SegPost.skip {l l' out : List Nat} {p : List Nat × Nat × List Nat} (hs : l' <:+ l) (h : SegPost l' out p) :
    SegPost l out p :=
  ⟨h.1.trans hs, h.2.1, fun hl => h.2.2 (hl.suffix hs)⟩

theorem SegPost.emit {l out add : List Nat} {p : List Nat × Nat × List Nat} (ha : ByteList l → ByteList add)
    (h : SegPost l (out ++ add) p) : SegPost l out p :=
  ⟨h.1, (List.prefix_append _ _).trans h.2.1, fun hl ho => h.2.2 hl (ho.append (ha hl))⟩

/-- a triple loop where it stops (`TripleLoop.stop`) -/
theorem Ensures.stop {l out : List Nat} {x : R (List Nat × Nat × List Nat)}
    (h : ∃ r e', x = .ok (r, e', out) ∧ r <:+ l) : Ensures (SegPost l out) x := by
  obtain ⟨r, e', h, hs⟩ := h
  rw [h]
  exact .ok (.stop hs)

theorem decodeC40_spec (base shift3 : List Nat) (G : GoodTables base shift3) :
    ∀ (l : List Nat) (eaten : Nat) (out : List Nat) (st : CSt),
      Ensures (SegPost l out) (decodeC40 base shift3 l eaten out st)
  | a :: b :: t, eaten, out, st => by
    by_cases ha : a = 254
    · exact .stop ((tripleLoop_c40 base shift3 st).stop (a :: b :: t) eaten out (.inr (by rw [ha]; rfl)))
    · rw [decodeC40_step _ _ _ _ _ _ _ _ ha]
      refine (c40Values_spec base shift3 G _ st out).bind fun p hp => ?_
      refine (decodeC40_spec base shift3 G t (eaten + 2) p.2 p.1).imp fun q hq => ?_
      exact ⟨hq.1.trans ⟨[a, b], rfl⟩, hp.1.trans hq.2.1, fun hl ho => hq.2.2 hl.tail.tail (hp.2 ho)⟩
  | [a], eaten, out, st => .stop ((tripleLoop_c40 base shift3 st).stop [a] eaten out (.inl (Nat.lt_succ_self 1)))
  | [], eaten, out, st => .stop ((tripleLoop_c40 base shift3 st).stop [] eaten out (.inl (by decide)))

theorem decX12_spec (v : Nat) : Ensures (· < 256) (decX12 v) := by
  unfold decX12
  refine .ite (fun _ => .ok (by omega)) fun _ => .ite (fun _ => .ok (by omega)) fun _ =>
    .ite (fun _ => .ok (by omega)) fun _ => .ite (fun _ => .ok (by omega)) fun _ =>
    .ite (fun _ => .ok (by omega)) fun _ => .ite (fun _ => .ok (by omega)) fun _ => .error trivial

theorem decodeX12_spec : ∀ (l : List Nat) (eaten : Nat) (out : List Nat),
    Ensures (SegPost l out) (decodeX12 l eaten out)
  | a :: b :: t, eaten, out => by
    by_cases ha : a = 254
    · exact .stop (tripleLoop_x12.stop (a :: b :: t) eaten out (.inr (by rw [ha]; rfl)))
    · rw [decodeX12_step _ _ _ _ _ ha]
      refine (decX12_spec _).bind fun x1 h1 => (decX12_spec _).bind fun x2 h2 => (decX12_spec _).bind fun x3 h3 => ?_
      refine (decodeX12_spec t (eaten + 2) _).imp fun q hq => ?_
      exact .emit (fun _ => .cons h1 (.cons h2 (.cons h3 bytes_nil))) (.skip ⟨[a, b], rfl⟩ hq)
  | [a], eaten, out => .stop (tripleLoop_x12.stop [a] eaten out (.inl (Nat.lt_succ_self 1)))
  | [], eaten, out => .stop (tripleLoop_x12.stop [] eaten out (.inl (by decide)))

theorem derand255_lt (ch pos : Nat) (h : ch < 256) : derand255 ch pos < 256 := by
  unfold derand255
  simp only []
  have : (149 * pos) % 255 < 255 := Nat.mod_lt _ (by omega)
  split <;> omega

theorem decodeBase256_spec (l : List Nat) (eaten : Nat) (out : List Nat) :
    Ensures (fun p => p.1 <:+ l.tail ∧ SegPost l out p) (decodeBase256 l eaten out) := by
  unfold decodeBase256
  cases l with
  | nil => exact .error trivial
  | cons c1 t =>
    simp only
    -- whatever header was read, the body is a suffix of the input behind the first codeword
    have body : ∀ (len : Nat) (body : List Nat) (e' : Nat), body <:+ t →
        Ensures (fun p => p.1 <:+ t ∧ SegPost (c1 :: t) out p) (if body.length < len then .error .unexpectedEnd else
          .ok (body.drop len, e' + len, out ++ (List.range len).map fun k => derand255 (body.getD k 0) (e' + k + 1))) := by
      intro len body e' hs
      split
      · exact .error trivial
      · refine .ok ⟨(List.drop_suffix _ _).trans hs,
          .emit (fun hl b hb => ?_) (.stop ((List.drop_suffix _ _).trans (hs.trans (List.suffix_cons _ _))))⟩
        obtain ⟨k, _, rfl⟩ := List.mem_map.mp hb
        refine derand255_lt _ _ ?_
        rw [List.getD_eq_getElem?_getD]
        cases hk : body[k]? with
        | none => exact Nat.zero_lt_succ _
        | some x => exact (hl.tail.suffix hs) x (List.mem_of_getElem? hk)
    by_cases h0 : derand255 c1 (eaten + 1) = 0
    · rw [if_pos h0]
      exact body _ _ _ (List.suffix_refl t)
    rw [if_neg h0]
    by_cases h1 : derand255 c1 (eaten + 1) < 250
    · rw [if_pos h1]
      exact body _ _ _ (List.suffix_refl t)
    rw [if_neg h1]
    cases t with
    | nil => exact .error trivial
    | cons c2 t2 => exact body _ _ _ (List.suffix_cons _ _)

theorem decodeBase256_rest_lt (rest : List Nat) (eaten : Nat) (out : List Nat) (r : List Nat) (e : Nat) (o : List Nat)
    (h : decodeBase256 rest eaten out = .ok (r, e, o)) : r.length < rest.length := by
  have hs := ((decodeBase256_spec rest eaten out).2 _ h).1.length_le
  cases rest with
  | nil => cases h
  | cons c t => exact Nat.lt_succ_of_le hs

theorem decEdifactChar_lt (v : Nat) (h : v < 64) : decEdifactChar v < 256 := by
  unfold decEdifactChar; split <;> omega

theorem decodeEdifact_spec : ∀ (f : Nat) (l : List Nat) (eaten : Nat) (out : List Nat),
    SegPost l out (decodeEdifact f l eaten out)
  | 0, l, eaten, out => .stop (List.suffix_refl l)
  | f + 1, a :: b :: c :: t, eaten, out => by
      rw [decodeEdifact]
      have one : ∀ {v : Nat} {l : List Nat}, (ByteList (a :: b :: c :: l) → v < 64) →
          ByteList (a :: b :: c :: l) → ByteList [decEdifactChar v] :=
        fun hv hl => .cons (decEdifactChar_lt _ (hv hl)) bytes_nil
      have v1 : ByteList (a :: b :: c :: t) → a / 4 < 64 := fun hl => by have := hl.head; omega
      have v2 : ByteList (a :: b :: c :: t) → (a % 4) * 16 + b / 16 < 64 := fun hl => by
        have := hl.tail.head; omega
      have v3 : ByteList (a :: b :: c :: t) → (b % 16) * 4 + c / 64 < 64 := fun hl => by
        have := hl.tail.tail.head; omega
      have v4 : ByteList (a :: b :: c :: t) → c % 64 < 64 := fun _ => by omega
      simp only
      split
      · exact .stop (List.suffix_cons _ _)
      refine .emit (one v1) ?_
      split
      · exact .stop ⟨[a, b], rfl⟩
      refine .emit (one v2) ?_
      split
      · exact .stop ⟨[a, b, c], rfl⟩
      refine .emit (one v3) ?_
      split
      · exact .stop ⟨[a, b, c], rfl⟩
      · exact .emit (one v4) (.skip ⟨[a, b, c], rfl⟩ (decodeEdifact_spec f t _ _))
  | _ + 1, [], _, _ | _ + 1, [_], _, _ | _ + 1, [_, _], _, _ => .stop (List.suffix_refl _)

/-- what one mode segment guarantees: the fuel measure of the main loop goes down (two units per codeword,
one for a mode that is yet to hand back to ASCII), and the output stays in order -/
def StepPost (m : DMode) (st : DSt) (p : DSt × DMode) : Prop :=
  (st.rest ≠ [] → 2 * p.1.rest.length + (if p.2 = .ascii then 0 else 1) <
    2 * st.rest.length + (if m = .ascii then 0 else 1)) ∧
  (ByteList st.rest → OutInv st.out st.ecis → OutInv p.1.out p.1.ecis ∧ ByteList p.1.rest)

theorem backTo_spec {m : DMode} {st : DSt} {r : R (List Nat × Nat × List Nat)} (hm : m ≠ .ascii)
    (h : Ensures (SegPost st.rest st.out) r) : Ensures (StepPost m st) (backTo st r) := by
  unfold backTo
  cases r with
  | error e => exact .error (h.1 e rfl)
  | ok p =>
    obtain ⟨hs, hp, hb⟩ := h.2 p rfl
    refine .ok ⟨fun _ => ?_, fun hl ho => ⟨⟨hb hl ho.1, ho.2.mono hp.length_le⟩, hl.suffix hs⟩⟩
    have := hs.length_le
    simp only [if_neg hm, if_true]
    omega

theorem modeStep_spec (m : DMode) (st : DSt) : Ensures (StepPost m st) (modeStep m st) := by
  cases m with
  | ascii =>
    refine (decodeAscii_spec st.rest st.eaten st.out st.ecis false 0 (Nat.zero_le _)).imp fun p hp => ⟨fun hne => ?_, hp.2⟩
    have := hp.1.length_le
    have := List.length_pos_iff.mpr hne
    rw [List.length_tail] at *
    simp only [if_true]
    split <;> omega
  | c40 => exact backTo_spec (by decide) (decodeC40_spec _ _ c40_tables.1 ..)
  | text => exact backTo_spec (by decide) (decodeC40_spec _ _ c40_tables.2.1 ..)
  | x12 => exact backTo_spec (by decide) (decodeX12_spec ..)
  | edifact => exact backTo_spec (by decide) (.ok (decodeEdifact_spec ..))
  | base256 => exact backTo_spec (by decide) ((decodeBase256_spec ..).imp fun _ h => h.2)

theorem mainLoop_any : ∀ (f : Nat) (m : DMode) (st : DSt), NoPanic (mainLoop f m st) ∧
    (∀ st', mainLoop f m st = .ok st' → ByteList st.rest → OutInv st.out st.ecis → OutInv st'.out st'.ecis) ∧
    (2 * st.rest.length + (if m = .ascii then 0 else 1) < f → mainLoop f m st ≠ .error .fuel) := by
  intro f
  induction f with
  | zero =>
    intro m st
    unfold mainLoop
    exact ⟨fun s h => (nomatch h), fun st' h => (nomatch h), fun h => absurd h (Nat.not_lt_zero _)⟩
  | succ f ih =>
    intro m st
    rw [mainLoop_succ]
    split
    · exact ⟨(Good.ok _).noPanic, fun st' h _ ho => by cases h; exact ho, fun _ h => (nomatch h)⟩
    · rename_i he
      have hs := modeStep_spec m st
      cases hm : modeStep m st with
      | error e =>
        refine ⟨fun s (h : Except.error e = _) => ?_, fun st' (h : Except.error e = _) => (nomatch h),
          fun _ (h : Except.error e = _) => ?_⟩ <;> cases h <;> exact hs.1 _ hm
      | ok p =>
        obtain ⟨hlt, hp⟩ := hs.2 p hm
        have hne : st.rest ≠ [] := fun h => he (by rw [h]; rfl)
        exact ⟨(ih p.2 p.1).1, fun st' h hl ho => (ih p.2 p.1).2.1 st' h (hp hl ho).2 (hp hl ho).1,
          fun hf => (ih p.2 p.1).2.2 (by have := hlt hne; omega)⟩

theorem mainLoop_noPanic (f : Nat) (m : DMode) (st : DSt) : NoPanic (mainLoop f m st) := (mainLoop_any f m st).1

theorem mainLoop_inv (f : Nat) (m : DMode) (st st' : DSt) (hb : ByteList st.rest) (hinv : OutInv st.out st.ecis)
    (h : mainLoop f m st = .ok st') : OutInv st'.out st'.ecis := (mainLoop_any f m st).2.1 st' h hb hinv

theorem mainLoop_spec (f : Nat) (m : DMode) (st : DSt) (hf : 2 * st.rest.length + (if m = .ascii then 0 else 1) < f) :
    Ensures (fun st' => ByteList st.rest → OutInv st.out st.ecis → OutInv st'.out st'.ecis) (mainLoop f m st) := by
  obtain ⟨hp, hinv, hfuel⟩ := mainLoop_any f m st
  refine ⟨fun e he => ?_, hinv⟩
  cases e with
  | panic s => exact hp s he
  | fuel => exact hfuel hf he
  | _ => trivial

theorem bytes_macro : ByteList macroHead05 ∧ ByteList macroHead06 ∧ ByteList macroTrail := by
  refine ⟨?_, ?_, ?_⟩ <;> (intro b hb; simp only [macroHead05, macroHead06, macroTrail, List.mem_cons, List.not_mem_nil, or_false] at hb; omega)

theorem decodeParts_spec (data : List Nat) (raw : Bool) :
    Ensures (fun p => ByteList data → OutInv p.output p.ecis) (decodeParts data raw) := by
  obtain ⟨mac, fnc1, d, e, out0, hd, hout, h⟩ := decodeParts_cases data raw
  rw [h]
  have hinv0 : OutInv out0 (if (!raw && mac) = true then [(0, 26), (out0.length, 0)] else []) := by
    refine ⟨?_, ?_⟩
    · simp only [List.mem_cons, List.not_mem_nil, or_false] at hout
      rcases hout with rfl | rfl | rfl
      · exact bytes_nil
      · exact bytes_macro.1
      · exact bytes_macro.2.1
    · split
      · refine ⟨by simp, fun e he => ?_⟩
        simp only [List.mem_cons, List.not_mem_nil, or_false] at he
        rcases he with rfl | rfl <;> simp
      · exact ⟨by simp, by simp⟩
  unfold partsFinish
  have hm := mainLoop_spec (2 * d.length + 2) .ascii
    { rest := d, eaten := e, out := out0, ecis := if (!raw && mac) = true then [(0, 26), (out0.length, 0)] else [] }
    (by simp)
  cases hr : mainLoop (2 * d.length + 2) .ascii _ with
  | error e => exact .error (hm.1 e hr)
  | ok st =>
  have hst := hm.2 st hr
  simp only
  split
  · refine .ok fun hb => ?_
    have hinv := hst (hb.suffix hd) hinv0
    refine ⟨hinv.1.append bytes_macro.2.2, ?_⟩
    split
    · exact hinv.2.mono (by simp)
    · exact (hinv.2.push 26).mono (by simp)
  · exact .ok fun hb => hst (hb.suffix hd) hinv0

/-- **`decode_data` returns a value or one of its documented errors — never a panic, and the
model's loop bound is never hit** (for every list of codewords). -/
theorem decodeData_good (data : List Nat) : Good (decodeData data) := by
  unfold decodeData
  cases hp : decodeParts data true with
  | error e => exact good_err e ((decodeParts_spec data true).1 e hp)
  | ok p =>
    simp only
    split
    · exact Good.ok _
    · exact good_err _ trivial

/-- **`decode_data` never panics** (model), for every list of codewords. -/
theorem decodeData_noPanic (data : List Nat) : NoPanic (decodeData data) := (decodeData_good data).noPanic

end DM.Lemmas
