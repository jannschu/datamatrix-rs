import DM.Lemmas.SpecMain
import DM.Lemmas.SpecEdiGen
import DM.Lemmas.ModeCall
/-
The EDIFACT encoder preserves the main-loop invariant `SpecMain.SInv` against the reference decoder
(`edi_SInv`), for EDIFACT as the final stretch of the message (the plan behind the switch to EDIFACT
names EDIFACT only, the remaining characters are EDIFACT characters). It is not a `ModeStep`: see `SpecMainRun`.
-/
namespace DM.Lemmas.SpecMainEdi
open DM.Model DM.Lemmas DM.Lemmas.AsciiRT DM.Lemmas.SpecStep DM.Lemmas.SpecAscii DM.Lemmas.SpecB256 DM.Lemmas.Complete
open DM.Lemmas.EncRT DM.Lemmas.C40Gen DM.Lemmas.B256Gen DM.Lemmas.PlanProv DM.Lemmas.MainRT DM.Spec.Stream
open DM.Lemmas.SpecMain DM.Lemmas.SpecEdi DM.Lemmas.SpecEdiGen DM.Lemmas.EdiGen DM.Lemmas.EdiRT DM.Lemmas.ModeCall

/-- The two ends without UNLATCH (the ASCII end game; `r = 0` and no data left: the exact fit). The decoder returns
to ASCII by the rule "at most two codewords left", or ends in EDIFACT mode when nothing is left. -/
theorem sInv_edi_groups {P : Mode → Prop} {list : List Sym} {i0 : Nat} {pre body : List Nat} {s s' : Enc.St}
    {lo : Nat} {tr : List Mode} {lat : List (Nat × Mode)} (mi : SMI P list i0 pre body s none lo tr lat) (hP : P .edifact)
    (hmore : s.hasMore = true) (h0 : Enc.encodeMode (latched s) = .ok s') (b : List Nat) (q : Nat)
    (hq : 4 * q ≤ b.length) (hcc : EdiChars (b.take (4 * q))) (hcw : s'.cw = s.cw ++ ediC b q)
    (hchunk : body.take s'.pos = body.take s.pos ++ b.take (4 * q)) (hp : s'.pos ≤ body.length) (hin : s'.input = body)
    (hli : s'.list = list) (r : Nat)
    (hend : (r = 0 ∧ s'.hasMore = false) ∨ (s'.mode = .ascii ∧ s'.plan = [(0, .ascii)] ∧ s'.newMode = none)) (S : Sym)
    (hS : firstBigEnough list (s'.cw.length + Enc.asciiSize (body.drop s'.pos)) = some S)
    (hcap : dataCw S = s'.cw.length + r) (hr : r ≤ 2) : SInv P list i0 pre body s' := by
  obtain ⟨X, hX⟩ : ∃ X, ediC b q = 240 :: X := ⟨_, rfl⟩
  have hXl : 1 + X.length = 1 + 3 * q := by
    have := ediC_length b q hq
    rw [hX, List.length_cons] at this
    omega
  have hlen : s'.cw.length = s.cw.length + (1 + X.length) := by
    rw [hcw, hX, List.length_append, List.length_cons]; omega
  have hdone : r = 0 → s'.hasMore = false := by
    intro h0
    have hle := DM.Lemmas.SymbolList.fbe_some_ge _ _ _ hS
    have hl := congrArg List.length (DM.Lemmas.AsciiSize.asciiSize_zero (body.drop s'.pos) (by omega))
    simp only [List.length_drop, List.length_nil] at hl
    simp only [Enc.St.hasMore, hin, decide_eq_false_iff_not]
    omega
  refine ⟨some r, lo - (1 + X.length), _, _,
    smi_stretch mi hmore h0 240 .edifact hP (by simp) (by omega) X (b.take (4 * q)) (by rw [hcw, hX]) hchunk hp hin hli _ _ (by omega) ?_
      ?_ (mi.low_step hmore h0 _ hlen) ?_⟩
  · rcases hend with ⟨hr0, hmf⟩ | ⟨hmA, _, hnm⟩
    · exact Or.inl ⟨by rw [hr0], hmf⟩
    · exact Or.inr (by rw [hnm, hmA]; rfl)
  · intro r' hr'
    cases hr'
    exact ⟨hend.imp_right fun h => ⟨h.1, h.2.1⟩, S, hS, hcap⟩
  · intro cw sD hmD _ hor hsize hsz
    obtain ⟨hsz1, _⟩ := hsz r rfl
    rw [hXl] at hsz1 ⊢
    by_cases hx : r = 0
    · obtain ⟨s1, _⟩ := steps_edi_exact cw sD b q hmD hcc hq (by rw [hX]; exact hor) (by omega)
      rw [emit_latch] at s1
      exact ⟨1 + q, _, .edifact, by omega, s1, Or.inr ⟨by rw [hx], hdone hx⟩⟩
    · have s1 := steps_edi_short cw sD b q hmD hcc hq (by rw [hX]; exact hor) (by omega) (by omega)
      rw [emitE_eq] at s1
      exact ⟨1 + q + 1, _, .ascii, by omega, s1, Or.inl rfl⟩

/-- The three ends: UNLATCH in the last group (`room = none`, `lo = ediNeed`: the codewords
the last group still needs exist in the symbol, `EEnd.unlatch`), the ASCII end game
(`room = some r`, `r ≤ 2`, back to ASCII by the rule "at most two codewords left") and the exact fit
(`room = some 0`, the decoder ends in EDIFACT mode). -/
theorem edi_SInv (P : Mode → Prop) (hP : P .edifact) (list : List Sym) (i0 : Nat) (pre body : List Nat) (s s' : Enc.St)
    (hinv : SInv P list i0 pre body s) (hmore : s.hasMore = true) (hmode : s.mode = .edifact)
    (hplan : ∀ e ∈ s.plan, e.2 = .edifact) (hc : EdiChars (body.drop s.pos))
    (h : Enc.encodeMode (latched s) = .ok s') :
    SInv P list i0 pre body s' := by
  obtain ⟨hnm, lo, tr, lat, mi⟩ := sInv_latched hinv hmore (latch := 240) (by rw [hmode]; rfl)
  have h0 := h
  have hgroups : ∀ q, s.pos + 4 * q ≤ body.length → 4 * q ≤ (bE body s.pos).length ∧
      EdiChars ((bE body s.pos).take (4 * q)) ∧
      body.take (s.pos + 4 * q) = body.take s.pos ++ (bE body s.pos).take (4 * q) := fun q hq =>
    ⟨by simp only [bE, List.length_drop]; omega, fun x hx => hc x (List.mem_of_mem_take hx), List.take_add⟩
  cases edi_call mi.inp mi.lst mi.le hmode hnm hplan hc h with
  | ascii q hq ok eq =>
    obtain ⟨hl, hcc, hchunk⟩ := hgroups q hq
    obtain ⟨_, _, S, hS, hroomS⟩ := ok
    rw [restE_eq] at hS
    have hSge := DM.Lemmas.SymbolList.fbe_some_ge _ _ _ hS
    subst eq
    exact sInv_edi_groups mi hP hmore h0 _ q hl hcc rfl hchunk hq rfl rfl
      (dataCw S - (cwE body s.pos s.cw q).length) (Or.inr ⟨rfl, rfl, rfl⟩) S hS (by simp only [stAscii]; omega)
      (by omega)
  | exact q hq fit cw pos inp lst =>
    obtain ⟨hl, hcc, hchunk⟩ := hgroups q (by omega)
    have hmf : s'.hasMore = false := by simp [Enc.St.hasMore, pos, inp]
    obtain ⟨S, hS, hSeq⟩ := fit
    rw [← cw] at hS hSeq
    refine sInv_edi_groups mi hP hmore h0 _ q hl hcc cw (by rw [pos, ← hq]; exact hchunk)
      (by omega) inp lst 0 (Or.inl ⟨rfl, hmf⟩) S ?_ hSeq (by omega)
    rw [pos, List.drop_length]
    exact hS
  | unlatch q hq hr three eq =>
    have hq4 : (bE body s.pos).length / 4 = q := by
      rw [restE_length] at hr
      simp only [bE, List.length_drop]; omega
    have hcw : s'.cw = s.cw ++ ediSegCw (bE body s.pos) := by
      rw [eq]
      simp only [stAscii, cwE, ediSegCw, restE, hq4, List.append_assoc]
    have hneed : ediNeed (bE body s.pos) = 3 - (ediLast (restE body s.pos q)).length := by
      rw [ediNeed, hq4, restE]
    have hmf : s'.hasMore = false := by rw [eq]; simp [Enc.St.hasMore, stAscii]
    obtain ⟨X, hX⟩ : ∃ X, ediSegCw (bE body s.pos) = 240 :: X := ⟨_, rfl⟩
    have hXl : (ediSegCw (bE body s.pos)).length = 1 + X.length := by rw [hX, List.length_cons]; omega
    have hlen : s'.cw.length = s.cw.length + (1 + X.length) := by rw [hcw, List.length_append, hXl]
    refine ⟨none, max (ediNeed (bE body s.pos)) (lo - (1 + X.length)), _, _,
      smi_stretch mi hmore h0 240 .edifact hP (by simp) (by omega) X (bE body s.pos) (by rw [hcw, hX])
        (by rw [eq]; simp only [stAscii, List.take_length, bE, List.take_append_drop]) (by rw [eq]; exact Nat.le_refl _)
        (by rw [eq]; rfl) (by rw [eq]; rfl) none _ (by omega) (Or.inr (by rw [eq]; rfl))
        (fun r hr => by cases hr) ?_ ?_⟩
    · -- the symbol has the codewords the last group needs (`s'` is the end of the main loop)
      intro _ sE S hr' hS
      have hsE : sE = s' := by
        cases hr' with
        | done _ _ => rfl
        | step _ s2 _ hm2 _ _ => rw [hmf] at hm2; cases hm2
      subst hsE
      have hcwL : sE.cw.length = (cwE body s.pos s.cw q).length + (ediLast (restE body s.pos q)).length := by
        rw [eq]; simp only [stAscii, List.length_append]
      have hr3 := three S (by rw [List.length_append, ← hcwL]; exact hS)
      have a2 : lo - (1 + X.length) ≠ 0 → sE.cw.length + (lo - (1 + X.length)) ≤ dataCw S := fun hl0 =>
        mi.low_step hmore h0 _ hlen hl0 sE S (Reach.done sE hmf) hS
      omega
    · intro cw sD hmD _ hor hsize _
      obtain ⟨k, hk, hs⟩ := specSegE_unlatch (bE body s.pos) hc cw sD hmD (by rw [hX]; exact hor) (by omega)
      rw [hXl, emitE_eq] at hs
      exact ⟨k, _, .ascii, by omega, hs, Or.inl rfl⟩

end DM.Lemmas.SpecMainEdi
