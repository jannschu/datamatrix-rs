import DM.Spec.FinderSpec
import DM.Lemmas.Placement
import DM.Lemmas.Blocks
/-
Region arithmetic of a symbol made of `vRegions × hRegions` regions of `rh × rw` pixels, each with a
border of one pixel. In one dimension `up n` sends a coordinate of the mapping matrix to the pixel
coordinate (`n` the region size with its border) and `down n` is its inverse inside a region. The
standard's classifier `finderPix` is the reference: the border lemmas `fixed_*` say what it gives on the four
sides of a region, and the cells (`finderCells`, `cellPos`, `takes`) are the pixels it numbers.
Namespace: `DM.Lemmas`.
-/
namespace DM.Lemmas
open DM.Model DM.Spec

def toStdRow (r : DM.Gen.SizeRow) : StdRow :=
  ⟨r.height, r.width, r.extraH + 1, r.extraV + 1, r.dataCw, r.blocks * r.eccPer, r.blocks⟩

theorem range_mul (a b : Nat) :
    List.range (a * b) = (List.range a).flatMap fun c => (List.range b).map fun x => c * b + x := by
  induction a with
  | zero => simp
  | succ a ih => rw [Nat.succ_mul, List.range_add, ih, List.range_succ, List.flatMap_append, List.flatMap_singleton]

theorem flatMap_congr {α β} {l : List α} {f g : α → List β} (h : ∀ a ∈ l, f a = g a) : l.flatMap f = l.flatMap g := by
  rw [List.flatMap_def, List.flatMap_def, List.map_congr_left h]

theorem map_range_mul {α} (a b : Nat) (f : Nat → Nat → α) :
    ((List.range (a * b)).map fun k => f (k / b) (k % b)) = (List.range a).flatMap fun c => (List.range b).map (f c) := by
  rw [range_mul, List.map_flatMap]
  refine flatMap_congr fun c _ => ?_
  rw [List.map_map]
  refine List.map_congr_left fun x hx => ?_
  obtain ⟨h1, h2⟩ := div_mod_block c (List.mem_range.mp hx)
  simp only [Function.comp, h1, h2]

def up (n m : Nat) : Nat := m / (n - 2) * n + m % (n - 2) + 1

def down (n x : Nat) : Nat := x / n * (n - 2) + (x % n - 1)

section
variable {n : Nat} (hn : 2 < n)
include hn

theorem up_div_mod (m : Nat) : up n m / n = m / (n - 2) ∧ up n m % n = m % (n - 2) + 1 := by
  have := Nat.mod_lt m (show 0 < n - 2 by omega)
  exact div_mod_block (b := n) (x := m % (n - 2) + 1) (m / (n - 2)) (by omega)

theorem down_up (m : Nat) : down n (up n m) = m := by
  obtain ⟨h1, h2⟩ := up_div_mod hn m
  rw [down, h1, h2, Nat.add_sub_cancel, Nat.div_add_mod']

theorem up_lt {R m : Nat} (hm : m < R * (n - 2)) : up n m < R * n := by
  rw [← Nat.div_lt_iff_lt_mul (Nat.zero_lt_of_lt hn), (up_div_mod hn m).1]
  exact Nat.div_lt_of_lt_mul (by rwa [Nat.mul_comm])

omit hn in
theorem map_up_range (R : Nat) :
    (List.range (R * (n - 2))).map (up n) = (List.range R).flatMap fun c => (List.range (n - 2)).map fun r => c * n + r + 1 :=
  map_range_mul R (n - 2) fun c r => c * n + r + 1

end

/-- row `j / R` of the pieces of `n` pixels that make up rows of `W = R * n` pixels, piece `j % R` -/
theorem piece_eq {R n W : Nat} (hW : W = R * n) (a j : Nat) :
    a * W + W + j * n = (a + (j / R + 1)) * W + j % R * n := by
  have : j * n = j / R * (R * n) + j % R * n := by rw [← Nat.mul_assoc, ← Nat.add_mul, Nat.div_add_mod']
  rw [hW, this, Nat.add_mul, Nat.add_mul, Nat.one_mul]
  omega

/-- `r` is made of regions of `rh × rw` pixels; the parities make the clock tracks, which the standard
describes region by region, functions of the parity of the pixel coordinate. -/
structure Regions (r : StdRow) (rh rw : Nat) : Prop where
  rows : r.rows = r.vRegions * rh
  cols : r.cols = r.hRegions * rw
  vpos : 0 < r.vRegions
  hpos : 0 < r.hRegions
  rh_gt : 2 < rh
  rw_gt : 2 < rw
  rh_even : rh % 2 = 0
  rw_even : rw % 2 = 0

def Fixed (r : StdRow) (q : Nat × Bool) : Prop :=
  q.1 < r.rows * r.cols ∧ finderPix r (q.1 / r.cols) (q.1 % r.cols) = if q.2 then .dark else .light

theorem Fixed.unique {r : StdRow} {p : Nat} {b b' : Bool} (h : Fixed r (p, b)) (h' : Fixed r (p, b')) : b = b' := by
  have := h.2.symm.trans h'.2
  cases b <;> cases b' <;> first | rfl | cases this

theorem foldl_setBit_eq_setBits (P : Nat → Prop) [DecidablePred P] (l : List Nat) (m : Nat) :
    l.foldl (fun m p => if P p then m ||| (1 <<< p) else m) m = setBits m (l.filter fun p => decide (P p)) := by
  induction l generalizing m with
  | nil => rfl
  | cons a l ih =>
    rw [List.foldl_cons, ih, List.filter_cons]
    by_cases h : P a
    · rw [if_pos h, if_pos (decide_eq_true h)]; rfl
    · rw [if_neg h, if_neg (by simpa using h)]

theorem testBit_finderDark (r : StdRow) (p : Nat) : (finderDark r).testBit p = true ↔ Fixed r (p, true) := by
  rw [finderDark, foldl_setBit_eq_setBits, testBit_setBits, Nat.zero_testBit, Bool.false_or, List.contains_iff_mem,
    List.mem_filter, List.mem_range, decide_eq_true_iff]
  rfl

section
variable {r : StdRow} {rh rw : Nat} (G : Regions r rh rw)
include G

theorem Regions.div_rows : r.rows / r.vRegions = rh := by rw [G.rows, Nat.mul_div_cancel_left _ G.vpos]

theorem Regions.div_cols : r.cols / r.hRegions = rw := by rw [G.cols, Nat.mul_div_cancel_left _ G.hpos]

theorem Regions.mapRows : r.mapRows = r.vRegions * (rh - 2) := by
  rw [StdRow.mapRows, G.rows, Nat.mul_sub, Nat.mul_comm 2]

theorem Regions.mapCols : r.mapCols = r.hRegions * (rw - 2) := by
  rw [StdRow.mapCols, G.cols, Nat.mul_sub, Nat.mul_comm 2]

theorem Regions.rows_even : r.rows % 2 = 0 := by
  rw [G.rows, Nat.mul_mod, G.rh_even, Nat.mul_zero]

theorem Regions.cols_even : r.cols % 2 = 0 := by
  rw [G.cols, Nat.mul_mod, G.rw_even, Nat.mul_zero]

theorem finderPix_eq (i j : Nat) : finderPix r i j =
    if j % rw = 0 then .dark
    else if i % rh = rh - 1 then .dark
    else if i % rh = 0 then (if j % rw % 2 = 0 then .dark else .light)
    else if j % rw = rw - 1 then (if i % rh % 2 = 1 then .dark else .light)
    else .cell (down rh i * r.mapCols + down rw j) := by
  simp only [finderPix, G.div_rows, G.div_cols]
  rfl

theorem finderPix_left {i j : Nat} (hj : j % rw = 0) : finderPix r i j = .dark := by
  rw [finderPix_eq G, if_pos hj]

theorem finderPix_bottom {i j : Nat} (hi : i % rh = rh - 1) : finderPix r i j = .dark := by
  rw [finderPix_eq G, if_pos hi, ite_self]

theorem finderPix_top {i j : Nat} (hi : i % rh = 0) : finderPix r i j = if j % 2 = 0 then .dark else .light := by
  have h2 : j % rw % 2 = j % 2 := Nat.mod_mod_of_dvd j (Nat.dvd_of_mod_eq_zero G.rw_even)
  have hr := G.rh_gt
  rw [finderPix_eq G, if_neg (by omega : ¬ i % rh = rh - 1), if_pos hi, h2]
  split
  · rw [if_pos (by omega)]
  · rfl

theorem finderPix_right {i j : Nat} (hj : j % rw = rw - 1) :
    finderPix r i j = if i % 2 = 1 then .dark else .light := by
  have hw := G.rw_gt
  have hh := G.rh_gt
  have hwo : (rw - 1) % 2 = 1 := by have := G.rw_even; omega
  have hho : (rh - 1) % 2 = 1 := by have := G.rh_even; omega
  -- `u`, the pixel row inside the region, has the parity of `i`; the last row and the last column are odd
  rw [finderPix_eq G, hj, if_neg (show ¬ rw - 1 = 0 by omega), hwo,
    ← Nat.mod_mod_of_dvd i (Nat.dvd_of_mod_eq_zero G.rh_even)]
  generalize i % rh = u
  by_cases h1 : u = rh - 1
  · rw [if_pos h1, h1, hho, if_pos rfl]
  by_cases h0 : u = 0
  · rw [if_neg h1, if_pos h0, h0]; rfl
  · rw [if_neg h1, if_neg h0, if_pos rfl]

theorem finderPix_cell {i j : Nat} (h0 : i % rh ≠ 0) (h1 : i % rh ≠ rh - 1) (h2 : j % rw ≠ 0) (h3 : j % rw ≠ rw - 1) :
    finderPix r i j = .cell (down rh i * r.mapCols + down rw j) := by
  rw [finderPix_eq G, if_neg h2, if_neg h1, if_neg h0, if_neg h3]

omit G in
theorem finderPix_idx (i : Nat) {j : Nat} (hj : j < r.cols) :
    finderPix r ((i * r.cols + j) / r.cols) ((i * r.cols + j) % r.cols) = finderPix r i j := by
  obtain ⟨h1, h2⟩ := div_mod_block i hj
  rw [h1, h2]

omit G in
theorem fixed_at {i j : Nat} {b : Bool} (hi : i < r.rows) (hj : j < r.cols)
    (h : finderPix r i j = if b then .dark else .light) : Fixed r (i * r.cols + j, b) :=
  ⟨block_lt hi hj, by rw [finderPix_idx _ hj]; exact h⟩

theorem fixed_bottom {c x : Nat} (hc : c < r.vRegions) (hx : x < r.cols) :
    Fixed r ((c * rh + (rh - 1)) * r.cols + x, true) :=
  have hr := G.rh_gt
  fixed_at (G.rows ▸ block_lt hc (by omega)) hx (finderPix_bottom G (div_mod_block c (by omega)).2)

theorem fixed_top {c x : Nat} (hc : c < r.vRegions) (hx : x < r.cols) : Fixed r (c * rh * r.cols + x, x % 2 == 0) :=
  have hr := G.rh_gt
  fixed_at (G.rows ▸ (Nat.mul_lt_mul_right (by omega)).mpr hc) hx
    ((finderPix_top G (Nat.mul_mod_left _ _)).trans (by simp only [beq_iff_eq]))

theorem fixed_left {i pc : Nat} (hi : i < r.rows) (hpc : pc < r.hRegions) : Fixed r (i * r.cols + pc * rw, true) :=
  have hr := G.rw_gt
  fixed_at hi (G.cols ▸ (Nat.mul_lt_mul_right (by omega)).mpr hpc) (finderPix_left G (Nat.mul_mod_left _ _))

theorem fixed_right {i pc : Nat} (hi : i < r.rows) (hpc : pc < r.hRegions) :
    Fixed r (i * r.cols + (pc * rw + (rw - 1)), i % 2 == 1) :=
  have hr := G.rw_gt
  fixed_at hi (G.cols ▸ block_lt hpc (by omega))
    ((finderPix_right G (div_mod_block pc (by omega)).2).trans (by simp only [beq_iff_eq]))

theorem finderCells_eq_map : finderCells r =
    (List.range (r.mapRows * r.mapCols)).map fun k => up rh (k / r.mapCols) * r.cols + up rw (k % r.mapCols) := by
  simp only [finderCells, G.div_rows, G.div_cols]
  rfl

theorem finderCells_eq : finderCells r =
    (List.range r.mapRows).flatMap fun mi => (List.range r.mapCols).map fun mj => up rh mi * r.cols + up rw mj := by
  rw [finderCells_eq_map G]
  exact map_range_mul _ _ fun mi mj => up rh mi * r.cols + up rw mj

theorem finderCells_eq_regions : finderCells r =
    (List.range r.vRegions).flatMap fun c => (List.range (rh - 2)).flatMap fun t =>
      (List.range r.hRegions).flatMap fun pc => (List.range (rw - 2)).map fun x =>
        (c * rh + t + 1) * r.cols + (pc * rw + x + 1) := by
  -- rows and columns first (`map_up_range` for each), pixels `i * cols + j` of the pairs after;
  -- either side of each step is the same nested loop, up to the laws of `flatMap` and `map`
  calc finderCells r
      = ((List.range (r.vRegions * (rh - 2))).map (up rh)).flatMap fun i =>
          ((List.range (r.hRegions * (rw - 2))).map (up rw)).map fun j => i * r.cols + j := by
        simp only [finderCells_eq G, G.mapRows, G.mapCols, List.flatMap_map, List.map_map, Function.comp_def]
    _ = _ := by
        simp only [map_up_range, List.flatMap_assoc, List.flatMap_map, List.map_flatMap, List.map_map,
          Function.comp_def]

theorem finderPix_up (mi mj : Nat) :
    finderPix r (up rh mi) (up rw mj) = .cell (mi * r.mapCols + mj) := by
  obtain ⟨_, hi⟩ := up_div_mod G.rh_gt mi
  obtain ⟨_, hj⟩ := up_div_mod G.rw_gt mj
  have := Nat.mod_lt mi (show 0 < rh - 2 by have := G.rh_gt; omega)
  have := Nat.mod_lt mj (show 0 < rw - 2 by have := G.rw_gt; omega)
  rw [finderPix_cell G (by omega) (by omega) (by omega) (by omega), down_up G.rh_gt, down_up G.rw_gt]

theorem finderPix_cellAt {k : Nat} (hk : k < r.mapRows * r.mapCols) :
    finderPix r ((up rh (k / r.mapCols) * r.cols + up rw (k % r.mapCols)) / r.cols)
      ((up rh (k / r.mapCols) * r.cols + up rw (k % r.mapCols)) % r.cols) = .cell k := by
  have hm : k % r.mapCols < r.mapCols := Nat.mod_lt _ (Nat.pos_of_mul_pos_left (Nat.zero_lt_of_lt hk))
  rw [finderPix_idx _ (G.cols ▸ up_lt G.rw_gt (G.mapCols ▸ hm)), finderPix_up G, Nat.div_add_mod']

theorem finderCells_nodup : (finderCells r).Nodup := by
  rw [finderCells_eq_map G, List.nodup_iff_pairwise_ne, List.pairwise_map]
  refine List.pairwise_lt_range.imp_of_mem fun {a b} ha hb hab e => ?_
  have := finderPix_cellAt G (List.mem_range.mp ha)
  rw [e, finderPix_cellAt G (List.mem_range.mp hb), Pix.cell.injEq] at this
  omega

theorem finderPix_of_mem_finderCells {p : Nat} (hp : p ∈ finderCells r) :
    ∃ k, finderPix r (p / r.cols) (p % r.cols) = .cell k := by
  rw [finderCells_eq_map G, List.mem_map] at hp
  obtain ⟨k, hk, rfl⟩ := hp
  exact ⟨k, finderPix_cellAt G (List.mem_range.mp hk)⟩

theorem finderCells_lt {p : Nat} (hp : p ∈ finderCells r) : p < r.rows * r.cols := by
  have hh := G.rh_gt
  have hw := G.rw_gt
  simp only [finderCells_eq_regions G, List.mem_flatMap, List.mem_map, List.mem_range] at hp
  obtain ⟨c, hc, t, ht, pc, hpc, x, hx, rfl⟩ := hp
  exact block_lt (G.rows ▸ block_lt hc (show t + 1 < rh by omega)) (G.cols ▸ block_lt hpc (show x + 1 < rw by omega))

end

theorem up_eq {n : Nat} (hn : 2 < n) (i : Nat) : i + 1 + i / (n - 2) * 2 = up n i := by
  obtain ⟨k, rfl⟩ : ∃ k, n = k + 2 := ⟨n - 2, by omega⟩
  have := Nat.div_add_mod' i k
  rw [up, Nat.add_sub_cancel, Nat.mul_add]
  omega

theorem blk_eq {R : Nat} (hR : 0 < R) (n : Nat) : (R * n - 2 * R) / R = n - 2 := by
  rw [Nat.mul_comm 2, ← Nat.mul_sub, Nat.mul_div_cancel_left _ hR]

section
variable {s : Sym} {rh rw : Nat} (G : Regions (toStdRow (row s)) rh rw)
include G

theorem fdims_eq : fdims s = ⟨((row s).extraV + 1) * rw, ((row s).extraH + 1) * rh,
    ((row s).extraV + 1) * (rw - 2), ((row s).extraH + 1) * (rh - 2), (row s).extraV, (row s).extraH⟩ := by
  have h1 : (row s).height = ((row s).extraH + 1) * rh := G.rows
  have h2 : (row s).width = ((row s).extraV + 1) * rw := G.cols
  simp only [fdims, contentWidth, contentHeight, h1, h2, FDims.mk.injEq, true_and, and_true, Nat.mul_sub]
  omega

theorem cellPos_eq_finderCells : cellPos s = finderCells (toStdRow (row s)) := by
  rw [finderCells_eq_map G, cellPos, fdims_eq G, G.mapRows, G.mapCols, G.cols]
  simp only [toStdRow, blk_eq (Nat.succ_pos _), up_eq G.rh_gt, up_eq G.rw_gt]
  rw [Nat.mul_comm (_ * (rw - 2))]

theorem takes_eq_finderCells : takes s = finderCells (toStdRow (row s)) := by
  have hh : 2 ≤ rh := Nat.le_of_succ_le G.rh_gt
  have hw : 2 ≤ rw := Nat.le_of_succ_le G.rw_gt
  rw [finderCells_eq_regions G, G.cols, takes, fdims_eq G]
  simp only [toStdRow, Nat.mul_div_cancel_left _ (Nat.succ_pos _), Nat.sub_add_cancel hh, Nat.sub_add_cancel hw,
    range_mul (rh - 2), List.flatMap_assoc, List.flatMap_map]
  refine flatMap_congr fun c _ => flatMap_congr fun t _ => flatMap_congr fun pc _ => List.map_congr_left fun x _ => ?_
  simp only [Nat.add_mul, Nat.mul_assoc, Nat.one_mul]
  omega

end

end DM.Lemmas
