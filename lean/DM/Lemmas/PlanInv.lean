import DM.Lemmas.PlanStep
/-!
Invariants of the planner model: what every live plan satisfies at iteration `k` of `optimize`
(it has read exactly `k` characters of the same data, its mode-local state is consistent: `Core`; its switch list is
well formed: `SwOK`), and what one `step()` does to it, forward (`step_spec`: no panic, and the result is `Core`
again) and for a step whose result is known (`step_some_spec`); the facts on the mode of a plan. `add_switches` is
`PlanSwitch`, the loop `PlanRounds`.
Namespaces: `PlanInv`, `Couple` (`ctxAt`, `SwitchPoint`).
-/
namespace DM.Lemmas.PlanInv
open DM.Model DM.Model.Plan DM.Model.Enc DM.Lemmas.PlanStep

def pctx : PlanImpl → Ctx
  | .ascii p => p.ctx | .c40 p => p.ctx | .x12 p => p.ctx | .edifact p => p.ctx | .base256 p => p.ctx

def CtxAt (data : List Nat) (list : List Sym) (k : Nat) (c : Ctx) : Prop :=
  c.data = data ∧ c.list = list ∧ c.pos = k

def digitsFrom (data : List Nat) (k : Nat) : Nat := ((data.drop k).takeWhile isDigit).length

def Local (data : List Nat) (k : Nat) : PlanImpl → Prop
  | .ascii p => p.digitsAhead ≤ digitsFrom data k
  | .c40 p => p.values ≤ 2
  | _ => True

def Core (data : List Nat) (list : List Sym) (k : Nat) (pl : PlanImpl) : Prop :=
  CtxAt data list k (pctx pl) ∧ k ≤ data.length ∧ Local data k pl

/-- the assertions of `write_unlatch` that only the `unbeatable` flag of a step guards (`switchPoint_allowed`); with `Core` and
a `switchCost` they are all of them (`PlanSwitch.CanLeave`, `canLeave_of`) -/
def Allowed : PlanImpl → Prop
  | .ascii p => p.digitsAhead = 0
  | .x12 p => p.asciiEnd = none
  | .edifact p => p.asciiEnd = none
  | _ => True

/-- characters read after one more `step()` -/
def nxt (data : List Nat) (k : Nat) : Nat := if k < data.length then k + 1 else k

theorem ctxAt_write {data list k c} (h : CtxAt data list k c) (n : Nat) : CtxAt data list k (c.write n) := h

theorem ctxAt_eat {data list k c} (h : CtxAt data list k c) : CtxAt data list (k + 1) c.eat := by
  obtain ⟨a, b, c'⟩ := h
  exact ⟨a, b, by simp [Ctx.eat, c']⟩

theorem hasMore_iff {data list k c} (h : CtxAt data list k c) : c.hasMore = decide (k < data.length) := by
  obtain ⟨a, _, c'⟩ := h
  simp [Ctx.hasMore, a, c']

theorem rest_eq {data list k c} (h : CtxAt data list k c) : c.rest = data.drop k := by
  obtain ⟨a, _, c'⟩ := h
  simp [Ctx.rest, a, c']

theorem charsLeft_eq {data list k c} (h : CtxAt data list k c) : c.charsLeft = data.length - k := by
  obtain ⟨a, _, c'⟩ := h
  simp [Ctx.charsLeft, a, c']

theorem peek_eq {data list k c} (h : CtxAt data list k c) : c.peek = data.getD k 0 := by
  obtain ⟨a, _, c'⟩ := h
  simp [Ctx.peek, a, c']

theorem digitsFrom_end {data : List Nat} {k : Nat} (hk : ¬ k < data.length) : digitsFrom data k = 0 := by
  unfold digitsFrom
  rw [List.drop_eq_nil_of_le (by omega)]
  rfl

theorem digitsFrom_pos {data : List Nat} {k : Nat} (hk : k < data.length) (h : 0 < digitsFrom data k) :
    isDigit (data.getD k 0) = true ∧ digitsFrom data (k + 1) = digitsFrom data k - 1 := by
  unfold digitsFrom at *
  rw [List.drop_eq_getElem_cons hk] at h ⊢
  rw [List.takeWhile_cons] at h ⊢
  have hg : data.getD k 0 = data[k] := by simp [List.getD, List.getElem?_eq_getElem hk]
  rw [hg]
  by_cases hd : isDigit data[k] = true
  · simp [hd]
  · simp [hd] at h

theorem twoDigits_iff (body : List Nat) (q : Nat) :
    twoDigitsComing (body.drop q) = true ↔ 2 ≤ digitsFrom body q := by
  unfold digitsFrom
  generalize body.drop q = l
  match l with
  | [] => simp [twoDigitsComing]
  | [a] =>
    simp only [twoDigitsComing, List.takeWhile_cons, List.takeWhile_nil]
    split <;> simp
  | a :: b :: t =>
    simp only [twoDigitsComing, List.takeWhile_cons]
    by_cases ha : isDigit a = true <;> by_cases hb : isDigit b = true <;> simp [ha, hb]

theorem nxt_lt {data : List Nat} {k : Nat} (h : k < data.length) : nxt data k = k + 1 := if_pos h

theorem nxt_end {data : List Nat} {k : Nat} (h : ¬ k < data.length) : nxt data k = k := if_neg h

theorem hasMore_lt {data list k c} (h : CtxAt data list k c) (hlt : k < data.length) : c.hasMore = true := by
  rw [hasMore_iff h]; simpa using hlt

theorem hasMore_end {data list k c} (h : CtxAt data list k c) (hk : ¬ k < data.length) : c.hasMore = false := by
  rw [hasMore_iff h]; simpa using hk

theorem asciiAhead_spec {data : List Nat} {list : List Sym} {k : Nat} {p : AsciiP} (hc : CtxAt data list k p.ctx)
    (hl : p.digitsAhead ≤ digitsFrom data k) :
    CtxAt data list k (asciiAhead p).ctx ∧ (asciiAhead p).digitsAhead ≤ digitsFrom data k ∧
    (asciiAhead p).cost = p.cost ∧
    (asciiAhead p).digitsAhead = (if p.digitsAhead = 0 then digitsFrom data k / 2 * 2 else p.digitsAhead) ∧
    (asciiAhead p).ctx.written = p.ctx.written + (if p.digitsAhead = 0 then digitsFrom data k / 2 else 0) := by
  unfold asciiAhead
  split
  · rename_i h0
    have hd : (p.ctx.rest.takeWhile isDigit).length = digitsFrom data k := by rw [rest_eq hc]; rfl
    simp only [hd, Ctx.write]
    exact ⟨hc, by omega, trivial, trivial, by omega⟩
  · exact ⟨hc, hl, rfl, rfl, rfl⟩

/-- what reading the character at `q` does to an ASCII plan: a single character, the first digit of a run of pairs
found by the look-ahead, or the next digit of the pairs already announced -/
def AsciiRead (body : List Nat) (q : Nat) (P P1 : AsciiP) : Prop :=
  (P.digitsAhead = 0 ∧ digitsFrom body q < 2 ∧ P1.digitsAhead = 0 ∧
      P1.ctx.written = P.ctx.written + (if body.getD q 0 ≤ 127 then 1 else 2) ∧
      P1.cost = P.cost + 12 * (if body.getD q 0 ≤ 127 then 1 else 2)) ∨
  (P.digitsAhead = 0 ∧ 2 ≤ digitsFrom body q ∧ P1.digitsAhead = digitsFrom body q / 2 * 2 - 1 ∧
      P1.ctx.written = P.ctx.written + digitsFrom body q / 2 ∧ P1.cost = P.cost + 6) ∨
  (0 < P.digitsAhead ∧ P1.digitsAhead = P.digitsAhead - 1 ∧ P1.ctx.written = P.ctx.written ∧
      P1.cost = P.cost + 6)

theorem asciiStep_spec {data list k} (p : AsciiP) (hc : CtxAt data list k p.ctx)
    (hl : p.digitsAhead ≤ digitsFrom data k) :
    ∃ p' r, asciiStep p = .ok (p', r) ∧ CtxAt data list (nxt data k) p'.ctx ∧
      p'.digitsAhead ≤ digitsFrom data (nxt data k) ∧ r.end = decide (¬ k < data.length) ∧
      (p.digitsAhead ≠ 0 → r.unbeatable = true) ∧
      (if k < data.length then AsciiRead data k p p' else p'.cost = p.cost) := by
  obtain ⟨hqc, hql, hcost, hqd, hqw⟩ := asciiAhead_spec hc hl
  rw [asciiStep_eq, hasMore_iff hqc]
  by_cases hlt : k < data.length
  · simp only [hlt, decide_true, Bool.true_eq_false, ↓reduceIte, nxt]
    by_cases hd : (asciiAhead p).digitsAhead > 0
    · have hdig := digitsFrom_pos hlt (by omega : 0 < digitsFrom data k)
      rw [if_pos hd, peek_eq hqc, hdig.1]
      refine ⟨_, _, rfl, ctxAt_eat hqc, by simp only [hdig.2]; omega, by simp, fun _ => rfl, ?_⟩
      by_cases h0 : p.digitsAhead = 0
      · rw [if_pos h0] at hqd hqw
        exact .inr (.inl ⟨h0, by omega, by simp only [hqd], by simp only [Ctx.eat, hqw], by simp only [hcost]⟩)
      · rw [if_neg h0] at hqd hqw
        exact .inr (.inr ⟨by omega, by simp only [hqd], by simp only [Ctx.eat, hqw]; omega, by simp only [hcost]⟩)
    · rw [if_neg hd, peek_eq hqc]
      have h0 : p.digitsAhead = 0 := Decidable.byContradiction fun h0 => hd (by rw [hqd, if_neg h0]; omega)
      rw [if_pos h0] at hqd hqw
      refine ⟨_, _, rfl, ctxAt_write (ctxAt_eat hqc) _, by simp only []; omega, by simp, fun h => absurd h0 h,
        .inl ⟨h0, by omega, by simp only []; omega, ?_, by simp only [hcost]⟩⟩
      simp only [Ctx.write, Ctx.eat, hqw]; omega
  · simp only [hlt, decide_false, ↓reduceIte, nxt]
    exact ⟨_, _, rfl, hqc, hql, by simp, fun h => by rw [hqd, if_neg h]; simpa using Nat.pos_of_ne_zero h, hcost⟩

theorem asciiStep_elim {body : List Nat} {list : List Sym} {q : Nat} (P P1 : AsciiP) (r : StepResult)
    (hc : CtxAt body list q P.ctx) (hl : P.digitsAhead ≤ digitsFrom body q)
    (hs : asciiStep P = .ok (P1, r)) (he : r.end = false) :
    q < body.length ∧ CtxAt body list (q + 1) P1.ctx ∧ P1.digitsAhead ≤ digitsFrom body (q + 1) ∧
      AsciiRead body q P P1 := by
  obtain ⟨p', r', e1, e2, e3, e4, _, e6⟩ := asciiStep_spec P hc hl
  rw [hs] at e1
  cases e1
  have hlt : q < body.length := by rw [e4] at he; simpa using he
  rw [nxt_lt hlt] at e2 e3
  rw [if_pos hlt] at e6
  exact ⟨hlt, e2, e3, e6⟩

theorem c40Init_end {data list k} (p : C40P) (hc : CtxAt data list k p.ctx) (hk : ¬ k < data.length) :
    ∃ q, c40Init p = some q := by
  have hr : p.ctx.rest = [] := by rw [rest_eq hc]; exact List.drop_eq_nil_of_le (by omega)
  unfold c40Init
  split
  · have : c40TwoDigit p = some p := by unfold c40TwoDigit; rw [hr]
    rw [this]; exact ⟨_, rfl⟩
  · exact ⟨_, rfl⟩

theorem c40Step_spec {data list k} (p : C40P) (hc : CtxAt data list k p.ctx) (hv : p.values ≤ 2) :
    match c40Step p with
    | none => k < data.length
    | some (p', r) => CtxAt data list (nxt data k) p'.ctx ∧ p'.values ≤ 2 ∧ p'.text = p.text ∧
        r.end = decide (¬ k < data.length) := by
  cases hi : c40Init p with
  | none =>
    rw [show c40Step p = none by simp only [c40Step, hi]]
    exact Classical.byContradiction fun hlt => by
      obtain ⟨q, hq⟩ := c40Init_end p hc hlt
      rw [hq] at hi; cases hi
  | some q =>
    -- the look-ahead leaves position, values and mode alone
    obtain ⟨u, t, n, rfl⟩ := c40Init_some hi
    have hqc : CtxAt data list k (p.ctx.write n) := ctxAt_write hc n
    by_cases hlt : k < data.length
    · rw [c40Step_read hi (hasMore_lt hqc hlt) hv]
      simp only [nxt, hlt, ↓reduceIte]
      refine ⟨?_, Nat.le_of_lt_succ (Nat.mod_lt _ (by decide)), trivial, by simp⟩
      split
      · exact ctxAt_eat hqc
      · exact ctxAt_write (ctxAt_eat hqc) _
    · rw [c40Step_end hi (hasMore_end hqc hlt)]
      simp only [nxt, hlt, ↓reduceIte]
      exact ⟨hqc, hv, trivial, by simp⟩

theorem x12Step_spec {data list k} (p : X12P) (hc : CtxAt data list k p.ctx) :
    match x12Step p with
    | .ok none => k < data.length ∧ p.asciiEnd = none
    | .ok (some (p', r)) => CtxAt data list (nxt data k) p'.ctx ∧ r.end = decide (¬ k < data.length) ∧
        (p.asciiEnd ≠ none → r.unbeatable = true)
    | .error _ => False := by
  have h := x12Step_cases p
  have hm := hasMore_iff hc
  cases hs : x12Step p with
  | error e => rw [hs] at h; exact h
  | ok o =>
    rw [hs] at h
    cases o with
    | none => exact ⟨by rw [hm] at h; simpa using h.1, h.2.1⟩
    | some pr =>
      obtain ⟨p', r⟩ := pr
      rcases h with ⟨h1, rfl, rfl⟩ | ⟨h1, hr⟩
      · have hlt : ¬ k < data.length := by rw [hm] at h1; simpa using h1
        rw [nxt_end hlt]
        exact ⟨hc, by simp [hlt], fun h => by simpa [Option.isSome_iff_ne_none] using h⟩
      · have hlt : k < data.length := by rw [hm] at h1; simpa using h1
        rw [nxt_lt hlt]
        cases hr with
        | asc f ha => exact ⟨ctxAt_eat hc, by simp [hlt], fun _ => rfl⟩
        | fire c0 hv ha h2 hE => exact ⟨ctxAt_eat hc, by simp [hlt], fun _ => rfl⟩
        | nat hcn ha hn => exact ⟨⟨hc.1, hc.2.1, by simp [hc.2.2]⟩, by simp [hlt], fun h => absurd ha h⟩

theorem ediInit_spec {data list k} (p : EdiP) (hc : CtxAt data list k p.ctx) (hlt : k < data.length) :
    (ediInit p = .ok none ∧ p.asciiEnd = none) ∨
    ∃ q, ediInit p = .ok (some q) ∧ CtxAt data list k q.ctx ∧ (p.asciiEnd ≠ none → q.asciiEnd ≠ none) := by
  rw [ediInit_eq p (by rw [charsLeft_eq hc]; omega)]
  split
  · rename_i h
    cases p.ctx.sizeLeft (asciiSize p.ctx.rest) with
    | none => exact .inl ⟨rfl, h.2.2.1⟩
    | some sl =>
      refine .inr ⟨_, rfl, ?_, fun hne => absurd h.2.2.1 hne⟩
      dsimp only
      split <;> exact hc
  · exact .inr ⟨_, rfl, hc, id⟩

theorem ediStep_spec {data list k} (p : EdiP) (hc : CtxAt data list k p.ctx) :
    match ediStep p with
    | .ok none => k < data.length ∧ p.asciiEnd = none
    | .ok (some (p', r)) => CtxAt data list (nxt data k) p'.ctx ∧ r.end = decide (¬ k < data.length) ∧
        (p.asciiEnd ≠ none → r.unbeatable = true)
    | .error _ => False := by
  by_cases hlt : k < data.length
  · have hm : p.ctx.hasMore = true := hasMore_lt hc hlt
    rw [nxt_lt hlt]
    rcases ediInit_spec p hc hlt with ⟨h, ha⟩ | ⟨q, hq, hqc, hqa⟩
    · rw [ediStep_dead p hm h]
      exact ⟨hlt, ha⟩
    · cases hqe : q.asciiEnd with
      | some f =>
        rw [ediStep_portion p q f hm hq hqe]
        exact ⟨ctxAt_eat hqc, by simp [hlt], fun _ => rfl⟩
      | none =>
        have hpa : p.asciiEnd = none := Classical.byContradiction fun ha => hqa ha hqe
        rw [ediStep_value p q hm hq hqe]
        cases ediEncodable q.ctx.peek with
        | false => exact ⟨hlt, hpa⟩
        | true => exact ⟨⟨hqc.1, hqc.2.1, by simp [hqc.2.2]⟩, by simp [hlt], fun ha => absurd hpa ha⟩
  · have hm : p.ctx.hasMore = false := hasMore_end hc hlt
    rw [ediStep_end p hm, nxt_end hlt]
    exact ⟨hc, by simp [hlt], fun h => by simpa [Option.isSome_iff_ne_none] using h⟩

theorem b256Step_spec {data list k} (p : B256P) (hc : CtxAt data list k p.ctx) :
    match b256Step p with
    | none => k < data.length
    | some (p', r) => CtxAt data list (nxt data k) p'.ctx ∧ r.end = decide (¬ k < data.length) := by
  rw [b256Step_eq, hasMore_iff hc]
  by_cases hlt : k < data.length
  · simp only [hlt, nxt, decide_true, ↓reduceIte, reduceCtorEq]
    by_cases hw : p.written + 1 = 1556
    · rw [if_pos hw]; trivial
    · rw [if_neg hw]; exact ⟨ctxAt_write (ctxAt_eat hc) _, by simp⟩
  · simp only [hlt, nxt, decide_false, ↓reduceIte]
    exact ⟨hc, by simp⟩

theorem nxt_le {data : List Nat} {k : Nat} (h : k ≤ data.length) : nxt data k ≤ data.length := by
  unfold nxt; split <;> omega

theorem step_spec {data list k} (g : GPlan) (h : Core data list k g.plan) :
    (g.step = .ok none ∧ k < data.length ∧ Allowed g.plan) ∨
    ∃ g' r, g.step = .ok (some (g', r)) ∧ g'.switches = g.switches ∧ g'.extra = g.extra ∧
      g'.current = g.current ∧ Core data list (nxt data k) g'.plan ∧
      r.end = decide (¬ k < data.length) ∧ (¬ Allowed g.plan → r.unbeatable = true) := by
  obtain ⟨hc, hk, hl⟩ := h
  unfold GPlan.step
  cases hp : g.plan with
  | ascii p =>
    rw [hp] at hc hl
    obtain ⟨p', r, h1, h2, h3, h4, h5, _⟩ := asciiStep_spec p hc hl
    right
    simp only [h1]
    exact ⟨_, _, rfl, rfl, rfl, by simp [GPlan.current, PlanImpl.mode, hp], ⟨h2, nxt_le hk, h3⟩, h4,
      fun hna => h5 hna⟩
  | c40 p =>
    rw [hp] at hc hl
    have h := c40Step_spec p hc hl
    dsimp only
    generalize c40Step p = o at h
    rcases o with _ | ⟨p', r⟩
    · left; exact ⟨rfl, h, trivial⟩
    · right
      exact ⟨_, _, rfl, rfl, rfl, by simp [GPlan.current, PlanImpl.mode, hp, h.2.2.1], ⟨h.1, nxt_le hk, h.2.1⟩, h.2.2.2,
        fun hna => absurd trivial hna⟩
  | x12 p =>
    rw [hp] at hc
    have h := x12Step_spec p hc
    dsimp only
    generalize x12Step p = o at h
    rcases o with e | _ | ⟨p', r⟩
    · exact h.elim
    · left; exact ⟨rfl, h.1, h.2⟩
    · right
      exact ⟨_, _, rfl, rfl, rfl, by simp [GPlan.current, PlanImpl.mode, hp], ⟨h.1, nxt_le hk, trivial⟩, h.2.1,
        fun hna => h.2.2 hna⟩
  | edifact p =>
    rw [hp] at hc
    have h := ediStep_spec p hc
    dsimp only
    generalize ediStep p = o at h
    rcases o with e | _ | ⟨p', r⟩
    · exact h.elim
    · left; exact ⟨rfl, h.1, h.2⟩
    · right
      exact ⟨_, _, rfl, rfl, rfl, by simp [GPlan.current, PlanImpl.mode, hp], ⟨h.1, nxt_le hk, trivial⟩, h.2.1,
        fun hna => h.2.2 hna⟩
  | base256 p =>
    rw [hp] at hc
    have h := b256Step_spec p hc
    dsimp only
    generalize b256Step p = o at h
    rcases o with _ | ⟨p', r⟩
    · left; exact ⟨rfl, h, trivial⟩
    · right
      exact ⟨_, _, rfl, rfl, rfl, by simp [GPlan.current, PlanImpl.mode, hp], ⟨h.1, nxt_le hk, trivial⟩, h.2,
        fun hna => absurd trivial hna⟩

theorem newPlan_core {data list k} (m : EMode) (ctx : Ctx) (hc : CtxAt data list k ctx) (hk : k ≤ data.length) :
    Core data list k (newPlan m ctx) ∧ (newPlan m ctx).mode = m := by
  cases m <;> exact ⟨⟨hc, hk, by simp [Local, newPlan]⟩, rfl⟩

theorem plan_of_current (g : GPlan) :
    match g.current with
    | .ascii => ∃ P, g.plan = .ascii P
    | .base256 => ∃ p, g.plan = .base256 p
    | .x12 => ∃ p, g.plan = .x12 p
    | _ => True := by
  unfold GPlan.current
  cases g.plan with
  | c40 p => cases h : p.text <;> simp only [PlanImpl.mode, h] <;> trivial
  | ascii p => exact ⟨p, rfl⟩
  | x12 p => exact ⟨p, rfl⟩
  | edifact p => trivial
  | base256 p => exact ⟨p, rfl⟩

theorem current_x12 {g : GPlan} {p : X12P} (h : g.plan = .x12 p) : g.current = .x12 := by
  simp only [GPlan.current, h, PlanImpl.mode]

theorem switchCost_none {g : GPlan} (h : g.switchCost = none) : ∃ p, g.plan = .x12 p ∧ p.values ≠ 0 := by
  unfold GPlan.switchCost at h
  cases hp : g.plan with
  | x12 p =>
    rw [hp] at h
    simp only [] at h
    split at h
    · cases h
    · rename_i hv; exact ⟨p, rfl, hv⟩
  | ascii p => rw [hp] at h; cases h
  | c40 p => rw [hp] at h; cases h
  | edifact p => rw [hp] at h; cases h
  | base256 p => rw [hp] at h; cases h

theorem costFor_same {g : GPlan} {m : EMode} (h : g.current = m) : g.costForSwitchingTo m = some g.cost := by
  unfold GPlan.costForSwitchingTo
  rw [if_pos h]

theorem costFor_ne {g : GPlan} {m : EMode} (h : g.current ≠ m) :
    g.costForSwitchingTo m = g.switchCost.map (· + match m with | .ascii => 0 | .base256 => 24 | _ => 12) := by
  unfold GPlan.costForSwitchingTo
  rw [if_neg h]
  cases m <;> first | rfl | simp

theorem costFor_ascii {g : GPlan} (h : g.current ≠ .ascii) : g.costForSwitchingTo .ascii = g.switchCost := by
  rw [costFor_ne h]; simp

theorem step_none_not_ascii {g : GPlan} (h : g.step = .ok none) : g.current ≠ .ascii := by
  intro hc
  obtain ⟨P, hp⟩ := hc ▸ plan_of_current g
  have := gstep_none h
  rwa [hp] at this

def SwOK (modes len k : Nat) (g : GPlan) : Prop :=
  enabledMode modes g.current = true ∧
  (∀ e ∈ g.switches, enabledMode modes e.2 = true ∧ len - k ≤ e.1 ∧ e.1 ≤ len) ∧
  g.switches.Pairwise (fun a b => a.1 ≥ b.1) ∧ g.switches ≠ []

def Live (data : List Nat) (list : List Sym) (modes k : Nat) (g : GPlan) : Prop :=
  Core data list k g.plan ∧ SwOK modes data.length k g

theorem nxt_ge (data : List Nat) (k : Nat) : k ≤ nxt data k := by unfold nxt; split <;> omega
theorem nxt_le_succ (data : List Nat) (k : Nat) : nxt data k ≤ k + 1 := by unfold nxt; split <;> omega

theorem swOK_mono {modes len k k' : Nat} {g g' : GPlan} (h : SwOK modes len k g) (hk : k ≤ k')
    (hs : g'.switches = g.switches) (hc : g'.current = g.current) : SwOK modes len k' g' := by
  obtain ⟨h1, h2, h3, h4⟩ := h
  refine ⟨by rw [hc]; exact h1, ?_, by rw [hs]; exact h3, by rw [hs]; exact h4⟩
  intro e he
  rw [hs] at he
  have := h2 e he
  exact ⟨this.1, by omega, this.2.2⟩

end DM.Lemmas.PlanInv

namespace DM.Lemmas.Couple
open DM.Model DM.Model.Plan

def ctxAt (body : List Nat) (list : List Sym) (p w : Nat) : Ctx := { data := body, pos := p, written := w, list := list }

/-- the condition under which `iteratePlans` calls `add_switches` on `g` (the copy taken before the step) -/
def SwitchPoint (g : GPlan) : Prop :=
  g.step = .ok none ∨ ∃ g' r, g.step = .ok (some (g', r)) ∧ r.unbeatable = false ∧ r.end = false

end DM.Lemmas.Couple

namespace DM.Lemmas.PlanInv
open DM.Model DM.Model.Plan DM.Lemmas.Couple

variable {data : List Nat} {list : List Sym}

theorem step_some_spec {k : Nat} {g g' : GPlan} {r : StepResult} (hc : Core data list k g.plan)
    (hs : g.step = .ok (some (g', r))) :
    g'.switches = g.switches ∧ g'.extra = g.extra ∧ g'.current = g.current ∧ Core data list (nxt data k) g'.plan ∧
      r.end = decide (¬ k < data.length) ∧ (¬ Allowed g.plan → r.unbeatable = true) := by
  rcases step_spec g hc with ⟨h1, _, _⟩ | ⟨g2, r2, h1, h2, h3, h4, h5, h6, h7⟩
  · rw [h1] at hs; cases hs
  · rw [h1] at hs
    simp only [Except.ok.injEq, Option.some.injEq, Prod.mk.injEq] at hs
    obtain ⟨rfl, rfl⟩ := hs
    exact ⟨h2, h3, h4, h5, h6, h7⟩

theorem lt_of_end_false {r : StepResult} {k : Nat} (h6 : r.end = decide (¬ k < data.length)) (hre : r.end = false) :
    k < data.length := by
  rw [hre] at h6
  exact Decidable.of_not_not (of_decide_eq_false h6.symm)

theorem switchPoint_allowed {k : Nat} {g : GPlan} (hc : Core data list k g.plan) (hsp : SwitchPoint g) :
    Allowed g.plan ∧ k < data.length := by
  rcases hsp with hs | ⟨g', r, hs, hu, he⟩
  · rcases step_spec g hc with ⟨_, h2, h3⟩ | ⟨g2, r2, h1, _⟩
    · exact ⟨h3, h2⟩
    · rw [h1] at hs; cases hs
  · obtain ⟨_, _, _, _, h6, h7⟩ := step_some_spec hc hs
    refine ⟨Classical.not_not.mp fun ha => ?_, lt_of_end_false h6 he⟩
    rw [h7 ha] at hu
    cases hu

end DM.Lemmas.PlanInv
