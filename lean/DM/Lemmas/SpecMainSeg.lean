import DM.Lemmas.SpecMain
import DM.Lemmas.SpecX12Gen
/-
The step of the main-loop invariant (`SpecMain.SMI`) for a mode whose encoder writes a latch, a
segment `X` and UNLATCH or not, and leaves a state of the shape `SpecX12.TEndQ` (C40, Text, X12): the
book-keeping of the invariant, given what the reference decoder does on `latch, X, ending` for each
of the three endings (UNLATCH; one more codeword, not UNLATCH, at the end of the symbol; the end of
the symbol).
-/
namespace DM.Lemmas.SpecMainSeg
open DM.Model DM.Lemmas.SpecStep
open DM.Lemmas.EncRT DM.Lemmas.C40Gen DM.Lemmas.B256Gen DM.Lemmas.MainRT DM.Spec.Stream
open DM.Lemmas.SpecMain
open DM.Lemmas.SpecX12 (TEndQ)

theorem step_seg {P : Mode → Prop} {list : List Sym} {i0 : Nat} {pre body : List Nat} {s s' : Enc.St} {lo : Nat}
    {tr : List Mode} {lat : List (Nat × Mode)} (mi : SMI P list i0 pre body s none lo tr lat)
    (m : Mode) (hm : m ≠ .ascii) (hP : P m) (latch : Nat) (hlatch : latch ≠ 232 ∧ latch ≠ 236 ∧ latch ≠ 237)
    (Q : List Nat → List Nat → Prop) (Tail : Array Nat → Nat → List Nat → Nat → Mode → Prop)
    (t_unlatch : ∀ cw p, Tail cw p [254] 1 .ascii)
    (t_single : ∀ cw p c, c ≠ 254 → cw.size = p + 1 → Tail cw p [c] 0 .ascii)
    (t_exact : ∀ cw p, cw.size = p → Tail cw p [] 0 m)
    (hdec : ∀ {X chunk : List Nat}, Q X chunk → ∀ (cw : Array Nat) (sD : St) (E : List Nat) (kk : Nat) (m' : Mode),
      sD.mode = .ascii → Occurs cw sD.i (latch :: X ++ E) → Tail cw (sD.i + 1 + X.length) E kk m' →
      ∃ j cst, j ≤ 2 * (1 + X.length) ∧ Steps cw j sD (afterStretch sD (1 + X.length + kk) cst chunk m m'))
    (hmore : s.hasMore = true) (h0 : Enc.encodeMode (latched s) = .ok s')
    (hend : TEndQ Q list body s.pos s.cw latch s') :
    SInv P list i0 pre body s' := by
  obtain ⟨X, p, un, hseg, hp0, hp, hcw, hpos, hin, hli, hctl, hex⟩ := hend.out
  rw [List.append_assoc, List.cons_append] at hcw
  have hXl : 1 + (X ++ if un then [254] else []).length = 1 + X.length + (if un then 1 else 0) := by
    cases un <;> simp <;> omega
  have hlen : s'.cw.length = s.cw.length + (1 + (X ++ if un then [254] else []).length) := by
    rw [hcw, List.length_append, List.length_cons]; omega
  have hmf : p = body.length → s'.hasMore = false := by
    intro hpl
    simp [Enc.St.hasMore, hpos, hin, hpl]
  have hr0 : p = body.length → Enc.asciiSize (body.drop p) = 0 := by
    intro hpl
    rw [hpl, List.drop_length]
    rfl
  refine ⟨if un then none else some (Enc.asciiSize (body.drop p)), lo - (1 + (X ++ if un then [254] else []).length), _, _,
    smi_stretch mi hmore h0 latch m hP hm hlatch (X ++ if un then [254] else []) (seg body s.pos p) hcw (by rw [hpos, take_seg body s.pos p hp0])
      (by rw [hpos]; exact hp) hin hli _ _ (by omega) ?_ ?_ (mi.low_step hmore h0 _ hlen) ?_⟩
  · cases un with
    | true =>
      right
      rcases hctl with ⟨a1, _, a3⟩ | ⟨_, _, a3, _⟩ | ⟨_, a2⟩
      · rw [a3, a1]; rfl
      · exact a3.latch
      · cases a2
    | false =>
      rcases hctl with ⟨a1, _, a3⟩ | ⟨a1, _⟩ | ⟨a1, _⟩
      · right; rw [a3, a1]; rfl
      · cases a1
      · left; exact ⟨by rw [hr0 a1]; rfl, hmf a1⟩
  · -- committed to ASCII and to the symbol size, without UNLATCH
    intro r hr
    cases un with
    | true => cases hr
    | false =>
      obtain rfl := Option.some.inj hr
      obtain ⟨hone, S, hS, hcap⟩ := hex rfl
      refine ⟨?_, S, by rw [hpos]; exact hS, hcap⟩
      rcases hctl with ⟨a1, a2, _⟩ | ⟨a1, _⟩ | ⟨a1, _⟩
      · exact Or.inr ⟨a1, a2⟩
      · cases a1
      · exact Or.inl ⟨hr0 a1, hmf a1⟩
  · intro cw sD hmD _ ho _ hsz
    rw [hXl]
    have fin : ∀ (E : List Nat) (m' : Mode), Occurs cw sD.i (latch :: X ++ E) →
        Tail cw (sD.i + 1 + X.length) E (if un then 1 else 0) m' →
        (m' = .ascii ∨ (un = false ∧ Enc.asciiSize (body.drop p) = 0 ∧ p = body.length)) →
        ∃ j cst mA, j ≤ 2 * (1 + X.length + if un then 1 else 0) ∧
          Steps cw j sD (afterStretch sD (1 + X.length + if un then 1 else 0) cst (seg body s.pos p) m mA) ∧
          (mA = .ascii ∨ ((if un then none else some (Enc.asciiSize (body.drop p))) = some 0 ∧ s'.hasMore = false)) := by
      intro E m' hoE ht hm'
      obtain ⟨j, cst, hj, hst⟩ := hdec hseg cw sD E _ m' hmD hoE ht
      refine ⟨j, cst, m', by omega, hst, ?_⟩
      rcases hm' with rfl | ⟨rfl, hz, hpl⟩
      · exact Or.inl rfl
      · exact Or.inr ⟨by rw [hz]; rfl, hmf hpl⟩
    cases un with
    | true => exact fin [254] .ascii ho (t_unlatch _ _) (Or.inl rfl)
    | false =>
      obtain ⟨hsz', hnext⟩ := hsz _ rfl
      simp only [Bool.false_eq_true, ↓reduceIte, List.append_nil] at hsz' hnext ho
      by_cases hr : Enc.asciiSize (body.drop p) = 0
      · -- the triples end with the symbol
        have hpl : p = body.length := by
          have := congrArg List.length (DM.Lemmas.AsciiSize.asciiSize_zero _ hr)
          simp only [List.length_drop, List.length_nil] at this
          omega
        exact fin [] (m) (by simpa using ho) (t_exact _ _ (by omega)) (Or.inr ⟨rfl, hr, hpl⟩)
      · -- one ASCII codeword fills the symbol
        obtain ⟨hone, _⟩ := hex rfl
        have hlt : sD.i + (1 + X.length) < cw.size := by omega
        have hget : cw[sD.i + (1 + X.length)]? = some cw[sD.i + (1 + X.length)] := Array.getElem?_eq_getElem hlt
        have hc : cw[sD.i + (1 + X.length)] ≠ 254 := by
          intro hx
          rw [hget, hx] at hnext
          exact hnext rfl
        refine fin [cw[sD.i + (1 + X.length)]] .ascii ?_ (t_single _ _ _ hc (by omega)) (Or.inl rfl)
        exact occurs_snoc ho (by rw [List.length_cons, show sD.i + (X.length + 1) = sD.i + (1 + X.length) by omega]; exact hget)

end DM.Lemmas.SpecMainSeg
