import DM.Lemmas.Interleave
import DM.Lemmas.RSTotal
/-
`RS.decode` decodes the interleaved blocks independently: it answers `out` iff every block of `out` is what
`decodeBlock` makes of that block of the word (`decode_ok_iff`, from `decodeBlocks_ok_iff`, the one induction over the
block loop).
Namespace: `DM.Lemmas`.
-/
namespace DM.Lemmas
open DM.Model DM.Model.RS

theorem decodeBlock_length {dB eB d' e' : List Nat} {k : Nat} (h1 : 1 ≤ k) (h2 : k < dB.length + eB.length)
    (h : decodeBlock dB eB k = .ok (d', e')) : d'.length = dB.length ∧ e'.length = eB.length :=
  RSTotal.Safe_val (RSTotal.decodeBlock_safe_of RSTotal.ldSafe_algebraic dB eB k h1 h2) h

theorem decodeBlocks_ok_iff (B k : Nat) (hB : 0 < B) (hk : 1 ≤ k) (bs : List Nat) (hbs : ∀ b ∈ bs, b < B) (hnd : bs.Nodup) :
    ∀ data err d e : List Nat, B ≤ data.length → err.length = B * k →
      (decodeBlocks B k bs data err = .ok (d, e) ↔
        d.length = data.length ∧ e.length = err.length ∧
        ∀ b, b < B →
          if b ∈ bs then decodeBlock (strided data b B) (strided err b B) k = .ok (strided d b B, strided e b B)
          else strided d b B = strided data b B ∧ strided e b B = strided err b B) := by
  induction bs with
  | nil =>
    intro data err d e hBd _
    unfold decodeBlocks
    simp only [List.not_mem_nil, if_false]
    constructor
    · intro h; cases h; exact ⟨rfl, rfl, fun _ _ => ⟨rfl, rfl⟩⟩
    · rintro ⟨h1, h2, h⟩
      rw [strided_ext d data B hB h1 fun b hb => (h b hb).1, strided_ext e err B hB h2 fun b hb => (h b hb).2]
  | cons b bs ih =>
    intro data err d e hBd hel
    have hb : b < B := hbs b (List.mem_cons_self ..)
    obtain ⟨hnotin, hnd'⟩ := List.nodup_cons.mp hnd
    have hkB : B ≤ B * k := Nat.le_mul_of_pos_right B hk
    unfold decodeBlocks
    rw [if_neg (by omega)]
    cases hdec : decodeBlock (strided data b B) (strided err b B) k with
    | error x =>
      constructor
      · intro h; cases h
      · rintro ⟨_, _, h⟩
        have := h b hb
        rw [if_pos (List.mem_cons_self ..), hdec] at this
        cases this
    | ok p =>
      obtain ⟨dB, eB⟩ := p
      have hsl : (strided err b B).length = k := strided_length_full err b B k hb hel
      have hpos : 1 ≤ (strided data b B).length := strided_length_pos data b B hB (by omega)
      obtain ⟨hdl, hel'⟩ := decodeBlock_length hk (by omega) hdec
      simp only
      rw [ih (fun x hx => hbs x (List.mem_cons_of_mem _ hx)) hnd' _ _ d e
        (by rw [length_scatter]; exact hBd) (by rw [length_scatter]; exact hel), length_scatter, length_scatter]
      -- block by block: `b` itself is not in `bs`, so it stays as written (what `decodeBlock` made of it);
      -- the others are not touched by writing `b`
      refine and_congr_right fun _ => and_congr_right fun _ => forall_congr' fun x => imp_congr_right fun hx => ?_
      by_cases hxb : x = b
      · subst hxb
        rw [if_neg hnotin, if_pos (List.mem_cons_self ..), strided_scatter_self _ _ _ _ hx hdl,
          strided_scatter_self _ _ _ _ hx hel']
        constructor
        · rintro ⟨h1, h2⟩; rw [h1, h2]; exact hdec
        · intro h; rw [hdec] at h; cases h; exact ⟨rfl, rfl⟩
      · rw [strided_scatter_other _ _ _ _ _ hb hx hxb, strided_scatter_other _ _ _ _ _ hb hx hxb]
        have : x ∈ b :: bs ↔ x ∈ bs := by simp [hxb]
        simp only [this]


theorem decode_ok_iff (s : Sym) (hs : s < numSizes) (cw out : List Nat) (hlen : cw.length = totalCw s) :
    RS.decode s cw = .ok out ↔ out.length = totalCw s ∧ ∀ b, b < (row s).blocks →
      decodeBlock (strided (cw.take (dataCw s)) b (row s).blocks) (strided (cw.drop (dataCw s)) b (row s).blocks)
        (row s).eccPer
        = .ok (strided (out.take (dataCw s)) b (row s).blocks, strided (out.drop (dataCw s)) b (row s).blocks) := by
  obtain ⟨hk, _, hB, hBd, _⟩ := rowShape s hs
  have htl := length_take_data s cw hlen
  have hdl := length_drop_data s cw hlen
  have key := fun d e => decodeBlocks_ok_iff (row s).blocks (row s).eccPer hB hk (List.range (row s).blocks)
    (fun b hb => List.mem_range.mp hb) List.nodup_range (cw.take (dataCw s)) (cw.drop (dataCw s)) d e
    (by rw [htl]; exact hBd) hdl
  simp only [List.mem_range] at key
  unfold RS.decode
  simp only
  rw [if_neg (by rw [hlen]; exact Nat.not_lt.2 (Nat.le_add_right (dataCw s) (eccCw s)))]
  constructor
  · intro h
    cases hdec : decodeBlocks (row s).blocks (row s).eccPer (List.range (row s).blocks)
        (cw.take (dataCw s)) (cw.drop (dataCw s)) with
    | error x => rw [show (row s).dataCw = dataCw s from rfl, hdec] at h; cases h
    | ok p =>
      obtain ⟨d, e⟩ := p
      rw [show (row s).dataCw = dataCw s from rfl, hdec] at h
      cases h
      obtain ⟨h1, h2, h3⟩ := (key d e).mp hdec
      refine ⟨by rw [List.length_append, h1, h2, htl, hdl]; rfl, fun b hb => ?_⟩
      rw [List.take_left' (h1.trans htl), List.drop_left' (h1.trans htl)]
      have := h3 b hb; rwa [if_pos hb] at this
  · rintro ⟨h1, h2⟩
    have := (key (out.take (dataCw s)) (out.drop (dataCw s))).mpr
      ⟨by rw [htl]; exact length_take_data s out h1, by rw [hdl]; exact length_drop_data s out h1,
        fun b hb => by rw [if_pos hb]; exact h2 b hb⟩
    rw [show (row s).dataCw = dataCw s from rfl, this]
    simp only [List.take_append_drop]

theorem decode_of_blocks (s : Sym) (hs : s < numSizes) (d e r : List Nat)
    (hl : d.length = dataCw s) (hel : e.length = (row s).blocks * (row s).eccPer)
    (hr : r.length = totalCw s)
    (hblock : ∀ b, b < (row s).blocks →
      decodeBlock (strided (r.take (dataCw s)) b (row s).blocks) (strided (r.drop (dataCw s)) b (row s).blocks)
        (row s).eccPer = .ok (strided d b (row s).blocks, strided e b (row s).blocks)) :
    RS.decode s r = .ok (d ++ e) := by
  refine (decode_ok_iff s hs r (d ++ e) hr).mpr ⟨by rw [List.length_append, hl, hel]; rfl, ?_⟩
  rwa [List.take_left' hl, List.drop_left' hl]

end DM.Lemmas
