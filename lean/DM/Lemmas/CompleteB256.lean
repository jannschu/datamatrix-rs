import DM.Lemmas.DecSeg
import DM.Spec.Build
/-
Decoder completeness, Base 256 fields (explicit one- or two-codeword length, or "to the end": `b256Hdr`). `randFrom` is the
randomised field; it is read back position by position (`derand_getElem?`; `Spec.Stream.unrand255` is `derand255`, so `SpecB256`
reads it so too).
Namespace: `Complete`.
-/
namespace DM.Lemmas.Complete
open DM.Model.Dec DM.Gen DM.Lemmas DM.Lemmas.DecRun DM.Spec.Build DM.Spec.Stream

theorem derand_rand (v p : Nat) (hv : v < 256) : derand255 (randomize255 v p) p = v := by
  unfold derand255 randomize255 rand255
  have : (149 * p) % 255 < 255 := Nat.mod_lt _ (by omega)
  simp only []
  split <;> omega

/-- the randomised codewords of a field starting at 1-based position `p` -/
def randFrom : Nat → List Nat → List Nat
  | _, [] => []
  | p, v :: t => randomize255 v p :: randFrom (p + 1) t

theorem randFrom_length : ∀ (l : List Nat) (p : Nat), (randFrom p l).length = l.length := by
  intro l
  induction l with
  | nil => intro p; rfl
  | cons v t ih => intro p; simp [randFrom, ih]

theorem zipIdx_rand (s : Nat) : ∀ (l : List Nat) (n : Nat),
    (l.zipIdx n).map (fun (x : Nat × Nat) => randomize255 x.1 (s + x.2 + 1)) = randFrom (s + n + 1) l := by
  intro l
  induction l with
  | nil => intro n; rfl
  | cons v t ih =>
    intro n
    rw [List.zipIdx_cons, List.map_cons, ih (n + 1)]
    simp only [randFrom]
    congr 2

theorem randFrom_append : ∀ (a b : List Nat) (p : Nat), randFrom p (a ++ b) = randFrom p a ++ randFrom (p + a.length) b
  | [], b, p => rfl
  | x :: t, b, p => by
    rw [List.cons_append, randFrom, randFrom, randFrom_append t b, List.length_cons, Nat.add_right_comm, Nat.add_assoc, List.cons_append]

theorem randFrom_getElem? : ∀ (F : List Nat) (p k : Nat), (randFrom p F)[k]? = F[k]?.map (fun v => randomize255 v (p + k))
  | [], p, k => rfl
  | v :: t, p, 0 => rfl
  | v :: t, p, k + 1 => by
    rw [randFrom, List.getElem?_cons_succ, List.getElem?_cons_succ, randFrom_getElem? t, Nat.add_right_comm, Nat.add_assoc]

theorem derand_getElem? (b : List Nat) (hb : ByteList b) (p k : Nat) :
    (randFrom p b)[k]?.map (fun c => derand255 c (p + k)) = b[k]? := by
  rw [randFrom_getElem?]
  cases h : b[k]? with
  | none => rfl
  | some v => exact congrArg some (derand_rand v _ (hb v (List.mem_of_getElem? h)))

theorem derand_range (b : List Nat) (q : Nat) (tail : List Nat) (hb : ByteList b) :
    (List.range b.length).map (fun k => derand255 ((randFrom (q + 1) b ++ tail).getD k 0) (q + k + 1)) = b := by
  refine List.ext_getElem (by simp) fun k h1 h2 => ?_
  have hk : k < (randFrom (q + 1) b).length := by rwa [randFrom_length]
  have := derand_getElem? b hb (q + 1) k
  rw [List.getElem?_eq_getElem hk, List.getElem?_eq_getElem h2, Option.map_some, Option.some.injEq,
    Nat.add_right_comm] at this
  simp only [List.getElem_map, List.getElem_range, List.getD_eq_getElem?_getD, List.getElem?_append_left hk,
    List.getElem?_eq_getElem hk, Option.getD_some, this]

def b256Hdr (b : List Nat) (toEnd : Bool) : List Nat :=
  if toEnd then [0]
  else if b.length ≤ 249 then [b.length] else [b.length / 250 + 249, b.length % 250]

theorem b256Hdr_short {b : List Nat} (h : b.length ≤ 249) : b256Hdr b false = [b.length] := by
  simp [b256Hdr, h]

theorem b256Hdr_long {b : List Nat} (h : ¬ b.length ≤ 249) : b256Hdr b false = [b.length / 250 + 249, b.length % 250] := by
  simp [b256Hdr, h]

/-- the planner's price of the field -/
theorem b256Hdr_length (b : List Nat) (toEnd : Bool) :
    (b256Hdr b toEnd).length = 1 + (if toEnd = false ∧ b.length ≥ 250 then 1 else 0) := by
  cases toEnd with
  | true => rfl
  | false =>
    by_cases h : b.length ≤ 249
    · rw [b256Hdr_short h, if_neg (by omega)]; rfl
    · rw [b256Hdr_long h, if_pos ⟨rfl, by omega⟩]; rfl

theorem b256Hdr_bytes (b : List Nat) (toEnd : Bool) (h : toEnd = false → b.length ≤ 1555) : ByteList (b256Hdr b toEnd) := by
  cases toEnd with
  | true => exact ByteList.cons (by decide) nofun
  | false =>
    have := h rfl
    by_cases h249 : b.length ≤ 249
    · rw [b256Hdr_short h249]; exact ByteList.cons (by omega) nofun
    · rw [b256Hdr_long h249]; exact ByteList.cons (by omega) (ByteList.cons (by omega) nofun)

def B256OK (b : List Nat) (toEnd : Bool) (tail : List Nat) : Prop :=
  ByteList b ∧ (if toEnd then tail = [] else (1 ≤ b.length ∧ b.length ≤ 1555))

theorem b256_body (b tail : List Nat) (hb : ByteList b) (q : Nat) (out : List Nat) :
    (if (randFrom (q + 1) b ++ tail).length < b.length then (.error .unexpectedEnd : R (List Nat × Nat × List Nat))
      else .ok ((randFrom (q + 1) b ++ tail).drop b.length, q + b.length,
        out ++ (List.range b.length).map fun k => derand255 ((randFrom (q + 1) b ++ tail).getD k 0) (q + k + 1))) =
      .ok (tail, q + b.length, out ++ b) := by
  rw [if_neg (by simp [randFrom_length]), derand_range b q tail hb,
    List.drop_left' (randFrom_length b (q + 1))]

theorem decodeBase256_field (b tail : List Nat) (toEnd : Bool) (pos : Nat) (out : List Nat)
    (h : B256OK b toEnd tail) :
    decodeBase256 (randFrom (pos + 2) (b256Hdr b toEnd ++ b) ++ tail) (pos + 1) out =
      .ok (tail, pos + 1 + (b256Hdr b toEnd).length + b.length, out ++ b) := by
  obtain ⟨hb, hc⟩ := h
  cases toEnd with
  | true =>
    simp only [↓reduceIte] at hc
    subst hc
    simp only [b256Hdr, ↓reduceIte, randFrom, List.cons_append, List.nil_append, decodeBase256]
    rw [derand_rand 0 (pos + 1 + 1) (by omega), if_pos rfl]
    have := b256_body b [] hb (pos + 2) out
    simp only [List.append_nil, randFrom_length, List.length_singleton] at this ⊢
    exact this
  | false =>
    simp only [Bool.false_eq_true, ↓reduceIte] at hc
    by_cases hs : b.length ≤ 249
    · rw [b256Hdr_short hs]
      simp only [randFrom, List.cons_append, List.nil_append, decodeBase256]
      rw [derand_rand b.length (pos + 1 + 1) (by omega), if_neg (by omega), if_pos (by omega)]
      exact b256_body b tail hb (pos + 2) out
    · rw [b256Hdr_long hs]
      simp only [List.cons_append, List.nil_append, randFrom, decodeBase256]
      rw [derand_rand _ (pos + 1 + 1) (by omega), if_neg (by omega), if_neg (by omega)]
      simp only []
      rw [derand_rand _ (pos + 1 + 2) (by omega),
        show 250 * (b.length / 250 + 249 - 249) + b.length % 250 = b.length by omega]
      exact b256_body b tail hb (pos + 3) out

theorem b256_Seg (b : List Nat) (toEnd : Bool) (pos : Nat) :
    Seg pos (231 :: randFrom (pos + 2) (b256Hdr b toEnd ++ b)) b (B256OK b toEnd) :=
  Seg.latched (m := .base256) (r := decodeBase256) rfl (fun _ => rfl)
    (fun h => by
      -- the length header is never empty
      have := congrArg List.length h
      rw [randFrom_length, List.length_append, b256Hdr_length, List.length_nil] at this
      omega) fun tail h out => by
  rw [decodeBase256_field b tail toEnd pos out h, randFrom_length, List.length_append, Nat.add_assoc]

theorem seg_b256 (b tail : List Nat) (toEnd : Bool) (pos : Nat) (out : List Nat) (ecis : List (Nat × Nat))
    (h : B256OK b toEnd tail) :
    decRun .ascii { rest := [231] ++ randFrom (pos + 2) (b256Hdr b toEnd ++ b) ++ tail, eaten := pos, out := out, ecis := ecis } =
    decRun .ascii { rest := tail, eaten := pos + 1 + (b256Hdr b toEnd).length + b.length, out := out ++ b, ecis := ecis } :=
  ((b256_Seg b toEnd pos).frame h out ecis).trans (by
    rw [List.length_cons, randFrom_length, List.length_append]; congr 2; omega)

end DM.Lemmas.Complete
