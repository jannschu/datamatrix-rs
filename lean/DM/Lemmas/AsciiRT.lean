import DM.Lemmas.EncState
import DM.Lemmas.AsciiSize
import DM.Props.C02
import DM.Lemmas.DecTotal
/-!
ASCII encodation: `asciiEnc`, the codewords of a message; the encoder's ASCII loop computes it one step (`asciiHead`)
at a time (`asciiLoop_eq`), the decoder's ASCII loop inverts it (digit pairs, upper shift) and accepts the pads
`add_padding` writes.
At the end of the file, in `EncRT`: the first round under a plan that latches at the first character
(`asciiLoop_latch_first`), and the encoder's `asciiSize` (`Lemmas/AsciiSize.lean`) is the length of `asciiEnc` (`asciiEnc_size`).
-/
namespace DM.Lemmas.AsciiRT
open DM.Model DM.Model.Enc DM.Model.Dec DM.Lemmas DM.Props.C02

def enc1 (ch : Nat) : List Nat := if ch ≤ 127 then [ch + 1] else [235, ch - 128 + 1]

/-- the ASCII codewords of a message (specification of `ascii::encode` without mode switches) -/
def asciiEnc : List Nat → List Nat
  | a :: b :: t =>
    if isDigit a && isDigit b then ((a - 48) * 10 + (b - 48) + 130) :: asciiEnc t
    else enc1 a ++ asciiEnc (b :: t)
  | [a] => enc1 a
  | [] => []

/-- the next step of `ascii::encode` on the characters `rest`: how many it consumes and what it writes -/
def asciiHead : List Nat → Option (Nat × List Nat)
  | a :: b :: _ => if isDigit a && isDigit b then some (2, [(a - 48) * 10 + (b - 48) + 130]) else some (1, enc1 a)
  | [a] => some (1, enc1 a)
  | [] => none

theorem asciiHead_some {l : List Nat} {n : Nat} {Y : List Nat} (h : asciiHead l = some (n, Y)) :
    0 < n ∧ n ≤ l.length := by
  match l, h with
  | [_], h => cases h; simp
  | a :: b :: _, h =>
    simp only [asciiHead] at h
    split at h <;> cases h <;> simp

theorem asciiHead_none {l : List Nat} (h : asciiHead l = none) : l = [] := by
  match l, h with
  | [], _ => rfl
  | a :: b :: _, h => simp only [asciiHead] at h; split at h <;> cases h

theorem asciiHead_pair {l : List Nat} (h : twoDigitsComing l = true) : ∃ c, asciiHead l = some (2, [c]) := by
  match l, h with
  | a :: b :: _, h => exact ⟨_, by rw [asciiHead, if_pos (show (isDigit a && isDigit b) = true from h)]⟩

theorem asciiHead_single {a : Nat} {t : List Nat} (h : twoDigitsComing (a :: t) = false) :
    asciiHead (a :: t) = some (1, enc1 a) := by
  match t, h with
  | [], _ => rfl
  | b :: _, h => rw [asciiHead, if_neg (by rw [show (isDigit a && isDigit b) = false from h]; exact Bool.false_ne_true)]

theorem enc1_length (ch : Nat) : (enc1 ch).length = if ch ≤ 127 then 1 else 2 := by
  unfold enc1; split <;> rfl

theorem asciiEnc_step (l : List Nat) : asciiEnc l = match asciiHead l with
    | none => []
    | some (n, Y) => Y ++ asciiEnc (l.drop n) := by
  match l with
  | [] => rfl
  | [a] => simp [asciiEnc, asciiHead]
  | a :: b :: t =>
    simp only [asciiEnc, asciiHead]
    split <;> rfl

theorem asciiEnc_take_step {l : List Nat} {n k : Nat} {Y : List Nat} (h : asciiHead l = some (n, Y)) (hk : n ≤ k) :
    asciiEnc (l.take k) = Y ++ asciiEnc ((l.drop n).take (k - n)) := by
  match l, k, h with
  | [a], k + 1, h => cases h; simp [asciiEnc]
  | a :: b :: t, k + 1, h =>
    simp only [asciiHead] at h
    split at h
    · rename_i hd
      cases h
      obtain ⟨k, rfl⟩ : ∃ k', k = k' + 1 := ⟨k - 1, by omega⟩
      simp [asciiEnc, hd]
    · rename_i hd
      cases h
      cases k with
      | zero => simp [asciiEnc]
      | succ k => simp [asciiEnc, hd]
  | _ :: _, 0, h => have := (asciiHead_some h).1; omega

theorem asciiLoop_eq (f : Nat) (s : St) :
    asciiLoop (f + 1) s = EncStep.onSwitch s .ok fun s1 =>
      match asciiHead s1.rest with
      | none => .ok s1
      | some (n, Y) => asciiLoop f { s1 with pos := s1.pos + n, cw := s1.cw ++ Y } := by
  rw [asciiLoop]
  show EncStep.onSwitch s .ok _ = _
  congr 1
  funext s1
  simp only [EncStep.eat_eq]
  generalize s1.rest = r
  match r with
  | [] => rfl
  | [a] =>
    simp only [twoDigitsComing, Bool.false_eq_true, ↓reduceIte, asciiHead, enc1, St.push]
    split <;> simp
  | a :: b :: t =>
    simp only [twoDigitsComing, asciiHead, enc1, St.push]
    by_cases hd : (isDigit a && isDigit b) = true
    · simp only [hd, ↓reduceIte]
    · simp only [hd, Bool.false_eq_true, ↓reduceIte]
      split <;> simp

theorem asciiLoop_leave {s s1 : St} (f : Nat) (h : s.maybeSwitch = .ok (true, s1)) : asciiLoop (f + 1) s = .ok s1 := by
  rw [asciiLoop_eq, EncStep.onSwitch, h]

theorem asciiLoop_stay {s s1 : St} (f : Nat) (h : s.maybeSwitch = .ok (false, s1)) :
    asciiLoop (f + 1) s = match asciiHead s1.rest with
      | none => .ok s1
      | some (n, Y) => asciiLoop f { s1 with pos := s1.pos + n, cw := s1.cw ++ Y } := by
  rw [asciiLoop_eq, EncStep.onSwitch, h]

/-- `maybe_switch_mode` takes the segment's own entry `(chars_left, ASCII)` from the plan and changes nothing else -/
theorem asciiLoop_pop_own (f : Nat) (s : St) (hm : s.mode = .ascii) {at2 : Nat} {m2 : EMode} {rest : List (Nat × EMode)}
    (hp : s.plan = (s.charsLeft, .ascii) :: (at2, m2) :: rest) (h : at2 < s.charsLeft) :
    asciiLoop (f + 1) s = asciiLoop (f + 1) { s with plan := (at2, m2) :: rest } := by
  have h1 : s.maybeSwitch = .ok (false, { s with plan := (at2, m2) :: rest }) := by
    rw [EncStep.maybeSwitch_eq s hp, if_neg (Nat.lt_irrefl _), if_pos ⟨by omega, rfl⟩, if_pos hm.symm]
  have h2 : ({ s with plan := (at2, m2) :: rest } : St).maybeSwitch = .ok (false, { s with plan := (at2, m2) :: rest }) := by
    rw [EncStep.maybeSwitch_eq _ rfl, show ({ s with plan := (at2, m2) :: rest } : St).charsLeft = s.charsLeft from rfl,
      if_neg (show ¬ s.charsLeft < at2 by omega), if_neg (show ¬ (0 < at2 ∧ s.charsLeft = at2) by omega)]
  rw [asciiLoop_stay f h1, asciiLoop_stay f h2]

theorem asciiLoop_switch_first (f : Nat) (s : St) {m : EMode} {rest : List (Nat × EMode)} (hmode : s.mode = .ascii)
    (hp : s.plan = (s.charsLeft, m) :: rest) (hcl : 0 < s.charsLeft) (hm : m ≠ .ascii) :
    asciiLoop (f + 1) s = .ok { s with mode := m, plan := rest, newMode := m.latch } := by
  have h : s.maybeSwitch = .ok (true, { s with mode := m, plan := rest, newMode := m.latch }) := by
    rw [EncStep.maybeSwitch_eq s hp, if_neg (Nat.lt_irrefl _), if_pos ⟨hcl, rfl⟩, if_neg (hmode ▸ hm)]
    cases m
    · exact absurd rfl hm
    all_goals rfl
  exact asciiLoop_leave f h

theorem asciiLoop_until_end : ∀ (f : Nat) (s : St), s.plan = [(0, .ascii)] →
    s.pos ≤ s.input.length → s.charsLeft < f →
    asciiLoop f s = .ok { s with pos := s.input.length, cw := s.cw ++ asciiEnc s.rest } := by
  intro f
  induction f with
  | zero => intro _ _ _ hf; omega
  | succ f ih =>
    intro s hp hpos hf
    rw [asciiLoop_stay f (EncStep.maybeSwitch_stay s 0 .ascii [] hp (.inl rfl)), asciiEnc_step s.rest]
    simp only [St.charsLeft] at hf
    cases hh : asciiHead s.rest with
    | none =>
      have hnil := asciiHead_none hh
      have hlen : s.input.length = s.pos := by
        have := List.drop_eq_nil_iff.mp hnil
        omega
      simp [hlen]
    | some r =>
      obtain ⟨k, Y⟩ := r
      have hk := asciiHead_some hh
      have hrl : s.rest.length = s.input.length - s.pos := EncStep.rest_length s
      simp only []
      rw [ih { s with pos := s.pos + k, cw := s.cw ++ Y } hp (by simp only []; omega)
        (by simp only [St.charsLeft]; omega)]
      simp [St.rest, List.append_assoc]

theorem dec_enc1 (ch : Nat) (hch : ch < 256) (tail : List Nat) (e : Nat) (out : List Nat) (ecis : List (Nat × Nat)) :
    decodeAscii (enc1 ch ++ tail) e out ecis false 0 =
      decodeAscii tail (e + (enc1 ch).length) (out ++ [ch]) ecis false 0 := by
  unfold enc1
  split
  · rw [List.singleton_append, decodeAscii_cons, asciiAct_low _ _ (by omega)]
    rfl
  · -- 235 is the upper shift
    rw [List.cons_append, List.cons_append, List.nil_append, decodeAscii_cons,
      show asciiAct false 235 = .emit [] true from rfl, asciiThen, decodeAscii_cons, asciiAct_low _ _ (by omega),
      asciiThen, List.append_nil, if_pos rfl, show ch - 128 + 1 + 127 = ch by omega]
    rfl

theorem pair_range (a b : Nat) (ha : isDigit a = true) (hb : isDigit b = true) :
    130 ≤ (a - 48) * 10 + (b - 48) + 130 ∧ (a - 48) * 10 + (b - 48) + 130 ≤ 229 := by
  simp only [isDigit, Bool.and_eq_true, decide_eq_true_eq] at ha hb
  omega

/-- the codeword of a digit pair gives the two digits back (what both decoders compute on it) -/
theorem pair_digits (a b : Nat) (ha : isDigit a = true) (hb : isDigit b = true) :
    48 + ((a - 48) * 10 + (b - 48) + 130 - 130) / 10 = a ∧ 48 + ((a - 48) * 10 + (b - 48) + 130 - 130) % 10 = b := by
  simp only [isDigit, Bool.and_eq_true, decide_eq_true_eq] at ha hb
  omega

theorem dec_pair (a b : Nat) (ha : isDigit a = true) (hb : isDigit b = true) (tail : List Nat) (e : Nat)
    (out : List Nat) (ecis : List (Nat × Nat)) :
    decodeAscii (((a - 48) * 10 + (b - 48) + 130) :: tail) e out ecis false 0 =
      decodeAscii tail (e + 1) (out ++ [a, b]) ecis false 0 := by
  have hr := pair_range a b ha hb
  rw [decodeAscii_cons, asciiAct, if_neg (by omega), if_neg Bool.false_ne_true, if_neg (by omega), if_pos hr,
    asciiThen, (pair_digits a b ha hb).1, (pair_digits a b ha hb).2]

/-- ASCII codewords are a character + 1, a digit pair or the upper shift: never a latch, the pad or a header codeword -/
theorem enc1_range (ch : Nat) (h : ch < 256) : ∀ c ∈ enc1 ch, c ≤ 128 ∨ 130 ≤ c ∧ c ≤ 229 ∨ c = 235 := by
  intro c hc
  unfold enc1 at hc
  split at hc
  · simp only [List.mem_singleton] at hc; omega
  · simp only [List.mem_cons, List.not_mem_nil, or_false] at hc; omega

theorem asciiEnc_range (l : List Nat) (hb : ByteList l) : ∀ c ∈ asciiEnc l, c ≤ 128 ∨ 130 ≤ c ∧ c ≤ 229 ∨ c = 235 := by
  induction l using asciiEnc.induct with
  | case1 a b t hd ih =>
    intro c hc
    simp only [Bool.and_eq_true] at hd
    simp only [asciiEnc, hd, Bool.and_self, ↓reduceIte, List.mem_cons] at hc
    rcases hc with rfl | hc
    · exact Or.inr (Or.inl (pair_range a b hd.1 hd.2))
    · exact ih hb.tail.tail c hc
  | case2 a b t hd ih =>
    intro c hc
    simp only [asciiEnc, hd, Bool.false_eq_true, ↓reduceIte, List.mem_append] at hc
    rcases hc with hc | hc
    · exact enc1_range a hb.head c hc
    · exact ih hb.tail c hc
  | case3 a => exact enc1_range a hb.head
  | case4 => intro c hc; simp [asciiEnc] at hc

theorem derand_pad (pos : Nat) : derand253 (padAt pos) pos = 129 := (pad_randomize_inverse pos).1

theorem checkPads_pads : ∀ (n e : Nat), checkPads (padsFrom (e + 1) n) e = .ok (e + n) := by
  intro n
  induction n with
  | zero => intro e; simp [padsFrom, checkPads]
  | succ n ih =>
    intro e
    simp only [padsFrom, checkPads, derand_pad, ne_eq, not_true_eq_false, ↓reduceIte]
    rw [ih (e + 1)]
    congr 1
    omega

/-- ASCII codewords never collide with the codewords `decode_parts` inspects first -/
theorem asciiEnc_head (l : List Nat) (hb : ByteList l) : ∀ c ∈ (asciiEnc l).head?, c ≤ 229 ∨ c = 235 :=
  fun c hc => by have := asciiEnc_range l hb c (List.mem_of_mem_head? hc); omega

end DM.Lemmas.AsciiRT

namespace DM.Lemmas.EncRT
open DM.Model DM.Model.Enc DM.Lemmas.AsciiRT

theorem asciiLoop_latch_first (m : EMode) (l : Nat) (hl : m.latch = some l) (list : List Sym) (pre body : List Nat)
    (hne : body ≠ []) (rest : List (Nat × EMode)) (f : Nat) :
    asciiLoop (f + 1) { input := body, pos := 0, mode := .ascii, plan := (body.length, m) :: rest, newMode := none,
                        cw := pre, list := list } =
      .ok { input := body, pos := 0, mode := m, plan := rest, newMode := some l, cw := pre, list := list } :=
  hl ▸ asciiLoop_switch_first f _ rfl rfl (List.length_pos_iff.mpr hne) (fun hm => by rw [hm] at hl; cases hl)

theorem asciiEnc_size (l : List Nat) : (asciiEnc l).length = asciiSize l := by
  induction l using asciiEnc.induct with
  | case1 a b t hd ih => simp only [asciiEnc, asciiSize, hd, ↓reduceIte, List.length_cons, ih, Nat.add_comm]
  | case2 a b t hd ih =>
    simp only [asciiEnc, asciiSize, hd, Bool.false_eq_true, ↓reduceIte, List.length_append, ih, enc1]
    split <;> rfl
  | case3 a => simp only [asciiEnc, asciiSize, enc1]; split <;> rfl
  | case4 => rfl

theorem asciiSize_le_length (l : List Nat) (h : ∀ x ∈ l, x ≤ 127) : asciiSize l ≤ l.length := by
  induction l using asciiEnc.induct with
  | case1 a b t hd ih =>
    have := ih (fun x hx => h x (by simp [hx]))
    simp only [asciiSize, hd, ↓reduceIte, List.length_cons]
    omega
  | case2 a b t hd ih =>
    have := ih (fun x hx => h x (List.mem_cons_of_mem _ hx))
    simp only [asciiSize, hd, Bool.false_eq_true, ↓reduceIte, if_pos (h a (by simp)), List.length_cons] at this ⊢
    omega
  | case3 a => simp only [asciiSize, if_pos (h a (by simp)), List.length_singleton, Nat.le_refl]
  | case4 => exact Nat.le_refl 0

end DM.Lemmas.EncRT
