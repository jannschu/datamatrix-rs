import DM.Lemmas.CoupleAscii
import DM.Lemmas.PlanRunB256
import DM.Lemmas.SymbolList
import DM.Lemmas.B256Field
/-!
# Planner / encoder coupling: Base 256

The Base 256 plan accounts one codeword for the length field when it is created (`b256New`), one per
byte, and a second length codeword at unlatch / cost time when 250 or more bytes were written.  The
encoder pushes a placeholder for the length, copies the bytes and lets `b256WriteLength` rewrite the
field (inserting the second codeword when `count > 249`).  `b256Step` refuses the 1556th byte, so the
encoder's "base256 data too long" site is unreachable along a plan.  At the end of the data both
sides consult `symbol_size_left(0)`: no length field is needed when the symbol is exactly full.

The planner halves of the two exits (`b256_switch_plan`, `b256_end_plan`) are in `Lemmas/PlanRunB256.lean`.
-/
namespace DM.Lemmas.CoupleB256
open DM.Model DM.Model.Plan DM.Model.Enc DM.Lemmas DM.Lemmas.AsciiRT DM.Lemmas.PlanInv DM.Lemmas.Couple
open DM.Lemmas.CoupleAscii DM.Lemmas.SymbolList DM.Lemmas.Complete
open DM.Lemmas.CoupleSeg (SwitchPlan)

/-- `B256Gen.writeLength_field` as far as lengths go, in the planner's terms: a second length codeword from 250 bytes on,
unless the field runs to the end of a full symbol -/
theorem writeLength_len (s : St) (pre chunk : List Nat) (hcw : s.cw = pre ++ 0 :: chunk) (hb : ByteList chunk)
    (hne : chunk ≠ []) (hk : chunk.length ≤ 1555) :
    (b256WriteLength s pre.length = .error .tooMuch ∧ firstBigEnough s.list s.cw.length = none) ∨
    (∃ sp cw', s.sizeLeft 0 = some sp ∧ b256WriteLength s pre.length = .ok { s with cw := cw' } ∧
      cw'.length = s.cw.length + (if (s.hasMore = true ∨ sp > 0) ∧ chunk.length ≥ 250 then 1 else 0)) := by
  rw [B256Gen.writeLength_field s pre chunk hcw hb hne]
  cases hsl : s.sizeLeft 0 with
  | none => exact Or.inl ⟨rfl, CoupleC40.szLeft_eq_none_iff.mp hsl⟩
  | some sp =>
    have hl : ∀ toEnd, (pre ++ randFrom (pre.length + 1) (b256Hdr chunk toEnd ++ chunk)).length =
        s.cw.length + (if toEnd = false ∧ chunk.length ≥ 250 then 1 else 0) := fun toEnd => by
      rw [hcw, List.length_append, randFrom_length, List.length_append, b256Hdr_length, List.length_append, List.length_cons]
      omega
    refine Or.inr ⟨sp, ?_⟩
    dsimp only
    by_cases hcond : s.hasMore = true ∨ sp > 0
    · rw [if_pos hcond, if_pos hk]
      exact ⟨_, rfl, rfl, by rw [hl false]; simp only [hcond, true_and]⟩
    · rw [if_neg hcond]
      exact ⟨_, rfl, rfl, by rw [hl true]; simp only [hcond, false_and, Bool.true_eq_false]⟩

/-- the coupling's reading of `B256Gen.b256Encode_run`: the state in which the field is closed (after the `k` characters
`chunk`, at the planned switch if one is ahead) -/
theorem b256_run {body : List Nat} {list : List Sym} {p w k : Nat} (hb : ByteList body) (at_ : Nat) (m' : EMode)
    (rest : List (Nat × EMode)) (s : St) (henc : EncAt body list s p w .base256 ((at_, m') :: rest))
    (hk : 1 ≤ k) (hat : at_ + p + k = body.length) (hm : 0 < at_ → m' ≠ .base256) :
    ∃ chunk : List Nat, chunk.length = k ∧ ByteList chunk ∧
      encodeMode s = EncStep.b256Finish s.cw.length
        (if 0 < at_ then { s with pos := p + k, cw := s.cw ++ 0 :: chunk, mode := m', plan := rest,
                                  newMode := match m'.latch with | some l => some l | none => s.newMode }
         else { s with pos := p + k, cw := s.cw ++ 0 :: chunk }) := by
  obtain ⟨k, rfl⟩ : ∃ k', k = k' + 1 := ⟨k - 1, by omega⟩
  obtain ⟨b1, _, b3, _, b5, b6, _⟩ := henc
  have hcl : at_ + (k + 1) = s.charsLeft := by simp only [St.charsLeft, b1, b3]; omega
  refine ⟨s.rest.take (k + 1), ?_, fun x hx => hb x (b1 ▸ List.mem_of_mem_drop (List.mem_of_mem_take hx)), ?_⟩
  · rw [List.length_take, EncStep.rest_length, ← hcl]; omega
  · rw [B256Gen.b256Encode_run k s b5 b6 hcl hm, b3]
    rfl

theorem switchSeg_base256 : SwitchSeg .base256 := by
  intro body list p w k g0 gk ac ctx' m' rest s hb hk hk1 hg0 hst _ hsc hunl hm' henc
  have hk1 : 1 ≤ k := hk1.resolve_right (by decide)
  obtain ⟨hk1555, _, hwritten, hacv⟩ := b256_switch_plan (by omega) hg0 hst hsc hunl
  have hle : w + 1 + k ≤ ctx'.written := by rw [hwritten]; exact Nat.le_add_right _ _
  refine ⟨hacv, by omega, ?_⟩
  -- the planned switch fires behind the last byte, and the length field is written
  obtain ⟨chunk, hck, hcb, hrun⟩ := b256_run hb (body.length - (p + k)) m' rest s henc hk1 (by omega) (fun _ => hm')
  obtain ⟨b1, b2, b3, b4, _, _, b7⟩ := henc
  rw [if_pos (by omega : 0 < body.length - (p + k)), b7] at hrun
  have hnm0 : (match m'.latch with | some l => some l | none => (none : Option Nat)) = m'.latch := by cases m'.latch <;> rfl
  rw [hnm0] at hrun
  obtain ⟨sX, hX⟩ : ∃ sX : St,
      sX = ({ s with pos := p + k, cw := s.cw ++ 0 :: chunk, mode := m', plan := rest, newMode := m'.latch } : St) := ⟨_, rfl⟩
  have hmore : sX.hasMore = true := by rw [hX]; exact decide_eq_true (b1 ▸ hk)
  have hnm : sX.newMode = m'.latch := by rw [hX]
  have hlX : sX.cw.length = w + 1 + k := by rw [hX, ← b4, ← hck]; simp only [List.length_append, List.length_cons]; omega
  rw [hrun, ← hX, EncStep.b256Finish]
  rcases writeLength_len sX s.cw chunk (by rw [hX]) hcb (List.ne_nil_of_length_pos (by omega)) (hck ▸ hk1555) with
    ⟨hwl, hnone⟩ | ⟨sp, cw', _, hwl, hlen⟩
  · exact Or.inr ⟨by rw [hwl], fbe_none_mono list _ _ ((show sX.list = list by rw [hX]; exact b2) ▸ hlX ▸ hnone) hle⟩
  · simp only [hmore, true_or, true_and, hlX, hck] at hlen
    refine Or.inl ⟨{ sX with cw := cw' }, by rw [hwl, hmore]; rfl, by rw [hX]; exact b1, by rw [hX]; exact b2, by rw [hX],
      hlen.trans hwritten.symm, by rw [hX], by rw [hX], hnm⟩

theorem endSegS_base256 : CoupleSeg.EndSegS .base256 0 := by
  intro body list p w k g0 gk gE r s hb hk hk1 hg0 hst hstep _ henc
  have hk1 : 1 ≤ k := hk1.resolve_right (by decide)
  obtain ⟨chunk, hck, hcb, hrun⟩ := b256_run hb 0 .base256 [] s henc hk1 (by omega) (fun h => absurd h (Nat.lt_irrefl 0))
  obtain ⟨b1, b2, b3, b4, _, _, b5⟩ := henc
  rw [if_neg (Nat.lt_irrefl 0)] at hrun
  obtain ⟨sL, hX⟩ : ∃ sL : St, sL = ({ s with pos := p + k, cw := s.cw ++ 0 :: chunk } : St) := ⟨_, rfl⟩
  have b7 : sL.cw.length = w + 1 + k := by rw [hX, ← b4, ← hck]; simp only [List.length_append, List.length_cons]; omega
  have hli : sL.list = list := by rw [hX]; exact b2
  obtain ⟨hk1555, hgE⟩ := b256_end_plan hg0 hk hst hstep
  rw [← show sL.sizeLeft 0 = CoupleC40.szLeft list (w + 1 + k + 0) by rw [CoupleC40.st_sizeLeft, hli, b7]] at hgE
  have hmore : sL.hasMore = false := by rw [hX]; exact decide_eq_false (show ¬ p + k < s.input.length by rw [b1]; omega)
  rw [hrun, ← hX, EncStep.b256Finish]
  refine ⟨by omega, ?_⟩
  rw [hgE, Nat.add_sub_cancel_left, PlanStep.ceil12_mul, Nat.mul_div_cancel_left _ (by omega : 0 < 12)]
  rcases writeLength_len sL s.cw chunk (by rw [hX]) hcb (List.ne_nil_of_length_pos (by omega)) (hck ▸ hk1555) with
    ⟨hwl, hnone⟩ | ⟨sp, cw', hsome, hwl, hlen⟩
  · rw [hwl]
    exact Or.inr ⟨rfl, SymbolList.fbe_none_mono list _ _ (hli ▸ b7 ▸ hnone) (by omega)⟩
  · rw [hwl, hsome, hmore]
    simp only [Bool.false_eq_true, if_false]
    simp only [hmore, Bool.false_eq_true, false_or, b7, hck] at hlen
    have hin : sL.input = body := by rw [hX]; exact b1
    have hpos : sL.pos = p + k := by rw [hX]
    have hr : (({ sL with cw := cw' } : St).setAscii).rest = [] := by
      simp only [St.rest, St.setAscii, hin]
      exact List.drop_eq_nil_of_le (by omega)
    refine CoupleSeg.Within.ok rfl (CoupleSeg.tail_of_le hin hli (by simp only [St.setAscii]; omega) (by rw [hX]; exact b5)
      (fun _ => ⟨rfl, rfl⟩) (by simp only [St.setAscii]; omega) ?_)
    rw [hr]
    simp only [St.setAscii, asciiSize, Option.getD_some, hlen]
    omega

theorem endSeg_base256 : EndSeg .base256 := endSegS_base256.endSeg

end DM.Lemmas.CoupleB256
