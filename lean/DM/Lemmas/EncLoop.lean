import DM.Model.Encode
/-!
One round of the encoder's main loop: the state a mode encoder is called on (`latched`), `Enc.mainLoop` unfolded for a
round and inverted, and `Enc.run` unfolded around the loop (`run_unfoldP`).  Chains of rounds are in `EncCalls`.
Namespace: `EncRT`.
-/
namespace DM.Lemmas.EncRT
open DM.Model DM.Model.Enc

/-- the state `encodeMode` is called on: a pending latch is written first -/
def latched (s : St) : St :=
  match s.newMode with
  | some nm => { s with newMode := none }.push nm
  | none => s

/-- `sL` is `s` with the pending latch `l` written: the state a mode encoder other than ASCII is called on -/
structure Latched (s sL : St) (l : Nat) : Prop where
  input : sL.input = s.input
  list : sL.list = s.list
  pos : sL.pos = s.pos
  plan : sL.plan = s.plan
  mode : sL.mode = s.mode
  newMode : sL.newMode = none
  cw : sL.cw = s.cw ++ [l]

theorem latched_spec {s : St} {l : Nat} (h : s.newMode = some l) : Latched s (latched s) l := by
  simp only [latched, h]
  exact ⟨rfl, rfl, rfl, rfl, rfl, rfl, rfl⟩

theorem ascii_call {s : St} (hnm : s.newMode = none) (hmode : s.mode = .ascii) :
    encodeMode (latched s) = asciiLoop (s.charsLeft + 2) s := by
  simp only [latched, hnm, encodeMode, hmode]

theorem mainLoop_end (f : Nat) (s : St) (k : Nat) (h : s.hasMore = false) : Enc.mainLoop (f + 1) s k = .ok s := by
  rw [Enc.mainLoop]; simp [h]

theorem latched_pos (s : St) : (latched s).pos = s.pos := by unfold latched; cases s.newMode <;> rfl
theorem latched_mode (s : St) : (latched s).mode = s.mode := by unfold latched; cases s.newMode <;> rfl

theorem mainLoop_unfold (f : Nat) (s : St) (nw : Nat) (hm : s.hasMore = true) :
    Enc.mainLoop (f + 1) s nw =
      match encodeMode (latched s) with
      | .error e => .error e
      | .ok s' =>
        if s'.cw.length < (latched s).cw.length then .error (.panic "codewords.len() - len")
        else if s'.cw.length - (latched s).cw.length ≤ 1 then
          (if nw + 1 > 5 then .error (.panic "no progress in encoder") else Enc.mainLoop f s' (nw + 1))
        else Enc.mainLoop f s' 0 := by
  rw [Enc.mainLoop]
  simp only [hm, Bool.not_true, Bool.false_eq_true, ↓reduceIte]
  unfold latched
  cases s.newMode <;> rfl

theorem mainLoop_call {f : Nat} {s sEnd : St} {nw : Nat} (h : Enc.mainLoop (f + 1) s nw = .ok sEnd) (hm : s.hasMore = true) :
    ∃ s', encodeMode (latched s) = .ok s' ∧ (latched s).cw.length ≤ s'.cw.length ∧
      (s'.cw.length - (latched s).cw.length ≤ 1 → nw ≤ 4) ∧
      Enc.mainLoop f s' (if s'.cw.length - (latched s).cw.length ≤ 1 then nw + 1 else 0) = .ok sEnd := by
  rw [mainLoop_unfold f s nw hm] at h
  cases he : encodeMode (latched s) with
  | error e => rw [he] at h; cases h
  | ok s' =>
    rw [he] at h
    simp only [] at h
    split at h
    · cases h
    · refine ⟨s', rfl, by omega, ?_⟩
      split at h
      · split at h
        · cases h
        · rw [if_pos ‹_›]; exact ⟨fun _ => by omega, h⟩
      · rw [if_neg ‹_›]; exact ⟨fun h1 => absurd h1 ‹_›, h⟩

theorem mainLoop_step (f : Nat) (s sEnd : St) (k : Nat) (h : Enc.mainLoop (f + 1) s k = .ok sEnd) (hm : s.hasMore = true) :
    ∃ s' k', encodeMode (latched s) = .ok s' ∧ Enc.mainLoop f s' k' = .ok sEnd :=
  let ⟨s', he, _, _, h'⟩ := mainLoop_call h hm
  ⟨s', _, he, h'⟩

theorem run_unfoldP (list : List Sym) (pre body cw : List Nat) (plan : List (Nat × EMode)) (sym : Sym)
    (h : run list pre body plan = .ok (cw, sym)) :
    ∃ sE, Enc.mainLoop (2 * body.length + 8)
        { input := body, pos := 0, mode := .ascii, plan := plan, newMode := none, cw := pre, list := list } 0 = .ok sE ∧
      firstBigEnough list sE.cw.length = some sym ∧
      addPadding sE.cw (sE.mode == .ascii) (dataCw sym) = some cw := by
  unfold run at h
  split at h
  · cases h
  split at h
  · cases h
  simp only [] at h
  cases hm : Enc.mainLoop (2 * body.length + 8)
      { input := body, pos := 0, mode := .ascii, plan := plan, newMode := none, cw := pre, list := list } 0 with
  | error e => rw [hm] at h; cases h
  | ok sE =>
    rw [hm] at h
    simp only [] at h
    cases hf : firstBigEnough list sE.cw.length with
    | none => rw [hf] at h; cases h
    | some sym' =>
      rw [hf] at h
      simp only [] at h
      cases ha : addPadding sE.cw (sE.mode == .ascii) (dataCw sym') with
      | none => rw [ha] at h; cases h
      | some cw' =>
        rw [ha] at h
        simp only [Except.ok.injEq, Prod.mk.injEq] at h
        obtain ⟨h1, h2⟩ := h
        subst h1 h2
        exact ⟨sE, rfl, hf, ha⟩


end DM.Lemmas.EncRT
