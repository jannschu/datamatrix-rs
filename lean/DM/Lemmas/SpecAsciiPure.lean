import DM.Lemmas.SpecAscii
/-
The pure ASCII plan against the reference decoder (continues `SpecAscii`, same namespace): the encoder's run
(`mainLoop_asciiP`), the decoder's final state in closed form (`asciiFinal`) and the whole run (`spec_run_ascii`).
-/
namespace DM.Lemmas.SpecAscii
open DM.Model DM.Lemmas DM.Lemmas.AsciiRT DM.Lemmas.SpecStep DM.Spec.Stream
open DM.Model.Enc (isDigit)

def startP (list : List Sym) (pre body : List Nat) (plan : List (Nat × Enc.EMode)) : Enc.St :=
  { input := body, pos := 0, mode := .ascii, plan := plan, newMode := none, cw := pre, list := list }

def endP (list : List Sym) (pre body : List Nat) : Enc.St :=
  { input := body, pos := body.length, mode := .ascii, plan := [(0, .ascii)], newMode := none,
    cw := pre ++ asciiEnc body, list := list }

theorem mainLoop_asciiP (list : List Sym) (pre body : List Nat) (plan : List (Nat × Enc.EMode))
    (hplan : plan = [(0, .ascii)] ∨ plan = [(body.length, .ascii), (0, .ascii)]) (f : Nat) (sE : Enc.St)
    (h : Enc.mainLoop (f + 1) (startP list pre body plan) 0 = .ok sE) :
    sE.cw = pre ++ asciiEnc body ∧ sE.mode = .ascii := by
  -- the loop goes from `startP` to `endP` in one round, or has nothing to do
  have hstep : ∀ s s', (s = startP list pre body plan ∨ s = endP list pre body) → s.hasMore = true →
      Enc.encodeMode (EncRT.latched s) = .ok s' → (s' = startP list pre body plan ∨ s' = endP list pre body) := by
    rintro s s' (rfl | rfl) hmore he
    · have hpos : 0 < body.length := of_decide_eq_true hmore
      have hloop : Enc.asciiLoop ((startP list pre body plan).charsLeft + 2) (startP list pre body plan) =
          .ok (endP list pre body) := by
        have h0 := asciiLoop_until_end ((startP list pre body [(0, .ascii)]).charsLeft + 2)
          (startP list pre body [(0, .ascii)]) rfl (by simp [startP]) (by omega)
        rcases hplan with rfl | rfl
        · exact h0.trans (by simp [startP, endP, Enc.St.rest])
        · have hc : (startP list pre body [(body.length, .ascii), (0, .ascii)]).charsLeft = body.length := by
            simp [Enc.St.charsLeft, startP]
          exact (asciiLoop_pop_own _ _ rfl (by rw [hc]; rfl) (by rw [hc]; exact hpos)).trans
            (h0.trans (by simp [startP, endP, Enc.St.rest]))
      have he' : Enc.encodeMode (EncRT.latched (startP list pre body plan)) = .ok (endP list pre body) := hloop
      rw [he'] at he
      cases he
      exact Or.inr rfl
    · simp [Enc.St.hasMore, endP] at hmore
  obtain ⟨hM, hmf⟩ := EncRT.mainLoop_ind hstep _ _ _ _ h (Or.inl rfl)
  rcases hM with rfl | rfl
  · have : body = [] := List.eq_nil_of_length_eq_zero (Nat.eq_zero_of_not_pos (of_decide_eq_false hmf))
    subst this
    exact ⟨by simp [startP, asciiEnc], rfl⟩
  · exact ⟨rfl, rfl⟩

def asciiFinal (n : Nat) (body : List Nat) (padAt : Option Nat) : DM.Spec.Stream.St :=
  { i := n, out := body.toArray, trace := Array.replicate body.length .ascii, padAt := padAt }

theorem spec_run_ascii (cwl pre body : List Nat) (hb : ByteList body) (L : Nat)
    (hL : L = pre.length + (asciiEnc body).length) (htake : cwl.take L = pre ++ asciiEnc body) (hp : Pads.Padded cwl L) :
    run cwl.toArray (3 * cwl.length + 4) { i := pre.length } =
      .ok (asciiFinal cwl.length body (if L = cwl.length then none else some L)) := by
  have := hp.le
  rw [(Steps.refl _ _).finish_ascii_rest rfl body hb L hL (occurs_of_take cwl pre (asciiEnc body) (hL ▸ htake)) hp (by omega)]
  simp [emit, asciiFinal]

end DM.Lemmas.SpecAscii
