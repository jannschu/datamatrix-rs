import DM.Lemmas.ListGetD
/- Lists of bytes, and the list operations that keep them so.
Namespaces: `DM.Lemmas`, `Complete` (`EdiChars`). -/
namespace DM.Lemmas

def Bytes (l : List Nat) : Prop := ∀ x ∈ l, x < 256

theorem Bytes.nil : Bytes [] := by intro x hx; simp at hx
theorem Bytes.cons {a : Nat} {l : List Nat} (ha : a < 256) (hl : Bytes l) : Bytes (a :: l) := by
  intro x hx
  rcases List.mem_cons.mp hx with rfl | hx
  · exact ha
  · exact hl x hx
theorem Bytes.tail {a : Nat} {l : List Nat} (h : Bytes (a :: l)) : Bytes l :=
  fun x hx => h x (List.mem_cons_of_mem _ hx)
theorem Bytes.head {a : Nat} {l : List Nat} (h : Bytes (a :: l)) : a < 256 :=
  h a (List.mem_cons_self ..)
theorem Bytes.append {l₁ l₂ : List Nat} (h1 : Bytes l₁) (h2 : Bytes l₂) : Bytes (l₁ ++ l₂) := by
  intro x hx
  rcases List.mem_append.mp hx with h | h
  · exact h1 x h
  · exact h2 x h
theorem Bytes.replicate_zero (n : Nat) : Bytes (List.replicate n 0) := by
  intro x hx
  have := (List.mem_replicate.mp hx).2
  omega
theorem Bytes.one : Bytes [1] := Bytes.cons (by omega) Bytes.nil

theorem Bytes.of_subset {l l' : List Nat} (h : Bytes l) (hs : l' ⊆ l) : Bytes l' :=
  fun x hx => h x (hs hx)

theorem Bytes.take {l : List Nat} (h : Bytes l) (n : Nat) : Bytes (l.take n) :=
  h.of_subset (List.take_subset n l)
theorem Bytes.drop {l : List Nat} (h : Bytes l) (n : Nat) : Bytes (l.drop n) :=
  h.of_subset (List.drop_subset n l)
theorem Bytes.reverse {l : List Nat} (h : Bytes l) : Bytes l.reverse :=
  fun x hx => h x (List.mem_reverse.mp hx)
theorem Bytes.dropLast {l : List Nat} (h : Bytes l) : Bytes l.dropLast :=
  h.of_subset (List.dropLast_subset l)
theorem Bytes.tail' {l : List Nat} (h : Bytes l) : Bytes l.tail :=
  fun x hx => h x (List.mem_of_mem_tail hx)

theorem Bytes.set {l : List Nat} (h : Bytes l) (i : Nat) {a : Nat} (ha : a < 256) :
    Bytes (l.set i a) := by
  intro x hx
  rcases List.mem_or_eq_of_mem_set hx with h' | h'
  · exact h x h'
  · rw [h']; exact ha

theorem Bytes.getD {l : List Nat} (h : Bytes l) (i : Nat) : l.getD i 0 < 256 := by
  by_cases hi : i < l.length
  · rw [getD_of_lt l i hi]; exact h _ (List.getElem_mem hi)
  · rw [getD_of_ge l i (Nat.le_of_not_lt hi)]; decide

theorem Bytes.headD {l : List Nat} (h : Bytes l) : l.headD 0 < 256 := by
  cases l with
  | nil => simp
  | cons a l => exact h.head

theorem Bytes.map_range (n : Nat) (f : Nat → Nat) (hf : ∀ i, i < n → f i < 256) :
    Bytes ((List.range n).map f) := by
  intro x hx
  simp only [List.mem_map, List.mem_range] at hx
  obtain ⟨i, hi, rfl⟩ := hx
  exact hf i hi

theorem bytes_zipWith (g : Nat → Nat → Nat) (A B : List Nat)
    (h : ∀ a ∈ A, ∀ b ∈ B, g a b < 256) : Bytes (List.zipWith g A B) := by
  induction A generalizing B with
  | nil => simp [Bytes]
  | cons a A ih =>
    cases B with
    | nil => simp [Bytes]
    | cons b B =>
      rw [List.zipWith_cons_cons]
      exact Bytes.cons (h a (List.mem_cons_self ..) b (List.mem_cons_self ..))
        (ih B fun a' ha' b' hb' => h a' (List.mem_cons_of_mem _ ha') b' (List.mem_cons_of_mem _ hb'))

end DM.Lemmas

namespace DM.Lemmas.Complete

def EdiChars (b : List Nat) : Prop := ∀ x ∈ b, 32 ≤ x ∧ x ≤ 94

end DM.Lemmas.Complete
