import DM.Model.Planner
import DM.Lemmas.SymbolList
/-!
# C40 / Text: the values of a stretch of the data

Planner and encoder both count values: after `N` values, `N / 3` triples are written (priced) and `N % 3` values are
buffered. `NV text body p j` is the number of values of the `j` characters from `p` (generic in the flag `text`;
`cmode text` is the mode).
Namespace: `CoupleC40`.
-/
namespace DM.Lemmas.CoupleC40
open DM.Model DM.Model.Plan DM.Model.Enc

theorem div3_add (N s : Nat) : (N + s) / 3 = N / 3 + (N % 3 + s) / 3 := by omega

theorem valSize_base (text : Bool) (ch : Nat) (h : c40InBase text ch = true) : c40ValSize text ch = 1 := by
  have hlt : ch < 128 := by
    unfold c40InBase isDigit at h
    cases text <;> simp at h <;> omega
  unfold c40ValSize
  simp only [ge_iff_le, show ¬ 128 ≤ ch by omega, ↓reduceIte, h, Nat.zero_add]

theorem valSize_bounds (text : Bool) (ch : Nat) : 1 ≤ c40ValSize text ch ∧ c40ValSize text ch ≤ 4 := by
  unfold c40ValSize
  simp only []
  split <;> split <;> omega

def NV (text : Bool) (body : List Nat) (a d : Nat) : Nat := (((body.drop a).take d).map (c40ValSize text)).sum

theorem NV_zero (text : Bool) (body : List Nat) (a : Nat) : NV text body a 0 = 0 := by simp [NV]

theorem NV_succ (text : Bool) (body : List Nat) (a d : Nat) (h : a + d < body.length) :
    NV text body a (d + 1) = NV text body a d + c40ValSize text body[a + d] := by
  unfold NV
  rw [List.take_add_one]
  have : (body.drop a)[d]? = some body[a + d] := by
    rw [List.getElem?_drop, List.getElem?_eq_getElem h]
  rw [this]
  simp

theorem NV_ge (text : Bool) (body : List Nat) (p : Nat) : ∀ k, p + k ≤ body.length → k ≤ NV text body p k
  | 0, _ => Nat.zero_le _
  | d + 1, h => by
    rw [NV_succ text body p d h]
    exact Nat.add_le_add (NV_ge text body p d (Nat.le_of_lt h)) (valSize_bounds text _).1

theorem twoDigits_drop {body : List Nat} {a : Nat} (h : a + 1 < body.length) :
    twoDigitsComing (body.drop a) = (isDigit body[a] && isDigit body[a + 1]) := by
  rw [List.drop_eq_getElem_cons (Nat.lt_of_succ_lt h), List.drop_eq_getElem_cons h]
  rfl

theorem two_digits_last {body : List Nat} {a : Nat} (h1 : a + 2 = body.length)
    (h2 : twoDigitsComing (body.drop a) = true) :
    isDigit (body.getD a 0) = true ∧ isDigit (body.getD (a + 1) 0) = true := by
  have ha : a < body.length := by omega
  have ha1 : a + 1 < body.length := by omega
  rw [twoDigits_drop ha1, Bool.and_eq_true] at h2
  simpa [List.getD, List.getElem?_eq_getElem ha, List.getElem?_eq_getElem ha1] using h2

theorem NV_two_digits (text : Bool) {body : List Nat} {p j : Nat} (h1 : p + j + 2 = body.length)
    (h2 : twoDigitsComing (body.drop (p + j)) = true) : NV text body p (j + 2) = NV text body p j + 2 := by
  have ha1 : p + j + 1 < body.length := by omega
  rw [twoDigits_drop ha1, Bool.and_eq_true] at h2
  have v (ch : Nat) (hd : isDigit ch = true) : c40ValSize text ch = 1 :=
    valSize_base text ch (by simp only [c40InBase, hd, Bool.or_true, Bool.true_or])
  rw [NV_succ text body p (j + 1) ha1, NV_succ text body p j (by omega), v _ h2.1, v body[p + (j + 1)] h2.2]

/-- the encoder leaves the loop early at `pos`: buffer empty, exactly two digits left -/
def DigitExit (text : Bool) (body : List Nat) (p j : Nat) : Prop :=
  p + j + 2 = body.length ∧ twoDigitsComing (body.drop (p + j)) = true ∧ NV text body p j % 3 = 0

instance (text : Bool) (body : List Nat) (p j : Nat) : Decidable (DigitExit text body p j) := by
  unfold DigitExit; infer_instance

theorem DigitExit.two_more {text : Bool} {body : List Nat} {p j : Nat} (h : DigitExit text body p j) :
    NV text body p (j + 2) / 3 = NV text body p j / 3 ∧ NV text body p (j + 2) % 3 = 2 := by
  rw [NV_two_digits text h.1 h.2.1]
  have := h.2.2
  omega

def cmode (text : Bool) : EMode := if text then .text else .c40

/-- the codewords `C40LikePlan::cost` adds at the end of the data: `L` codewords accounted for, `v` values
buffered, `lastCh` the last character read -/
def endExtra (list : List Sym) (L v lastCh : Nat) : Nat :=
  if v = 2 then (if (szLeft list (L + 2)).getD 0 = 0 then 2 else 3)
  else if v = 1 then
    (if (szLeft list (L + 1)).getD 0 = 0 then (if asciiSize [lastCh] = 1 then 1 else 1 + asciiSize [lastCh])
     else 1 + asciiSize [lastCh])
  else 0

theorem endExtra_ge (list : List Sym) (L v ch : Nat) (hv : v ≤ 2) : v ≤ endExtra list L v ch := by
  unfold endExtra
  split
  · subst v
    split <;> decide
  · split
    · subst v
      split
      · split
        · exact Nat.le_refl 1
        · exact Nat.le_add_right 1 _
      · exact Nat.le_add_right 1 _
    · omega

end DM.Lemmas.CoupleC40
