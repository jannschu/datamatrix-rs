import DM.Lemmas.PathMicro
import DM.Model.Path
import DM.Spec.Fill
/-
`compress` (the model of `compress_path`) against the path semantics of `DM.Spec.Fill`:
a list of micro steps that is a sequence of closed grid walks without a repeated unit edge is
compressed into a path that runs in the Fill semantics, ends closed, and draws exactly the unit
edges of the micro steps (`compress_spec`).
Namespace: `PathP`.
-/
namespace DM.Lemmas.PathP
open DM.Model.Path
open DM.Spec

theorem span_self (a : Int) : Fill.span a a = [] := by
  simp [Fill.span]

theorem span_eq_range' (a b : Int) (ha : 0 ≤ a) (hb : 0 ≤ b) :
    Fill.span a b = List.range' (min a b).toNat (max a b - min a b).toNat := by
  unfold Fill.span
  rw [List.range'_eq_map_range]
  apply List.map_congr_left
  intro k _
  omega

theorem count_span (a b : Int) (ha : 0 ≤ a) (hb : 0 ≤ b) (k : Nat) :
    (Fill.span a b).count k = if min a b ≤ (k : Int) ∧ (k : Int) < max a b then 1 else 0 := by
  rw [span_eq_range' a b ha hb, List.count_range_1']
  have : ((min a b).toNat ≤ k ∧ k < (min a b).toNat + (max a b - min a b).toNat) ↔
      (min a b ≤ (k : Int) ∧ (k : Int) < max a b) := by omega
  simp only [this]

theorem span_comm (a b : Int) : Fill.span a b = Fill.span b a := by
  unfold Fill.span
  rw [Int.min_comm, Int.max_comm]

theorem span_of_le {a b : Int} (ha : 0 ≤ a) (hab : a ≤ b) :
    Fill.span a b = List.range' a.toNat (b - a).toNat := by
  rw [span_eq_range' a b ha (by omega), Int.min_eq_left hab, Int.max_eq_right hab]

theorem span_unit {a b : Int} (ha : 0 ≤ a) (hb : 0 ≤ b) (h : b = a + 1 ∨ b = a - 1) :
    Fill.span a b = [(min a b).toNat] := by
  rcases h with rfl | rfl
  · rw [span_of_le ha (by omega), Int.min_eq_left (by omega), show a + 1 - a = 1 by omega]; rfl
  · rw [span_comm, span_of_le hb (by omega), Int.min_eq_right (by omega),
      show a - (a - 1) = 1 by omega]; rfl

theorem count_span_add {α : Type} [BEq α] (f : Nat → α) (p : α) {a b c : Int} (ha : 0 ≤ a) (hc : 0 ≤ c)
    (hb : a ≤ b ∧ b ≤ c ∨ c ≤ b ∧ b ≤ a) :
    ((Fill.span a c).map f).count p =
      ((Fill.span a b).map f).count p + ((Fill.span b c).map f).count p := by
  have up : ∀ {a b c : Int}, 0 ≤ a → a ≤ b → b ≤ c →
      Fill.span a c = Fill.span a b ++ Fill.span b c := by
    intro a b c ha hab hbc
    rw [span_of_le ha (by omega), span_of_le ha hab, span_of_le (by omega) hbc,
      show b.toNat = a.toNat + (b - a).toNat by omega, List.range'_append_1]
    congr 1
    omega
  rcases hb with ⟨h1, h2⟩ | ⟨h1, h2⟩
  · rw [up ha h1 h2, List.map_append, List.count_append]
  · rw [span_comm a c, span_comm a b, span_comm b c, up hc h1 h2, List.map_append, List.count_append,
      Nat.add_comm]

/-! `Fill` records vertical and horizontal unit edges in two lists of `(x, y) : Nat × Nat`; the micro steps draw
`Edge`s `(vertical?, i, j)` with `(i, j) = (y, x)`. -/

def edgesE (v h : List (Nat × Nat)) : List Edge :=
  v.map (fun p => ((true, (p.2 : Int), (p.1 : Int)) : Edge)) ++
    h.map (fun p => ((false, (p.2 : Int), (p.1 : Int)) : Edge))

def drawn (st : Fill.St) : List Edge := edgesE st.vEdges st.hEdges

/-- the unit edges `Fill` draws for the axis-parallel line from node `a` to node `b` -/
def lineE (a b : Node) : List Edge :=
  edgesE ((Fill.span a.1 b.1).map fun y => (a.2.toNat, y)) ((Fill.span a.2 b.2).map fun x => (x, a.1.toNat))

theorem lineE_self (a : Node) : lineE a a = [] := by simp [lineE, edgesE, span_self]

theorem count_edgesE_append (v v' h h' : List (Nat × Nat)) (e : Edge) :
    (edgesE (v ++ v') (h ++ h')).count e = (edgesE v h).count e + (edgesE v' h').count e := by
  simp only [edgesE, List.map_append, List.count_append]
  omega

theorem edgeOf_h (i pj j : Int) : edgeOf (i, pj) (i, j) = (false, i, min pj j) := by
  simp [edgeOf]

theorem edgeOf_v (pi pj i j : Int) (hne : ¬ i = pi) : edgeOf (pi, pj) (i, j) = (true, min pi i, pj) := by
  have : ¬ pi = i := fun e => hne e.symm
  simp [edgeOf, this]

theorem lineE_grow (a1 a2 b1 b2 c1 c2 : Int) (ha1 : 0 ≤ a1) (ha2 : 0 ≤ a2) (hc1 : 0 ≤ c1) (hc2 : 0 ≤ c2)
    (h : (a1 = b1 ∧ b1 = c1 ∧ (a2 ≤ b2 ∧ c2 = b2 + 1 ∨ b2 ≤ a2 ∧ c2 = b2 - 1)) ∨
         (a2 = b2 ∧ b2 = c2 ∧ (a1 ≤ b1 ∧ c1 = b1 + 1 ∨ b1 ≤ a1 ∧ c1 = b1 - 1))) (e : Edge) :
    (lineE (a1, a2) (c1, c2)).count e =
      (lineE (a1, a2) (b1, b2)).count e + [edgeOf (b1, b2) (c1, c2)].count e := by
  rcases h with ⟨rfl, rfl, h⟩ | ⟨rfl, rfl, h⟩
  · simp only [lineE, edgesE, span_self, List.map_nil, List.nil_append, List.map_map, edgeOf_h]
    rw [count_span_add _ _ ha2 hc2 (b := b2) (by omega), span_unit (by omega) hc2 (by omega), List.map_singleton,
      Function.comp, Int.toNat_of_nonneg ha1, Int.toNat_of_nonneg (by omega)]
  · have hne : ¬ c1 = b1 := by omega
    simp only [lineE, edgesE, span_self, List.map_nil, List.append_nil, List.map_map, edgeOf_v _ _ _ _ hne]
    rw [count_span_add _ _ ha1 hc1 (b := b1) (by omega), span_unit (by omega) hc1 (by omega), List.map_singleton,
      Function.comp, Int.toNat_of_nonneg ha2, Int.toNat_of_nonneg (by omega)]

theorem count_cast (b b' : Bool) (l : List (Nat × Nat)) (x y : Nat) :
    (l.map fun p => ((b, (p.2 : Int), (p.1 : Int)) : Edge)).count (b', (y : Int), (x : Int)) =
      if b = b' then l.count (x, y) else 0 := by
  induction l with
  | nil => simp
  | cons p l ih =>
    obtain ⟨p1, p2⟩ := p
    simp only [List.map_cons, List.count_cons, ih, beq_iff_eq, Prod.mk.injEq, Int.natCast_inj]
    by_cases hb : b = b' <;> simp [hb, and_comm]

theorem count_drawn_cast (st : Fill.St) (b : Bool) (x y : Nat) :
    (drawn st).count (b, (y : Int), (x : Int)) =
      if b then st.vEdges.count (x, y) else st.hEdges.count (x, y) := by
  simp only [drawn, edgesE, List.count_append, count_cast]
  cases b <;> simp

/-! ### a list-producing twin of `compress.go` -/

def goL : List Micro → Int × Int → Option Seg → List Seg
  | [], _, _ => [.z]
  | .step (i, j) :: rest, pos, wip =>
    match wip with
    | some (.h m) =>
      if i == pos.1 then goL rest (i, j) (some (.h (m + (j - pos.2))))
      else .h m :: goL rest (i, j) (some (.v (i - pos.1)))
    | some (.v m) =>
      if j == pos.2 then goL rest (i, j) (some (.v (m + (i - pos.1))))
      else .v m :: goL rest (i, j) (some (if i == pos.1 then .h (j - pos.2) else .v (i - pos.1)))
    | other =>
      (match other with | some s => [s] | none => []) ++
        goL rest (i, j) (some (if i == pos.1 then .h (j - pos.2) else .v (i - pos.1)))
  | .jump (i, j) :: rest, pos, _ => .z :: .m (j - pos.2) (i - pos.1) :: goL rest (i, j) none

theorem go_eq (ms : List Micro) : ∀ (pos : Int × Int) (wip : Option Seg) (acc : Array Seg),
    (compress.go ms pos wip acc).toList = acc.toList ++ goL ms pos wip := by
  induction ms with
  | nil => intro pos wip acc; simp [compress.go, goL]
  | cons a rest ih =>
    intro pos wip acc
    cases a with
    | jump n =>
      obtain ⟨i, j⟩ := n
      simp [compress.go, goL, ih]
    | step n =>
      obtain ⟨i, j⟩ := n
      cases wip with
      | none => simp [compress.go, goL, ih]
      | some s =>
        cases s with
        | h m =>
          simp only [compress.go, goL]
          split <;> simp [ih]
        | v m =>
          simp only [compress.go, goL]
          split <;> simp [ih]
        | z => simp [compress.go, goL, ih]
        | m a b => simp [compress.go, goL, ih]

theorem compress_eq (ms : List Micro) : compress ms = goL ms (0, 0) none := by
  simp [compress, go_eq]

/-! ### the local form of the hypotheses -/

def GoodWalk (w h : Nat) : Node → Node → Option Node → List Micro → Prop
  | S, cur, _, [] => cur = S
  | S, cur, prev, .step n :: r => adj cur n ∧ prev ≠ some n ∧ inBoxN w h n ∧ GoodWalk w h S n (some cur) r
  | S, cur, _, .jump n :: r => cur = S ∧ inBoxN w h n ∧ GoodWalk w h n n none r

theorem edgeOf_symm (a b : Node) (hab : adj a b) : edgeOf a b = edgeOf b a := by
  obtain ⟨a1, a2⟩ := a
  obtain ⟨b1, b2⟩ := b
  simp only [adj] at hab
  unfold edgeOf
  simp only
  by_cases h : a1 = b1
  · have h' : b1 = a1 := h.symm
    simp only [h, if_true]
    simp only [Prod.mk.injEq, true_and]
    omega
  · have h' : ¬ b1 = a1 := fun e => h e.symm
    simp only [h, h', if_false, Prod.mk.injEq, true_and]
    omega

theorem adj_symm (a b : Node) (hab : adj a b) : adj b a := by
  simp only [adj] at *
  omega

theorem good_of (w h : Nat) (ms : List Micro) : ∀ (S cur : Node) (prev : Option Node),
    chainOK cur ms → jumpsOK S cur ms → lastNode cur ms = tstart S ms →
    (∀ m ∈ ms, inBoxN w h m.node) → (medges cur ms).Nodup →
    (∀ q, prev = some q → adj q cur ∧ edgeOf q cur ∉ medges cur ms) →
    GoodWalk w h S cur prev ms := by
  induction ms with
  | nil =>
    intro S cur prev _ _ hcl _ _ _
    simpa [GoodWalk] using hcl
  | cons a r ih =>
    intro S cur prev hch hj hcl hbox hnd hprev
    cases a with
    | step n =>
      simp only [chainOK] at hch
      simp only [jumpsOK] at hj
      simp only [medges, List.nodup_cons] at hnd
      simp only [lastNode_cons, Micro.node, tstart_step] at hcl
      refine ⟨hch.1, ?_, ?_, ?_⟩
      · intro hp
        obtain ⟨hadj, hnot⟩ := hprev n hp
        apply hnot
        rw [edgeOf_symm n cur hadj]
        simp [medges]
      · exact hbox (.step n) (by simp)
      · apply ih S n (some cur) hch.2 hj hcl (fun m hm => hbox m (by simp [hm])) hnd.2
        intro q hq
        cases hq
        exact ⟨hch.1, hnd.1⟩
    | jump n =>
      simp only [chainOK] at hch
      simp only [jumpsOK] at hj
      simp only [medges] at hnd
      simp only [lastNode_cons, Micro.node, tstart_jump] at hcl
      refine ⟨hj.1, hbox (.jump n) (by simp), ?_⟩
      apply ih n n none hch hj.2 hcl (fun m hm => hbox m (by simp [hm])) hnd
      intro q hq
      cases hq

theorem run_cons_some (w h : Nat) (g : Fill.Seg) (gs : List Fill.Seg) (s s' : Fill.St)
    (hs : Fill.step w h s g = some s') : Fill.run w h (g :: gs) s = Fill.run w h gs s' := by
  simp [Fill.run, hs]

def Rel (st : Fill.St) (pos : Node) (prev : Option Node) : Option Seg → Prop
  | none => st.py = pos.1 ∧ st.px = pos.2
  | some (.h m) => m ≠ 0 ∧ st.py = pos.1 ∧ st.px + m = pos.2 ∧
      prev = some (pos.1, if 0 < m then pos.2 - 1 else pos.2 + 1)
  | some (.v m) => m ≠ 0 ∧ st.px = pos.2 ∧ st.py + m = pos.1 ∧
      prev = some (if 0 < m then pos.1 - 1 else pos.1 + 1, pos.2)
  | _ => False

theorem rel_h {st : Fill.St} {i j pj m : Int} (hpy : st.py = i) (hm : st.px + m = j)
    (hdir : 0 < m ∧ pj = j - 1 ∨ m < 0 ∧ pj = j + 1) :
    Rel st (i, j) (some (i, pj)) (some (.h m)) :=
  ⟨by omega, hpy, hm, by congr 2; split <;> omega⟩

theorem rel_v {st : Fill.St} {i j pi m : Int} (hpx : st.px = j) (hm : st.py + m = i)
    (hdir : 0 < m ∧ pi = i - 1 ∨ m < 0 ∧ pi = i + 1) :
    Rel st (i, j) (some (pi, j)) (some (.v m)) :=
  ⟨by omega, hpx, hm, by congr 2; split <;> omega⟩

theorem step_h_drawn (w h : Nat) (st : Fill.St) (m : Int) (hm : m ≠ 0) (hbox : inBoxN w h (st.py, st.px + m)) :
    ∃ st1, Fill.step w h st (.h m) = some st1 ∧ st1.px = st.px + m ∧ st1.py = st.py ∧
      st1.sx = st.sx ∧ st1.sy = st.sy ∧
      ∀ e, (drawn st1).count e = (drawn st).count e + (lineE (st.py, st.px) (st.py, st.px + m)).count e := by
  obtain ⟨px, py, sx, sy, cl, vE, hE⟩ := st
  simp only [inBoxN] at hbox
  refine ⟨⟨px + m, py, sx, sy, false, vE, hE ++ (Fill.span px (px + m)).map fun x => (x, py.toNat)⟩,
    by simp [Fill.step, hm, Fill.inBox, hbox], rfl, rfl, rfl, rfl, fun e => ?_⟩
  simpa [drawn, lineE, span_self] using count_edgesE_append vE [] hE ((Fill.span px (px + m)).map fun x => (x, py.toNat)) e

theorem step_v_drawn (w h : Nat) (st : Fill.St) (m : Int) (hm : m ≠ 0) (hbox : inBoxN w h (st.py + m, st.px)) :
    ∃ st1, Fill.step w h st (.v m) = some st1 ∧ st1.px = st.px ∧ st1.py = st.py + m ∧
      st1.sx = st.sx ∧ st1.sy = st.sy ∧
      ∀ e, (drawn st1).count e = (drawn st).count e + (lineE (st.py, st.px) (st.py + m, st.px)).count e := by
  obtain ⟨px, py, sx, sy, cl, vE, hE⟩ := st
  simp only [inBoxN] at hbox
  refine ⟨⟨px, py + m, sx, sy, false, vE ++ (Fill.span py (py + m)).map fun y => (px.toNat, y), hE⟩,
    by simp [Fill.step, hm, Fill.inBox, hbox], rfl, rfl, rfl, rfl, fun e => ?_⟩
  simpa [drawn, lineE, span_self] using count_edgesE_append vE ((Fill.span py (py + m)).map fun y => (px.toNat, y)) hE [] e

theorem step_z_drawn (w h : Nat) (st : Fill.St) (hal : st.px = st.sx ∨ st.py = st.sy) :
    ∃ st1, Fill.step w h st .z = some st1 ∧ st1.closed = true ∧ st1.px = st.sx ∧ st1.py = st.sy ∧
      st1.sx = st.sx ∧ st1.sy = st.sy ∧
      ∀ e, (drawn st1).count e = (drawn st).count e + (lineE (st.py, st.px) (st.sy, st.sx)).count e := by
  obtain ⟨px, py, sx, sy, cl, vE, hE⟩ := st
  by_cases hx : px = sx
  · subst hx
    refine ⟨⟨px, sy, px, sy, true, vE ++ (Fill.span py sy).map fun y => (px.toNat, y), hE⟩,
      by simp [Fill.step], rfl, rfl, rfl, rfl, rfl, fun e => ?_⟩
    simpa [drawn, lineE, span_self] using count_edgesE_append vE ((Fill.span py sy).map fun y => (px.toNat, y)) hE [] e
  · obtain rfl : py = sy := hal.resolve_left hx
    refine ⟨⟨sx, py, sx, py, true, vE, hE ++ (Fill.span px sx).map fun x => (x, py.toNat)⟩,
      by simp [Fill.step, hx], rfl, rfl, rfl, rfl, rfl, fun e => ?_⟩
    simpa [drawn, lineE, span_self] using count_edgesE_append vE [] hE ((Fill.span px sx).map fun x => (x, py.toNat)) e

theorem Rel.aligned {st : Fill.St} {pos : Node} {prev : Option Node} {wip : Option Seg}
    (hrel : Rel st pos prev wip) : st.px = pos.2 ∨ st.py = pos.1 := by
  cases wip with
  | none => exact .inl hrel.2
  | some s =>
    cases s with
    | h m => exact .inr hrel.2.1
    | v m => exact .inl hrel.2.1
    | z => exact hrel.elim
    | m a b => exact hrel.elim

theorem step_z (w h : Nat) (st : Fill.St) (pos : Node) (prev : Option Node) (wip : Option Seg)
    (hrel : Rel st pos prev wip) (hpos : pos = (st.sy, st.sx)) :
    ∃ st1, Fill.step w h st .z = some st1 ∧ st1.closed = true ∧ st1.px = st.sx ∧ st1.py = st.sy ∧
      st1.sx = st.sx ∧ st1.sy = st.sy ∧
      ∀ e, (drawn st1).count e = (drawn st).count e + (lineE (st.py, st.px) pos).count e := by
  subst hpos
  exact step_z_drawn w h st hrel.aligned

theorem step_wip (w h : Nat) (st : Fill.St) (pos : Node) (prev : Option Node) (s : Seg)
    (hrel : Rel st pos prev (some s)) (hbox : inBoxN w h pos) :
    ∃ st1, Fill.step w h st (toFillSeg s) = some st1 ∧ Rel st1 pos prev none ∧
      st1.sx = st.sx ∧ st1.sy = st.sy ∧
      ∀ e, (drawn st1).count e = (drawn st).count e + (lineE (st.py, st.px) pos).count e := by
  obtain ⟨pi, pj⟩ := pos
  cases s with
  | h m =>
    obtain ⟨h0, h1, h2, -⟩ := hrel
    simp only at h1 h2
    subst h1 h2
    obtain ⟨st1, hs, e1, e2, e3, e4, hd⟩ := step_h_drawn w h st m h0 hbox
    exact ⟨st1, hs, ⟨e2, e1⟩, e3, e4, hd⟩
  | v m =>
    obtain ⟨h0, h1, h2, -⟩ := hrel
    simp only at h1 h2
    subst h1 h2
    obtain ⟨st1, hs, e1, e2, e3, e4, hd⟩ := step_v_drawn w h st m h0 hbox
    exact ⟨st1, hs, ⟨e2, e1⟩, e3, e4, hd⟩
  | z => exact hrel.elim
  | m a b => exact hrel.elim

/-- the pending segment `wip` is the line from the `Fill` position to `pos` -/
def Draws (w h : Nat) (ms : List Micro) (pos : Node) (wip : Option Seg) (st : Fill.St) : Prop :=
  ∃ st', Fill.run w h ((goL ms pos wip).map toFillSeg) st = some st' ∧ st'.closed = true ∧
    ∀ e, (drawn st').count e =
      (drawn st).count e + (lineE (st.py, st.px) pos).count e + (medges pos ms).count e

theorem Draws.step {w h : Nat} {r : List Micro} {pos n : Node} {wip wip' : Option Seg} {st : Fill.St}
    (hd : Draws w h r n wip' st) (hgo : goL (.step n :: r) pos wip = goL r n wip')
    (hl : ∀ e, (lineE (st.py, st.px) n).count e =
      (lineE (st.py, st.px) pos).count e + [edgeOf pos n].count e) :
    Draws w h (.step n :: r) pos wip st := by
  obtain ⟨st', hrun, hcl, hv'⟩ := hd
  refine ⟨st', by rw [hgo]; exact hrun, hcl, fun e => ?_⟩
  rw [hv' e, hl e]; simp only [medges, List.count_cons, List.count_nil]; omega

theorem run_goL (w h : Nat) (ms : List Micro) :
    ∀ (pos : Node) (prev : Option Node) (wip : Option Seg) (st : Fill.St),
    GoodWalk w h (st.sy, st.sx) pos prev ms → inBoxN w h pos → 0 ≤ st.px → 0 ≤ st.py →
    Rel st pos prev wip → Draws w h ms pos wip st := by
  induction ms with
  | nil =>
    intro pos prev wip st hg hbox hpx hpy hrel
    simp only [GoodWalk] at hg
    obtain ⟨st1, hs, hcl, _, _, _, _, hd⟩ := step_z w h st pos prev wip hrel hg
    refine ⟨st1, by simp [goL, toFillSeg, Fill.run, hs], hcl, fun e => ?_⟩
    rw [hd e]; simp [medges]
  | cons a r ih =>
    intro pos prev wip st hg hbox hpx hpy hrel
    cases a with
    | jump n =>
      obtain ⟨i, j⟩ := n
      obtain ⟨pi, pj⟩ := pos
      simp only [GoodWalk] at hg
      obtain ⟨hpos, hboxn, hg'⟩ := hg
      obtain ⟨st1, hs, hcl, h1, h2, h3, h4, hd⟩ := step_z w h st (pi, pj) prev wip hrel hpos
      have hbn := hboxn
      simp only [inBoxN] at hbn
      simp only [Prod.mk.injEq] at hpos
      have e1 : st1.px + (j - pj) = j := by omega
      have e2 : st1.py + (i - pi) = i := by omega
      have hs2 : Fill.step w h st1 (.m (j - pj) (i - pi)) =
          some ⟨j, i, j, i, true, st1.vEdges, st1.hEdges⟩ := by
        simp [Fill.step, hcl, e1, e2, Fill.inBox, hbn]
      obtain ⟨st', hrun, hcl', hv'⟩ := ih (i, j) none none ⟨j, i, j, i, true, st1.vEdges, st1.hEdges⟩
        hg' hboxn hbn.2.2.1 hbn.1 ⟨rfl, rfl⟩
      refine ⟨st', ?_, hcl', fun e => ?_⟩
      · simp only [goL, List.map_cons, toFillSeg]
        rw [run_cons_some _ _ _ _ _ _ hs, run_cons_some _ _ _ _ _ _ hs2]
        exact hrun
      · rw [hv' e, lineE_self, show drawn ⟨j, i, j, i, true, st1.vEdges, st1.hEdges⟩ = drawn st1 from rfl, hd e]
        simp [medges]
    | step n =>
      obtain ⟨i, j⟩ := n
      obtain ⟨pi, pj⟩ := pos
      -- a step along the line from the Fill position: nothing is emitted, the line grows by the unit edge
      have along : ∀ (wip wip' : Option Seg) (st : Fill.St),
          GoodWalk w h (st.sy, st.sx) (i, j) (some (pi, pj)) r → inBoxN w h (i, j) → 0 ≤ st.px → 0 ≤ st.py →
          Rel st (i, j) (some (pi, pj)) wip' →
          goL (.step (i, j) :: r) (pi, pj) wip = goL r (i, j) wip' →
          ((st.py = pi ∧ pi = i ∧ (st.px ≤ pj ∧ j = pj + 1 ∨ pj ≤ st.px ∧ j = pj - 1)) ∨
            (st.px = pj ∧ pj = j ∧ (st.py ≤ pi ∧ i = pi + 1 ∨ pi ≤ st.py ∧ i = pi - 1))) →
          Draws w h (.step (i, j) :: r) (pi, pj) wip st := by
        intro wip wip' st hg' hboxn hpx hpy hrel' hgo hdir
        exact (ih (i, j) (some (pi, pj)) wip' st hg' hboxn hpx hpy hrel').step hgo
          (lineE_grow st.py st.px pi pj i j hpy hpx hboxn.1 hboxn.2.2.1 hdir)
      have start : ∀ (prev : Option Node) (st : Fill.St),
          GoodWalk w h (st.sy, st.sx) (pi, pj) prev (.step (i, j) :: r) → Rel st (pi, pj) prev none →
          Draws w h (.step (i, j) :: r) (pi, pj) none st := by
        intro prev st hg hrel
        obtain ⟨hadj, -, hboxn, hg'⟩ := hg
        simp only [adj] at hadj
        obtain ⟨rfl, rfl⟩ := hrel
        by_cases hi : i = st.py
        · subst hi
          exact along none (some (.h (j - st.px))) st hg' hboxn hbox.2.2.1 hbox.1
            (rel_h rfl (by omega) (by omega)) (by simp [goL]) (by omega)
        · have hj : j = st.px := by omega
          subst hj
          exact along none (some (.v (i - st.py))) st hg' hboxn hbox.2.2.1 hbox.1
            (rel_v rfl (by omega) (by omega)) (by simp [goL, hi]) (by omega)
      -- a step across the pending segment: draw it, then start afresh
      have turn : ∀ s : Seg, Rel st (pi, pj) prev (some s) →
          goL (.step (i, j) :: r) (pi, pj) (some s) = s :: goL (.step (i, j) :: r) (pi, pj) none →
          Draws w h (.step (i, j) :: r) (pi, pj) (some s) st := by
        intro s hrel hgo
        obtain ⟨st1, hs1, hrel1, e1, e2, hd1⟩ := step_wip w h st (pi, pj) prev s hrel hbox
        obtain ⟨st', hrun, hcl', hv'⟩ := start prev st1 (by rw [e1, e2]; exact hg) hrel1
        refine ⟨st', ?_, hcl', fun e => ?_⟩
        · rw [hgo, List.map_cons, run_cons_some _ _ _ _ _ _ hs1]; exact hrun
        · obtain ⟨r1, r2⟩ := hrel1
          rw [hv' e, r1, r2, lineE_self, hd1 e]
          simp
      cases wip with
      | none => exact start prev st hg hrel
      | some s =>
        obtain ⟨hadj, hne, hboxn, hg'⟩ := hg
        simp only [adj] at hadj
        cases s with
        | z => exact hrel.elim
        | m a b => exact hrel.elim
        | h m =>
          by_cases hi : i = pi
          · obtain ⟨r0, r1, r3, rfl⟩ := hrel
            simp only at r1 r3
            subst hi
            have h7 : 0 ≤ m ∧ j = pj + 1 ∨ m ≤ 0 ∧ j = pj - 1 := by
              simp only [ne_eq, Option.some.injEq, Prod.mk.injEq, true_and] at hne
              split at hne <;> omega
            exact along _ (some (.h (m + (j - pj)))) st hg' hboxn hpx hpy
              (rel_h r1 (by omega) (by omega)) (by simp [goL]) (by omega)
          · exact turn _ hrel (by simp [goL, hi])
        | v m =>
          by_cases hj : j = pj
          · obtain ⟨r0, r1, r3, rfl⟩ := hrel
            simp only at r1 r3
            subst hj
            have h7 : 0 ≤ m ∧ i = pi + 1 ∨ m ≤ 0 ∧ i = pi - 1 := by
              simp only [ne_eq, Option.some.injEq, Prod.mk.injEq, and_true] at hne
              split at hne <;> omega
            exact along _ (some (.v (m + (i - pi)))) st hg' hboxn hpx hpy
              (rel_v r1 (by omega) (by omega)) (by simp [goL]) (by omega)
          · exact turn _ hrel (by simp [goL, hj])



theorem compress_spec (w h : Nat) (ms : List Micro)
    (hchain : chainOK (0, 0) ms) (hjumps : jumpsOK (0, 0) (0, 0) ms)
    (hclosed : lastNode (0, 0) ms = tstart (0, 0) ms)
    (hbox : ∀ m ∈ ms, inBoxN w h m.node)
    (hnodup : (medges (0, 0) ms).Nodup) :
    ∃ st, DM.Spec.Fill.run w h ((compress ms).map toFillSeg) DM.Spec.Fill.init = some st ∧
      st.closed = true ∧
      (∀ x y : Nat, st.vEdges.count (x, y) = (medges (0, 0) ms).count (true, (y : Int), (x : Int))) ∧
      (∀ x y : Nat, st.hEdges.count (x, y) = (medges (0, 0) ms).count (false, (y : Int), (x : Int))) := by
  have hg : GoodWalk w h (0, 0) (0, 0) none ms :=
    good_of w h ms (0, 0) (0, 0) none hchain hjumps hclosed hbox hnodup (by intro q hq; cases hq)
  obtain ⟨st, hrun, hcl, hv⟩ := run_goL w h ms (0, 0) none none Fill.init hg
    (by simp [inBoxN]) (by simp [Fill.init]) (by simp [Fill.init]) ⟨rfl, rfl⟩
  have hd : ∀ e, (drawn st).count e = (medges (0, 0) ms).count e := fun e => by
    rw [hv e]; simp [Fill.init, drawn, edgesE, lineE_self]
  refine ⟨st, by rw [compress_eq]; exact hrun, hcl, fun x y => ?_, fun x y => ?_⟩
  · rw [← hd, count_drawn_cast]; rfl
  · rw [← hd, count_drawn_cast]; rfl

end DM.Lemmas.PathP
