import DM.Lemmas.RSBridge
import DM.Lemmas.RSTotal
import DM.Lemmas.RSField
import Mathlib.Algebra.BigOperators.Ring.Finset
import Mathlib.Data.List.Induction
/-
The clean case of the decoder.  A word evaluates to `Σ_i l_{n-1-i}·x^i`
(`evalH_toG`); the sum form with powers from the table, which `syndromes` and `chien_search` compute, is the value
at `α^m` (`ofNat_testV`); so the decoder's syndrome `j` is the value at `α^(j+1)` and equals the specification's
syndrome (Horner form, table-free arithmetic: `syndromes_eq_spec`).  Hence a block that is a codeword passes `decodeBlock`
unchanged (`decodeBlock_clean`).
Namespace: `DM.Lemmas`.
-/
namespace DM.Lemmas
open DM.Model DM.Model.RS DM.Spec

theorem evalH_toG (l : List Nat) (x : GF) :
    evalH (toG l) x = ∑ i ∈ Finset.range l.length, GF.ofNat (l.reverse.getD i 0) * x ^ i := by
  induction l using List.reverseRec with
  | nil => rfl
  | append_singleton l c ih =>
    rw [show toG (l ++ [c]) = toG l ++ [GF.ofNat c] from List.map_append, evalH_append, evalH_cons, evalH_nil, ih,
      List.length_append, List.length_singleton, List.length_singleton, Finset.sum_range_succ', Finset.sum_mul,
      List.reverse_append]
    simp only [List.reverse_singleton, List.singleton_append, List.getD_cons_succ, List.getD_cons_zero, pow_succ,
      List.length_nil, pow_zero, mul_one, one_mul, add_zero, mul_assoc]

theorem list_sum_range (f : ℕ → GF) (n : ℕ) :
    ((List.range n).map f).sum = ∑ i ∈ Finset.range n, f i := by
  induction n with
  | zero => simp
  | succ n ih => rw [List.range_succ, List.map_append, List.sum_append, ih, Finset.sum_range_succ]; simp

theorem ofNat_foldl_range (f : ℕ → ℕ) (n : ℕ) :
    GF.ofNat (((List.range n).map f).foldl gadd 0) = ∑ i ∈ Finset.range n, GF.ofNat (f i) := by
  rw [ofNat_foldl_xor, ofNat_zero, zero_add, List.map_map, list_sum_range]
  rfl

theorem ofNat_testV (l : List Nat) (hl : Bytes l) (m : Nat) :
    GF.ofNat (RSTotal.testV l m) = evalH (toG l) (α ^ m) := by
  unfold RSTotal.testV
  rw [ofNat_foldl_range, evalH_toG, List.length_reverse]
  refine Finset.sum_congr rfl fun i _ => ?_
  rw [GF.ofNat_gmul (hl.reverse.getD i) (alog_pos ((i * m) % 255) (Nat.mod_lt _ (by omega))).2, ofNat_alog_mod,
    ← pow_mul, Nat.mul_comm]

theorem syndromes_getD (r : List Nat) (k j : Nat) (hj : j < k) :
    (RS.syndromes r k).getD j 0 = RSTotal.testV r (j + 1) := by
  unfold RS.syndromes
  rw [getD_map_range, if_pos hj]
  rfl

theorem ofNat_syndromes_getD (r : List Nat) (hr : Bytes r) (k j : Nat) (hj : j < k) :
    GF.ofNat ((RS.syndromes r k).getD j 0) = evalH (toG r) (α ^ (j + 1)) := by
  rw [syndromes_getD r k j hj, ofNat_testV r hr]

theorem syndromes_eq_spec (l : List Nat) (hl : Bytes l) (k : Nat) (hk : k < 254) :
    RS.syndromes l k = Spec.syndromes l k := by
  unfold RS.syndromes Spec.syndromes
  apply List.map_congr_left
  intro j hj
  have hS := ofNat_evalS_spow2 l hl j (by have := List.mem_range.mp hj; omega)
  apply ofNat_inj
    (RSSound.foldl_gadd_lt _ _ (by omega) (Bytes.map_range _ _ fun _ _ => gmul_lt' _ _))
    hS.1
  exact (ofNat_testV l hl (j + 1)).trans hS.2.symm

theorem syndromes_all_zero (l : List Nat) (hl : Bytes l) (k : Nat) (hk : k < 254) :
    (RS.syndromes l k).all (· == 0) = isCodeword l k := by
  rw [syndromes_eq_spec l hl k hk]
  unfold Spec.syndromes isCodeword
  rw [List.all_map]
  rfl

theorem decodeBlock_clean (dB eB : List Nat) (k : Nat) (hb : Bytes (dB ++ eB)) (hk1 : 1 ≤ k) (hk : k < 254)
    (hn : k < dB.length + eB.length) (hcw : isCodeword (dB ++ eB) k = true) :
    decodeBlock dB eB k = .ok (dB, eB) := by
  unfold decodeBlock
  rw [if_neg (by omega), if_neg (by omega)]
  simp only
  rw [if_pos ((syndromes_all_zero _ hb k hk).trans hcw)]

end DM.Lemmas
