import DM.Lemmas.PlanRun
/-!
The Base 256 plan accounts one codeword for the length field when it is created (`b256New`), one per byte, and a second
length codeword at unlatch / cost time when 250 or more bytes were written; `b256Step` refuses the 1556th byte. The plan
after `j` steps is `b256At … j` in closed form (`b256_fresh`); `b256_switch_plan` and `b256_end_plan` are its two exits (the
end asks `CoupleC40.szLeft`, which is `symbol_size_left`: no second length codeword is needed when the symbol is exactly full).
Namespace: `CoupleB256`.
-/
namespace DM.Lemmas.CoupleB256
open DM.Model DM.Model.Plan DM.Lemmas.Couple
open DM.Lemmas.CoupleSeg (SwitchPlan)

theorem gstep_b256 {g g1 : GPlan} {P : B256P} {r : StepResult} (hp : g.plan = .base256 P)
    (hs : g.step = .ok (some (g1, r))) :
    ∃ P1, b256Step P = some (P1, r) ∧ g1.plan = .base256 P1 ∧ g1.extra = g.extra :=
  let ⟨e, _, P1, h1, h2⟩ := hp ▸ PlanStep.gstep_cases hs
  ⟨P1, h1, h2, e⟩

theorem b256Step_elim (P P1 : B256P) (r : StepResult) (hs : b256Step P = some (P1, r)) (he : r.end = false) :
    P.ctx.pos < P.ctx.data.length ∧ P.written + 1 ≠ 1556 ∧
    P1 = { ctx := P.ctx.eat.write 1, written := P.written + 1, cost := P.cost + 12 } := by
  rw [PlanStep.b256Step_eq] at hs
  split at hs
  · cases hs
    cases he
  · rename_i hm
    split at hs
    · cases hs
    · rename_i hne
      cases hs
      exact ⟨by simpa [Ctx.hasMore] using hm, hne, rfl⟩

theorem b256Step_end {P : B256P} (hm : P.ctx.hasMore = false) :
    b256Step P = some (P, { «end» := true, unbeatable := false }) := by
  rw [PlanStep.b256Step_eq, if_pos hm]

def b256At (body : List Nat) (list : List Sym) (p w j : Nat) : B256P :=
  { ctx := { data := body, pos := p + j, written := w + 1 + j, list := list }, written := j, cost := 12 + 12 * j }

theorem b256_fresh {body : List Nat} {list : List Sym} {p w k : Nat} {g0 gk : GPlan} (hp : p ≤ body.length)
    (hg0 : g0.plan = newPlan .base256 (ctxAt body list p w)) (hst : StepsTo k g0 gk) :
    gk.plan = .base256 (b256At body list p w k) ∧ gk.extra = g0.extra ∧ k ≤ 1555 := by
  obtain ⟨⟨h1, h3⟩, _, h2⟩ := CoupleSeg.fresh_inv
    (I := fun t pl => pl = .base256 (b256At body list p w t) ∧ t ≤ 1555)
    (fun t g g1 r _ _ ⟨hP, ht⟩ hs he => by
      obtain ⟨P1, hs1, hp1, _⟩ := gstep_b256 hP hs
      obtain ⟨_, hne, rfl⟩ := b256Step_elim _ P1 r hs1 he
      exact ⟨hp1, Nat.lt_of_le_of_ne ht (fun h => hne (congrArg (· + 1) h))⟩)
    hp hg0 ⟨rfl, Nat.zero_le _⟩ hst
  exact ⟨h1, h2, h3⟩

theorem b256_switch_plan {body : List Nat} {list : List Sym} {p w k ac : Nat} {g0 gk : GPlan} {ctx' : Ctx}
    (hp : p ≤ body.length) (hg0 : g0.plan = newPlan .base256 (ctxAt body list p w)) (hst : StepsTo k g0 gk)
    (hsc : gk.switchCost = some ac) (hunl : gk.unlatch = .ok ctx') :
    k ≤ 1555 ∧ ctx'.list = list ∧ ctx'.written = w + 1 + k + (if k ≥ 250 then 1 else 0) ∧
      ac = g0.extra + 12 * (ctx'.written - w) := by
  obtain ⟨hpk, hex, hk⟩ := b256_fresh hp hg0 hst
  unfold GPlan.unlatch at hunl
  unfold GPlan.switchCost at hsc
  rw [hpk] at hunl hsc
  simp only [Except.ok.injEq, Option.some.injEq] at hunl hsc
  subst hunl hsc
  rw [hex]
  show _ ∧ (if k ≥ 250 then _ else _ : Ctx).list = list ∧ (if k ≥ 250 then _ else _ : Ctx).written = _ ∧
    (if k ≥ 250 then 12 + 12 * k + 12 else 12 + 12 * k) + _ = _ + 12 * ((if k ≥ 250 then _ else _ : Ctx).written - w)
  by_cases h : k ≥ 250
  · simp only [if_pos h]
    exact ⟨hk, rfl, rfl, by show _ = _ + 12 * (w + 1 + k + 1 - w); omega⟩
  · simp only [if_neg h]
    exact ⟨hk, rfl, rfl, by show _ = _ + 12 * (w + 1 + k - w); omega⟩

theorem switchPlan_base256 : SwitchPlan .base256 := by
  intro body list p w k g0 gk ac ctx' hlt hk hg0 hst _ hsc hunl
  obtain ⟨_, _, hwr, hac⟩ := b256_switch_plan (by omega) hg0 hst hsc hunl
  have := hk.resolve_right (by decide)
  exact ⟨hac, by omega, fun _ => by omega, by omega⟩

theorem b256_end_plan {body : List Nat} {list : List Sym} {p w k : Nat} {g0 gk gE : GPlan} {r : StepResult}
    (hg0 : g0.plan = newPlan .base256 (ctxAt body list p w)) (hpk : p + k = body.length) (hst : StepsTo k g0 gk)
    (hstep : gk.step = .ok (some (gE, r))) :
    k ≤ 1555 ∧
      gE.cost = g0.extra + 12 * (1 + k + (if (CoupleC40.szLeft list (w + 1 + k + 0)).getD 1 > 0 ∧ k ≥ 250 then 1 else 0)) := by
  obtain ⟨hpk', hex, hk⟩ := b256_fresh (by omega) hg0 hst
  have hm : (b256At body list p w k).ctx.hasMore = false := decide_eq_false (by omega : ¬ p + k < body.length)
  obtain ⟨PE, hsE, hpE, hexE⟩ := gstep_b256 hpk' hstep
  rw [b256Step_end hm, Option.some.injEq, Prod.mk.injEq] at hsE
  refine ⟨hk, ?_⟩
  rw [GPlan.cost, hpE, hexE, hex, ← hsE.1]
  show _ + b256Cost _ = _
  unfold b256Cost
  simp only [hm, Bool.not_false, ↓reduceIte, CoupleC40.ctx_sizeLeft]
  show _ + (if (CoupleC40.szLeft list (w + 1 + k + 0)).getD 1 > 0 ∧ k ≥ 250 then 12 + 12 * k + 12 else 12 + 12 * k) = _
  split <;> omega

theorem endPlan_base256 : CoupleSeg.EndPlan .base256 := by
  intro body list p w k g0 gk gE r hpk _ h0 hst hstep _
  obtain ⟨_, hgE⟩ := b256_end_plan h0 hpk hst hstep
  rw [hgE]
  omega

end DM.Lemmas.CoupleB256
