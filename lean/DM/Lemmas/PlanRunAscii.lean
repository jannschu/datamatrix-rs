import DM.Lemmas.PlanRun
import DM.Lemmas.PlanSwitch
import DM.Lemmas.AsciiSize
/-!
What an ASCII plan has charged. Step by step: every codeword accounted for is charged, but for six twelfths per digit
that is paired and not yet read (`AsciiInv`); so where `write_unlatch` goes through - outside a digit pair -
the price is twelve times the codewords accounted for (`ascii_switch_plan`). To the end of the data:
the potential `finA data k P` = cost so far + the cost of encoding the unread rest in ASCII (inside a digit pair: the
second half of the pair, then the rest) is kept by every step and is the cost at the end, so
the price of a run to the end is the ASCII size of what it read (`ascii_end_plan`).
Namespaces: `C10Pot`, `CoupleAscii`.
-/
namespace DM.Lemmas.C10Pot
open DM.Model DM.Model.Plan DM.Model.Enc DM.Lemmas.PlanInv DM.Lemmas.AsciiSize

theorem asciiSize_drop_pair (data : List Nat) (k : Nat) (h : 2 ≤ digitsFrom data k) :
    asciiSize (data.drop k) = 1 + asciiSize (data.drop (k + 2)) := by
  have := asciiSize_pair (data.drop k) ((twoDigits_iff data k).mpr h)
  rw [this, List.drop_drop]

/-- fewer than two digits at `k`: one character stands there, for `asciiSize` and for the encoder's step alike -/
theorem drop_single {data : List Nat} {k : Nat} (hk : k < data.length) (h : digitsFrom data k < 2) :
    data.drop k = data.getD k 0 :: data.drop (k + 1) ∧ twoDigitsComing (data.getD k 0 :: data.drop (k + 1)) = false := by
  have e : data.drop k = data.getD k 0 :: data.drop (k + 1) := by
    rw [getD_of_lt _ _ hk]
    exact List.drop_eq_getElem_cons hk
  refine ⟨e, ?_⟩
  rw [← e]
  cases hh : twoDigitsComing (data.drop k) with
  | false => rfl
  | true => have := (twoDigits_iff data k).mp hh; omega

theorem asciiSize_drop_one (data : List Nat) (k : Nat) (hk : k < data.length) (h : digitsFrom data k < 2) :
    asciiSize (data.drop k) = (if data.getD k 0 ≤ 127 then 1 else 2) + asciiSize (data.drop (k + 1)) := by
  obtain ⟨e, h2⟩ := drop_single hk h
  rw [e]
  exact asciiSize_single _ _ h2

def finA (data : List Nat) (k : Nat) (P : AsciiP) : Nat :=
  if P.digitsAhead % 2 = 1 then P.cost + 6 + 12 * asciiSize (data.drop (k + 1))
  else P.cost + 12 * asciiSize (data.drop k)

theorem finA_step {data : List Nat} {list : List Sym} {k : Nat} (P P1 : AsciiP) (r : StepResult)
    (hc : CtxAt data list k P.ctx) (hl : P.digitsAhead ≤ digitsFrom data k)
    (hs : asciiStep P = .ok (P1, r)) (he : r.end = false) : finA data (k + 1) P1 = finA data k P := by
  obtain ⟨hlt, _, _, hcase⟩ := asciiStep_elim P P1 r hc hl hs he
  unfold finA
  rcases hcase with ⟨h0, hd, h1, _, hcost⟩ | ⟨h0, hd, h1, _, hcost⟩ | ⟨hpos, h1, _, hcost⟩
  · rw [h0, h1]
    simp only [Nat.zero_mod, Nat.zero_ne_one, ↓reduceIte]
    rw [asciiSize_drop_one data k hlt hd, hcost]
    split <;> omega
  · rw [h0, h1]
    have hodd : (digitsFrom data k / 2 * 2 - 1) % 2 = 1 := by omega
    simp only [hodd, Nat.zero_mod, Nat.zero_ne_one, ↓reduceIte]
    rw [asciiSize_drop_pair data k hd, hcost, show k + 1 + 1 = k + 2 from rfl]
    omega
  · rw [h1, hcost]
    by_cases hodd : P.digitsAhead % 2 = 1
    · have : ¬ (P.digitsAhead - 1) % 2 = 1 := by omega
      rw [if_pos hodd, if_neg this]
    · have : (P.digitsAhead - 1) % 2 = 1 := by omega
      rw [if_neg hodd, if_pos this]
      rw [asciiSize_drop_pair data k (by omega), show k + 1 + 1 = k + 2 from rfl]
      omega

theorem asciiStep_at_end {data : List Nat} {list : List Sym} {k : Nat} (P P1 : AsciiP) (r : StepResult)
    (hc : CtxAt data list k P.ctx) (hl : P.digitsAhead ≤ digitsFrom data k) (hk : ¬ k < data.length)
    (hs : asciiStep P = .ok (P1, r)) : P1.cost = P.cost ∧ P1.digitsAhead = 0 := by
  obtain ⟨p', r', e1, _, e3, _, _, e6⟩ := asciiStep_spec P hc hl
  rw [hs] at e1
  cases e1
  rw [nxt_end hk, digitsFrom_end hk] at e3
  rw [if_neg hk] at e6
  exact ⟨e6, by omega⟩

theorem finA_end {data : List Nat} {k : Nat} {P : AsciiP} (hk : ¬ k < data.length)
    (hl : P.digitsAhead ≤ digitsFrom data k) : finA data k P = P.cost := by
  have hd0 := digitsFrom_end hk
  have h0 : P.digitsAhead = 0 := by omega
  have hd : data.drop k = [] := List.drop_eq_nil_of_le (by omega)
  simp [finA, h0, hd, asciiSize]

end DM.Lemmas.C10Pot

namespace DM.Lemmas.CoupleAscii
open DM.Model DM.Model.Plan DM.Model.Enc DM.Lemmas.PlanInv DM.Lemmas.Couple

theorem gstep_ascii {g g1 : GPlan} {P : AsciiP} {r : StepResult} (hp : g.plan = .ascii P)
    (hs : g.step = .ok (some (g1, r))) :
    ∃ P1, asciiStep P = .ok (P1, r) ∧ g1.plan = .ascii P1 ∧ g1.extra = g.extra :=
  let ⟨e, _, P1, h1, h2⟩ := hp ▸ PlanStep.gstep_cases hs
  ⟨P1, h1, h2, e⟩

def AsciiInv (w t : Nat) (P : AsciiP) : Prop :=
  P.cost + 6 * P.digitsAhead = 12 * (P.ctx.written - w) ∧ w ≤ P.ctx.written ∧ 6 * t ≤ P.cost

theorem ascii_fresh {body : List Nat} {list : List Sym} {p w k : Nat} {g0 gk : GPlan} (hp : p ≤ body.length)
    (h0 : g0.plan = newPlan .ascii (ctxAt body list p w)) (hst : StepsTo k g0 gk) :
    ∃ Pk, gk.plan = .ascii Pk ∧ gk.extra = g0.extra ∧ CtxAt body list (p + k) Pk.ctx ∧ AsciiInv w k Pk := by
  have h := CoupleSeg.fresh_inv (I := fun t pl => ∃ P, pl = .ascii P ∧ AsciiInv w t P) ?_ hp h0
    ⟨_, rfl, by simp [ctxAt], Nat.le_refl _, Nat.zero_le _⟩ hst
  · obtain ⟨⟨Pk, a1, a5⟩, hc, hex⟩ := h
    have hx := hc.1
    rw [a1] at hx
    exact ⟨Pk, a1, hex, hx, a5⟩
  · intro t g g1 r hc _ ⟨P, hP, h1, h2, h3⟩ hs he
    obtain ⟨P1, hs1, hp1, _⟩ := gstep_ascii hP hs
    have hx := hc.1
    have hl := hc.2.2
    rw [hP] at hx hl
    obtain ⟨_, _, _, hcase⟩ := asciiStep_elim P P1 r hx hl hs1 he
    refine ⟨P1, hp1, ?_⟩
    unfold AsciiInv
    rcases hcase with ⟨c1, _, c3, c4, c5⟩ | ⟨c1, c2, c3, c4, c5⟩ | ⟨c1, c3, c4, c5⟩
    · rw [c3, c4, c5]; split <;> omega
    · rw [c3, c4, c5]; omega
    · rw [c3, c4, c5]; omega

theorem ascii_switch_plan {body : List Nat} {list : List Sym} {p w k ac : Nat} {g0 gk : GPlan} {ctx' : Ctx}
    (hp : p ≤ body.length) (hg0 : g0.plan = newPlan .ascii (ctxAt body list p w)) (hst : StepsTo k g0 gk)
    (hsc : gk.switchCost = some ac) (hunl : gk.unlatch = .ok ctx') :
    ∃ Pk, gk.plan = .ascii Pk ∧ Pk.digitsAhead = 0 ∧ ctx' = Pk.ctx ∧
      ac = g0.extra + 12 * (ctx'.written - w) ∧ w ≤ ctx'.written ∧ k ≤ 2 * (ctx'.written - w) := by
  obtain ⟨Pk, hpk, hex, -, h1, h2, h3⟩ := ascii_fresh hp hg0 hst
  have hcan := PlanSwitch.unlatch_ok_iff.mp hunl
  rw [hpk] at hcan
  obtain ⟨hd, rfl⟩ : Pk.digitsAhead = 0 ∧ ctx' = Pk.ctx := hcan
  rw [GPlan.switchCost, hpk, Option.some.injEq] at hsc
  rw [hd] at h1
  refine ⟨Pk, hpk, hd, rfl, ?_, h2, by omega⟩
  rw [← hsc, hex, show Pk.cost = 12 * (Pk.ctx.written - w) from h1, PlanStep.ceil12_mul, Nat.add_comm]

theorem switchPlan_ascii : CoupleSeg.SwitchPlan .ascii := by
  intro body list p w k g0 gk ac ctx' hlt _ hg0 hst _ hsc hunl
  obtain ⟨_, _, _, _, h1, h2, h3⟩ := ascii_switch_plan (by omega) hg0 hst hsc hunl
  exact ⟨h1, h2, fun h => absurd rfl h, h3⟩

theorem ascii_end_plan {body : List Nat} {list : List Sym} {p w k : Nat} {g0 gk gE : GPlan} {r : StepResult}
    (hpk : p + k = body.length) (h0 : g0.plan = newPlan .ascii (ctxAt body list p w)) (hst : StepsTo k g0 gk)
    (hstep : gk.step = .ok (some (gE, r))) : gE.cost = g0.extra + 12 * asciiSize (body.drop p) := by
  obtain ⟨⟨Pk, a1, a2⟩, hcore, hex⟩ := CoupleSeg.fresh_inv
    (I := fun t pl => ∃ P, pl = .ascii P ∧ C10Pot.finA body (p + t) P = 12 * asciiSize (body.drop p))
    (fun t g g1 r hc _ ⟨P, hP, hf⟩ hs he => by
      obtain ⟨P1, hs1, hp1, _⟩ := gstep_ascii hP hs
      have hx := hc.1
      have hl := hc.2.2
      rw [hP] at hx hl
      exact ⟨P1, hp1, by rw [← Nat.add_assoc, C10Pot.finA_step P P1 r hx hl hs1 he, hf]⟩)
    (by omega) h0 ⟨_, rfl, by simp [C10Pot.finA]⟩ hst
  have hx := hcore.1
  have hl := hcore.2.2
  rw [a1] at hx hl
  have hend : ¬ p + k < body.length := by omega
  obtain ⟨P1, b1, b2, b3⟩ := gstep_ascii a1 hstep
  obtain ⟨c1, -⟩ := C10Pot.asciiStep_at_end Pk P1 r hx hl hend b1
  rw [C10Pot.finA_end (P := Pk) hend hl] at a2
  unfold GPlan.cost
  rw [b2]
  simp only []
  rw [b3, hex, c1, a2]

theorem endPlan_ascii : CoupleSeg.EndPlan .ascii := by
  intro body list p w k g0 gk gE r hpk _ h0 hst hstep _
  have hsz := AsciiSize.asciiSize_ge (body.drop p)
  rw [List.length_drop] at hsz
  rw [ascii_end_plan hpk h0 hst hstep]
  omega

end DM.Lemmas.CoupleAscii
