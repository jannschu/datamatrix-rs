import DM.Lemmas.PlanLoop
/-!
Pruning in the planner model (`remove_hopeless_cases`): a candidate of mode `m` is only ever removed in favour of a plan
that is kept and is either a plan of mode `m` of at most its cost (deduplication, dominance by a plan of the same
mode) or a plan of another mode whose cost for switching to `m` is below its cost (dominance).
`prune_inherit` states this for an arbitrary property `Q` that is inherited along these two relations.
Namespaces: `PlanPrune`, `C10Prune` (`dedup_head`).
-/
namespace DM.Lemmas.PlanPrune
open DM.Model DM.Model.Plan DM.Model.Enc DM.Lemmas.PlanInv DM.Lemmas.PlanLoop

theorem modeIndex_inj {a b : EMode} (h : modeIndex a = modeIndex b) : a = b := by
  cases a <;> cases b <;> first | rfl | cases h

theorem pkey_current {f c : GPlan} (h : pkey f = pkey c) : f.current = c.current := by
  unfold pkey at h
  have a := modeIndex_lt f.current
  have b := modeIndex_lt c.current
  exact modeIndex_inj (by omega)

theorem dedup_chain : ∀ (l : List GPlan) (seen : List Nat), l.Pairwise (fun a b => a.cost ≤ b.cost) →
    ∀ c ∈ l, pkey c ∉ seen → ∃ f ∈ dedupPlans l seen, pkey f = pkey c ∧ f.cost ≤ c.cost := by
  intro l
  induction l with
  | nil => intro seen _ c hc; cases hc
  | cons p ps ih =>
    intro seen hpw c hc hns
    rw [List.pairwise_cons] at hpw
    unfold dedupPlans
    simp only []
    have hk : modeIndex p.startMode * 6 + modeIndex p.current = pkey p := rfl
    rw [hk]
    by_cases hseen : seen.contains (pkey p) = true
    · rw [if_pos hseen]
      rcases List.mem_cons.mp hc with rfl | hc
      · exact absurd (by simpa using hseen) hns
      · exact ih seen hpw.2 c hc hns
    · rw [if_neg hseen]
      rcases List.mem_cons.mp hc with rfl | hc
      · exact ⟨c, List.mem_cons_self .., rfl, Nat.le_refl _⟩
      · by_cases hkc : pkey c = pkey p
        · exact ⟨p, List.mem_cons_self .., hkc.symm, hpw.1 c hc⟩
        · obtain ⟨f, hf, h1, h2⟩ := ih (pkey p :: seen) hpw.2 c hc (by
            intro hm
            rcases List.mem_cons.mp hm with hm | hm
            · exact hkc hm
            · exact hns hm)
          exact ⟨f, List.mem_cons_of_mem _ hf, h1, h2⟩

theorem dominance_chain (first : GPlan) : ∀ (l : List GPlan), ∀ c ∈ l,
    c ∈ (dominancePlans first l).1 ∨ ∃ x, first.costForSwitchingTo c.current = some x ∧ x < c.cost := by
  intro l
  induction l with
  | nil => intro c hc; cases hc
  | cons s rest ih =>
    intro c hc
    unfold dominancePlans
    split
    · rename_i x hx
      simp only
      rcases List.mem_cons.mp hc with rfl | hc
      · by_cases hlt : x < c.cost
        · exact Or.inr ⟨x, hx, hlt⟩
        · rw [if_neg hlt]; exact Or.inl (List.mem_cons_self ..)
      · rcases ih c hc with h | h
        · left
          split
          · exact h
          · exact List.mem_cons_of_mem _ h
        · exact Or.inr h
    · exact Or.inl hc

theorem phase2_pre : ∀ (f : Nat) (pre l : List GPlan), ∀ x ∈ pre, x ∈ phase2Plans f pre l := by
  intro f
  induction f with
  | zero => intro pre l x hx; unfold phase2Plans; exact List.mem_append_left _ hx
  | succ f ih =>
    intro pre l x hx
    unfold phase2Plans
    cases l with
    | nil => exact hx
    | cons first rest =>
      simp only
      split
      · exact List.mem_append_left _ hx
      · split
        · exact ih _ _ x (List.mem_append_left _ hx)
        · exact List.mem_append_left _ hx

theorem phase2_head (f : Nat) (pre : List GPlan) (first : GPlan) (rest : List GPlan) :
    first ∈ phase2Plans f pre (first :: rest) := by
  cases f with
  | zero => unfold phase2Plans; simp
  | succ f =>
    unfold phase2Plans
    simp only
    split
    · simp
    · split
      · exact phase2_pre _ _ _ first (by simp)
      · simp

theorem removeHopeless_eq {cands live : List GPlan} {perm : List Nat}
    (h : removeHopelessPlans cands perm = .ok live) :
    ∃ l, live = phase2Plans l.length [] l ∧ l.Pairwise (fun a b => a.cost ≤ b.cost) ∧ (∀ x ∈ l, x ∈ cands) ∧
      ∀ c ∈ cands, ∃ f ∈ l, pkey f = pkey c ∧ f.cost ≤ c.cost := by
  obtain ⟨sorted, ha, rfl⟩ := removeHopelessPlans_ok h
  obtain ⟨h1, h2, h3⟩ := applyPerm_spec ha
  have hsub := dedupPlans_sublist sorted []
  exact ⟨_, rfl, h3.sublist hsub, fun x hx => h2 x (hsub.subset hx),
    fun c hc => dedup_chain sorted [] h3 c (h1 c hc) (by simp)⟩

/-- `Q` is inherited by whatever removes a plan of mode `m` -/
structure Inherit (cands : List GPlan) (m : EMode) (Q : GPlan → Prop) : Prop where
  same : ∀ f ∈ cands, ∀ c ∈ cands, Q c → c.current = m → f.current = m → f.cost ≤ c.cost → Q f
  other : ∀ f ∈ cands, ∀ c ∈ cands, Q c → c.current = m → f.current ≠ m →
    ∀ x, f.costForSwitchingTo m = some x → x < c.cost → Q f

theorem phase2_chain {cands : List GPlan} {m : EMode} {Q : GPlan → Prop} (hQ : Inherit cands m Q) :
    ∀ (f : Nat) (pre l : List GPlan), (∀ x ∈ l, x ∈ cands) →
      ∀ d ∈ l, Q d → d.current = m → ∃ d' ∈ phase2Plans f pre l, Q d' := by
  intro f
  induction f with
  | zero =>
    intro pre l _ d hd hq _
    unfold phase2Plans
    exact ⟨d, List.mem_append_right _ hd, hq⟩
  | succ f ih =>
    intro pre l hl d hd hq hda
    cases l with
    | nil => cases hd
    | cons first rest =>
      rcases List.mem_cons.mp hd with rfl | hdr
      · exact ⟨d, phase2_head _ _ _ _, hq⟩
      · rcases dominance_chain first rest d hdr with hk | ⟨x, hx, hlt⟩
        · unfold phase2Plans
          simp only
          split
          · exact ⟨d, List.mem_append_right _ hd, hq⟩
          · split
            · exact ih _ _ (fun x hx => hl x (List.mem_cons_of_mem _
                ((dominancePlans_sublist first rest).subset hx))) d hk hq hda
            · exact ⟨d, List.mem_append_right _ (List.mem_cons_of_mem _ hk), hq⟩
        · -- `first` removes `d`
          refine ⟨first, phase2_head _ _ _ _, ?_⟩
          have hfc := hl first (List.mem_cons_self ..)
          rw [hda] at hx
          by_cases hfm : first.current = m
          · have hle : first.cost ≤ d.cost := by
              rw [costFor_same hfm] at hx
              cases hx
              omega
            exact hQ.same first hfc d (hl d hd) hq hda hfm hle
          · exact hQ.other first hfc d (hl d hd) hq hda hfm x hx hlt

theorem prune_inherit {cands live : List GPlan} {perm : List Nat} {m : EMode} {Q : GPlan → Prop}
    (hQ : Inherit cands m Q) (h : removeHopelessPlans cands perm = .ok live) :
    ∀ c ∈ cands, Q c → c.current = m → ∃ c' ∈ live, Q c' := by
  intro c hc hq hcm
  obtain ⟨l, rfl, _, hsub, hkey⟩ := removeHopeless_eq h
  obtain ⟨f, hf, hk, hle⟩ := hkey c hc
  have hfm : f.current = m := by rw [pkey_current hk]; exact hcm
  exact phase2_chain hQ _ [] _ hsub f hf (hQ.same f (hsub f hf) c hc hq hcm hfm hle) hfm

theorem prune_cheapest {cands live : List GPlan} {perm : List Nat}
    (h : removeHopelessPlans cands perm = .ok live) :
    ∀ c ∈ cands, ∃ c' ∈ live, c'.cost ≤ c.cost := by
  intro c hc
  obtain ⟨l, rfl, hsorted, _, hkey⟩ := removeHopeless_eq h
  obtain ⟨f, hf, _, hle⟩ := hkey c hc
  cases l with
  | nil => cases hf
  | cons z rest =>
    refine ⟨z, phase2_head _ _ _ _, ?_⟩
    rcases List.mem_cons.mp hf with rfl | hf
    · exact hle
    · exact Nat.le_trans ((List.pairwise_cons.mp hsorted).1 f hf) hle

theorem removeHopeless_ne_nil {cands live : List GPlan} {perm : List Nat}
    (h : removeHopelessPlans cands perm = .ok live) (hne : cands ≠ []) : live ≠ [] := by
  cases cands with
  | nil => exact absurd rfl hne
  | cons c t =>
    obtain ⟨c', hc', _⟩ := prune_cheapest h c (List.mem_cons_self ..)
    exact List.ne_nil_of_mem hc'

end DM.Lemmas.PlanPrune

namespace DM.Lemmas.C10Prune
open DM.Model DM.Model.Plan

theorem dedup_head (p : GPlan) (ps : List GPlan) : p ∈ dedupPlans (p :: ps) [] := by
  simp [dedupPlans]

end DM.Lemmas.C10Prune
