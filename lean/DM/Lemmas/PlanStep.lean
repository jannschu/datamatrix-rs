import DM.Model.Planner
import DM.Lemmas.SymbolList
import DM.Lemmas.C40Count
/-!
What one `step()` does, in closed form: `GPlan.step` steps the plan of its own mode (`gstep_cases`, `gstep_none`), and
per mode the step is an equation for each of its cases - the data is read (`*_end`), the plan cannot continue, a
character is read. For X12 the cases are also gathered in one statement, `x12Step_cases`.
Namespaces: `PlanInv` (`c40ValSize_le`), `CoupleC40` (`ctx_sizeLeft`), `PlanStep`.
-/
namespace DM.Lemmas.CoupleC40
open DM.Model.Plan

/-- the planner's `symbol_size_left` is the encoder's (`st_sizeLeft`): room (`szLeft`) at the count accounted for -/
theorem ctx_sizeLeft (c : Ctx) (e : Nat) : c.sizeLeft e = szLeft c.list (c.written + e) := rfl

end DM.Lemmas.CoupleC40

namespace DM.Lemmas.PlanStep
open DM.Model DM.Model.Plan DM.Model.Enc

theorem le_ceil12 (x : Nat) : x ≤ ceil12 x := by
  unfold ceil12; split <;> omega

theorem ceil12_le (x n : Nat) (h : x ≤ 12 * n) : ceil12 x ≤ 12 * n := by
  unfold ceil12; split <;> omega

theorem ceil12_mul (n : Nat) : ceil12 (12 * n) = 12 * n :=
  if_pos (Nat.mul_mod_right 12 n)

theorem ceil12_add (a d : Nat) : ceil12 (12 * a + d) = 12 * a + ceil12 d := by
  unfold ceil12
  rw [Nat.mul_add_mod]
  split <;> omega

theorem ceil12_mod (c : Nat) : ceil12 c % 12 = 0 := by
  unfold ceil12
  split <;> omega

theorem gstep_cases {g g' : GPlan} {r : StepResult} (hs : g.step = .ok (some (g', r))) :
    g'.extra = g.extra ∧ g'.switches = g.switches ∧
    match g.plan with
    | .ascii p => ∃ p', asciiStep p = .ok (p', r) ∧ g'.plan = .ascii p'
    | .c40 p => ∃ p', c40Step p = some (p', r) ∧ g'.plan = .c40 p'
    | .x12 p => ∃ p', x12Step p = .ok (some (p', r)) ∧ g'.plan = .x12 p'
    | .edifact p => ∃ p', ediStep p = .ok (some (p', r)) ∧ g'.plan = .edifact p'
    | .base256 p => ∃ p', b256Step p = some (p', r) ∧ g'.plan = .base256 p' := by
  unfold GPlan.step at hs
  cases hp : g.plan with
  | ascii p =>
    rw [hp] at hs
    simp only [] at hs ⊢
    split at hs
    · cases hs
    · rename_i p' r' h1; cases hs; exact ⟨rfl, rfl, p', h1, rfl⟩
  | c40 p =>
    rw [hp] at hs
    simp only [] at hs ⊢
    split at hs
    · cases hs
    · rename_i p' r' h1; cases hs; exact ⟨rfl, rfl, p', h1, rfl⟩
  | x12 p =>
    rw [hp] at hs
    simp only [] at hs ⊢
    split at hs
    · cases hs
    · cases hs
    · rename_i p' r' h1; cases hs; exact ⟨rfl, rfl, p', h1, rfl⟩
  | edifact p =>
    rw [hp] at hs
    simp only [] at hs ⊢
    split at hs
    · cases hs
    · cases hs
    · rename_i p' r' h1; cases hs; exact ⟨rfl, rfl, p', h1, rfl⟩
  | base256 p =>
    rw [hp] at hs
    simp only [] at hs ⊢
    split at hs
    · cases hs
    · rename_i p' r' h1; cases hs; exact ⟨rfl, rfl, p', h1, rfl⟩

theorem gstep_none {g : GPlan} (hs : g.step = .ok none) :
    match g.plan with
    | .ascii _ => False
    | .c40 p => c40Step p = none
    | .x12 p => x12Step p = .ok none
    | .edifact p => ediStep p = .ok none
    | .base256 p => b256Step p = none := by
  unfold GPlan.step at hs
  cases hp : g.plan with
  | ascii p => rw [hp] at hs; simp only [] at hs ⊢; split at hs <;> cases hs
  | c40 p => rw [hp] at hs; simp only [] at hs ⊢; split at hs <;> first | assumption | cases hs
  | x12 p => rw [hp] at hs; simp only [] at hs ⊢; split at hs <;> first | assumption | cases hs
  | edifact p => rw [hp] at hs; simp only [] at hs ⊢; split at hs <;> first | assumption | cases hs
  | base256 p => rw [hp] at hs; simp only [] at hs ⊢; split at hs <;> first | assumption | cases hs

def asciiAhead (p : AsciiP) : AsciiP :=
  if p.digitsAhead = 0 then
    { p with digitsAhead := (p.ctx.rest.takeWhile isDigit).length / 2 * 2,
             ctx := p.ctx.write ((p.ctx.rest.takeWhile isDigit).length / 2 * 2 / 2) }
  else p

theorem asciiStep_eq (p : AsciiP) :
    asciiStep p =
      if (asciiAhead p).ctx.hasMore = false then
        .ok (asciiAhead p, ⟨true, decide ((asciiAhead p).digitsAhead > 0)⟩)
      else if (asciiAhead p).digitsAhead > 0 then
        if isDigit (asciiAhead p).ctx.peek = false then .error (.panic "assert ch.is_ascii_digit()")
        else .ok ({ asciiAhead p with ctx := (asciiAhead p).ctx.eat, digitsAhead := (asciiAhead p).digitsAhead - 1,
                                      cost := (asciiAhead p).cost + 6 }, ⟨false, true⟩)
      else .ok ({ asciiAhead p with
                    ctx := (asciiAhead p).ctx.eat.write (if (asciiAhead p).ctx.peek ≤ 127 then 1 else 2),
                    cost := (asciiAhead p).cost + 12 * (if (asciiAhead p).ctx.peek ≤ 127 then 1 else 2) },
                ⟨false, false⟩) := by
  unfold asciiStep
  extract_lets +onlyGivenNames digits ahead q
  have hq : q = asciiAhead p := rfl
  clear_value q
  subst hq
  dsimp only
  cases (asciiAhead p).ctx.hasMore
  · simp
  · by_cases hd : (asciiAhead p).digitsAhead > 0
    · cases h : isDigit (asciiAhead p).ctx.peek <;> simp [hd]
    · by_cases hc : (asciiAhead p).ctx.peek ≤ 127 <;> simp [hd, hc]

theorem b256Step_eq (p : B256P) :
    b256Step p =
      if p.ctx.hasMore = false then some (p, ⟨true, false⟩)
      else if p.written + 1 = 1556 then none
      else some ({ ctx := p.ctx.eat.write 1, written := p.written + 1, cost := p.cost + 12 }, ⟨false, false⟩) := by
  unfold b256Step
  cases p.ctx.hasMore <;> rfl

theorem planFlush (u : Bool) : ∀ (f : Nat) (q : C40P), q.values < 3 * f + 3 →
    c40Flush u f q = { q with values := q.values % 3, cost := q.cost + 24 * (q.values / 3),
                              ctx := if u then q.ctx else q.ctx.write (2 * (q.values / 3)) } := by
  intro f
  induction f with
  | zero =>
    intro q h
    rw [c40Flush, Nat.mod_eq_of_lt (by omega), Nat.div_eq_of_lt (by omega)]
    cases u <;> rfl
  | succ f ih =>
    intro q h
    rw [c40Flush]
    split
    · -- one round: a full triple is charged and written
      rw [ih _ (by simp only []; omega)]
      have e1 : (q.values - 3) % 3 = q.values % 3 := by omega
      have e2 : q.values / 3 = (q.values - 3) / 3 + 1 := by omega
      cases u <;> simp [Ctx.write, e1, e2, Nat.mul_add, Nat.add_assoc, Nat.add_comm]
    · rw [Nat.mod_eq_of_lt (by omega), Nat.div_eq_of_lt (by omega)]
      cases u <;> rfl

theorem c40Init_some {p q : C40P} (h : c40Init p = some q) :
    ∃ u t n, q = { p with unbeatableReads := u, twoDigitAsciiEnd := t, ctx := p.ctx.write n } := by
  have strike : ∀ p1 : C40P, ∃ u n, c40Strike p1 = { p1 with unbeatableReads := u, ctx := p1.ctx.write n } := by
    intro p1
    unfold c40Strike
    split
    · exact ⟨_, _, rfl⟩
    · exact ⟨_, 0, rfl⟩
  have two : ∀ p1, c40TwoDigit p = some p1 →
      ∃ u t n, p1 = { p with unbeatableReads := u, twoDigitAsciiEnd := t, ctx := p.ctx.write n } := by
    intro p1 h
    unfold c40TwoDigit at h
    split at h
    · split at h
      · split at h
        · cases h
        · split at h
          · cases h; exact ⟨_, _, _, rfl⟩
          · split at h
            · cases h; exact ⟨_, _, _, rfl⟩
            · cases h; exact ⟨_, _, 0, rfl⟩
      · cases h; exact ⟨_, _, 0, rfl⟩
    · cases h; exact ⟨_, _, 0, rfl⟩
  unfold c40Init at h
  split at h
  · cases ht : c40TwoDigit p with
    | none => rw [ht] at h; cases h
    | some p1 =>
      rw [ht] at h
      simp only [Option.map_some, Option.some.injEq] at h
      obtain ⟨u, t, n, rfl⟩ := two p1 ht
      obtain ⟨u', n', hs⟩ := strike { p with unbeatableReads := u, twoDigitAsciiEnd := t, ctx := p.ctx.write n }
      rw [← h, hs]
      exact ⟨u', t, n + n', by simp [Ctx.write, Nat.add_assoc]⟩
  · cases h; exact ⟨_, _, 0, rfl⟩

theorem c40Step_none {q : C40P} (h : c40Step q = none) : c40Init q = none := by
  unfold c40Step at h
  cases hi : c40Init q with
  | none => rfl
  | some q1 => rw [hi] at h; simp only [] at h; split at h <;> cases h

theorem c40Step_some {q q' : C40P} {r : StepResult} (h : c40Step q = some (q', r)) :
    ∃ q1, c40Init q = some q1 ∧ r = ⟨!q1.ctx.hasMore, decide (q1.unbeatableReads > 0)⟩ := by
  unfold c40Step at h
  cases hi : c40Init q with
  | none => rw [hi] at h; cases h
  | some q1 =>
    rw [hi] at h
    simp only [] at h
    refine ⟨q1, rfl, ?_⟩
    split at h <;> cases h <;> rfl

theorem c40Step_end {q q1 : C40P} (hi : c40Init q = some q1) (hm : q1.ctx.hasMore = false) :
    c40Step q = some (q1, ⟨true, decide (q1.unbeatableReads > 0)⟩) := by
  simp only [c40Step, hi, hm, Bool.not_false, ↓reduceIte]

/-- a step that reads a character: `v` values with the new one, of which the full triples are paid for (and,
outside a strike, accounted for) at once -/
theorem c40Step_read {q q1 : C40P} (hi : c40Init q = some q1) (hm : q1.ctx.hasMore = true) (hv : q1.values ≤ 2) :
    c40Step q = some (
      let v := if 0 < q1.unbeatableReads then
                 (if q1.twoDigitAsciiEnd = false ∨ q1.values = 0 then q1.values + 1 else q1.values)
               else q1.values + c40ValSize q1.text q1.ctx.peek
      ({ q1 with ch := q1.ctx.peek, values := v % 3, unbeatableReads := q1.unbeatableReads - 1,
                 cost := q1.cost + 24 * (v / 3),
                 ctx := if 0 < q1.unbeatableReads then q1.ctx.eat else q1.ctx.eat.write (2 * (v / 3)) },
       ⟨false, decide (0 < q1.unbeatableReads)⟩)) := by
  have hvs := (CoupleC40.valSize_bounds q1.text q1.ctx.peek).2
  simp only [c40Step, hi, hm, Bool.not_true, Bool.false_eq_true, ↓reduceIte, gt_iff_lt, Bool.not_eq_true']
  by_cases hu : 0 < q1.unbeatableReads
  · simp only [hu, ↓reduceIte, decide_true]
    by_cases hc : q1.twoDigitAsciiEnd = false ∨ q1.values = 0 <;> simp only [hc, ↓reduceIte] <;>
      rw [planFlush true 3 _ (by simp only []; omega)] <;> rfl
  · simp only [hu, ↓reduceIte, decide_false]
    rw [planFlush false 3 _ (by simp only []; omega)]
    simp only [Bool.false_eq_true, ↓reduceIte, show q1.unbeatableReads - 1 = q1.unbeatableReads by omega]

/-- `Frac::new` for the denominators the planner uses -/
theorem frac_eq (n d : Nat) (h1 : 0 < d) (h4 : d ≤ 4) : frac n d = .ok (n * (12 / d)) := by
  have h : d = 1 ∨ d = 2 ∨ d = 3 ∨ d = 4 := by omega
  unfold frac
  rcases h with rfl | rfl | rfl | rfl <;> rfl

theorem x12Init_eq (p : X12P) (h0 : 0 < p.ctx.charsLeft) :
    x12Init p =
      if p.values = 0 ∧ p.ctx.charsLeft ≤ 2 ∧ p.asciiEnd = none then
        if asciiSize p.ctx.rest = 1 then
          .ok ((p.ctx.sizeLeft 1).map fun sl =>
            { p with cost := p.cost + (if sl = 0 then 0 else 12),
                     asciiEnd := some (asciiSize p.ctx.rest * (12 / p.ctx.charsLeft)) })
        else .ok (some { p with cost := p.cost + 12, asciiEnd := some (asciiSize p.ctx.rest * (12 / p.ctx.charsLeft)) })
      else .ok (some p) := by
  unfold x12Init
  by_cases hc : p.values = 0 ∧ p.ctx.charsLeft ≤ 2 ∧ p.asciiEnd = none
  · rw [if_pos hc, if_pos ⟨hc.1, hc.2.1, by simp [hc.2.2]⟩]
    simp only [frac_eq _ _ h0 (Nat.le_trans hc.2.1 (by decide))]
    by_cases h1 : asciiSize p.ctx.rest = 1
    · simp only [h1, ↓reduceIte]
      cases p.ctx.sizeLeft 1 with
      | none => rfl
      | some sl =>
        simp only [Option.map_some]
        by_cases hs1 : sl = 1
        · simp [hs1]
        · by_cases hs0 : sl = 0
          · simp [hs0]
          · simp [hs1, hs0]
    · simp only [h1, ↓reduceIte]
  · rw [if_neg hc, if_neg (fun h => hc ⟨h.1, h.2.1, by simpa using h.2.2⟩)]

/-- the surcharge `c0` (in twelfths) the end-of-data look-ahead of `X12Plan::step` adds for the UNLATCH:
nothing iff a single ASCII codeword remains and it exactly fills the symbol -/
def EndC (list : List Sym) (W asz c0 : Nat) : Prop :=
  (asz = 1 ∧ ∃ r, CoupleC40.szLeft list (W + 1) = some r ∧ c0 = if r = 0 then 0 else 12) ∨ (asz ≠ 1 ∧ c0 = 12)

theorem x12Init_trigger (q : X12P) (hv : q.values = 0) (ha : q.asciiEnd = none)
    (h0 : 0 < q.ctx.charsLeft) (h2 : q.ctx.charsLeft ≤ 2) :
    (x12Init q = .ok none ∧ asciiSize q.ctx.rest = 1 ∧ firstBigEnough q.ctx.list (q.ctx.written + 1) = none) ∨
    ∃ c0, x12Init q = .ok (some { q with cost := q.cost + c0,
                                         asciiEnd := some (asciiSize q.ctx.rest * (12 / q.ctx.charsLeft)) }) ∧
      EndC q.ctx.list q.ctx.written (asciiSize q.ctx.rest) c0 := by
  rw [x12Init_eq q h0, if_pos ⟨hv, h2, ha⟩]
  by_cases h1 : asciiSize q.ctx.rest = 1
  · rw [if_pos h1]
    cases hr : q.ctx.sizeLeft 1 with
    | none => exact Or.inl ⟨rfl, h1, CoupleC40.szLeft_eq_none_iff.mp hr⟩
    | some r => exact Or.inr ⟨_, rfl, Or.inl ⟨h1, r, hr, rfl⟩⟩
  · rw [if_neg h1]
    exact Or.inr ⟨12, rfl, Or.inr ⟨h1, rfl⟩⟩

theorem x12Init_skip (q : X12P) (h : ¬ (q.values = 0 ∧ q.ctx.charsLeft ≤ 2 ∧ q.asciiEnd = none)) :
    x12Init q = .ok (some q) := by
  unfold x12Init
  rw [if_neg]
  intro h3
  exact h ⟨h3.1, h3.2.1, by simpa using h3.2.2⟩

theorem x12Step_end (q : X12P) (hm : q.ctx.hasMore = false) :
    x12Step q = .ok (some (q, { «end» := true, unbeatable := q.asciiEnd.isSome })) := by
  simp only [x12Step, hm, Bool.not_false, ↓reduceIte]

theorem x12Step_ascii (q p : X12P) (f : Nat) (hm : q.ctx.hasMore = true) (hi : x12Init q = .ok (some p))
    (ha : p.asciiEnd = some f) :
    x12Step q = .ok (some ({ p with ctx := p.ctx.eat, cost := p.cost + f }, { «end» := false, unbeatable := true })) := by
  simp only [x12Step, hm, hi, ha, Bool.not_true, Bool.false_eq_true, ↓reduceIte, Option.isSome_some]

theorem x12Step_dead (q : X12P) (hm : q.ctx.hasMore = true) (hi : x12Init q = .ok none) : x12Step q = .ok none := by
  simp only [x12Step, hm, hi, Bool.not_true, Bool.false_eq_true, ↓reduceIte]

theorem x12Step_native (q p : X12P) (hm : q.ctx.hasMore = true) (hi : x12Init q = .ok (some p)) (ha : p.asciiEnd = none) :
    x12Step q = if isNativeX12 p.ctx.peek then
      .ok (some ({ ctx := { p.ctx with pos := p.ctx.pos + 1,
                                       written := p.ctx.written + if (p.values + 1) % 3 = 0 then 2 else 0 },
                   values := (p.values + 1) % 3, asciiEnd := none, cost := p.cost + 8 },
                 { «end» := false, unbeatable := false }))
      else .ok none := by
  simp only [x12Step, hm, hi, ha, Bool.not_true, Bool.false_eq_true, ↓reduceIte]
  cases isNativeX12 p.ctx.peek
  · rfl
  · by_cases hv : (p.values + 1) % 3 = 0 <;> simp [hv, Ctx.eat, Ctx.write]

/-- what a step of an X12 plan that reads a character does: one more character of the ASCII end; the look-ahead starts
the ASCII end (at a triple boundary with at most two characters left) and its first character is read; a native value -/
inductive X12Read (q : X12P) : X12P → StepResult → Prop
  | asc (f : Nat) (ha : q.asciiEnd = some f) :
      X12Read q { q with ctx := q.ctx.eat, cost := q.cost + f } { «end» := false, unbeatable := true }
  | fire (c0 : Nat) (hv : q.values = 0) (ha : q.asciiEnd = none) (h2 : q.ctx.charsLeft ≤ 2)
      (hE : EndC q.ctx.list q.ctx.written (asciiSize q.ctx.rest) c0) :
      X12Read q { q with ctx := q.ctx.eat, cost := q.cost + c0 + asciiSize q.ctx.rest * (12 / q.ctx.charsLeft),
                         asciiEnd := some (asciiSize q.ctx.rest * (12 / q.ctx.charsLeft)) }
        { «end» := false, unbeatable := true }
  | nat (hc : ¬ (q.values = 0 ∧ q.ctx.charsLeft ≤ 2)) (ha : q.asciiEnd = none) (hn : isNativeX12 q.ctx.peek = true) :
      X12Read q { ctx := { q.ctx with pos := q.ctx.pos + 1,
                                      written := q.ctx.written + if (q.values + 1) % 3 = 0 then 2 else 0 },
                  values := (q.values + 1) % 3, asciiEnd := none, cost := q.cost + 8 }
        { «end» := false, unbeatable := false }

/-- why a step of an X12 plan answers "cannot continue": the look-ahead finds the single ASCII codeword left fits no listed
symbol, or the next character is not native -/
def X12Dead (q : X12P) : Prop :=
  (q.values = 0 ∧ q.ctx.charsLeft ≤ 2 ∧ asciiSize q.ctx.rest = 1 ∧
    firstBigEnough q.ctx.list (q.ctx.written + 1) = none) ∨
  (¬ (q.values = 0 ∧ q.ctx.charsLeft ≤ 2) ∧ isNativeX12 q.ctx.peek = false)

theorem x12Step_cases (q : X12P) :
    match x12Step q with
    | .error _ => False
    | .ok none => q.ctx.hasMore = true ∧ q.asciiEnd = none ∧ X12Dead q
    | .ok (some (q', r)) =>
      (q.ctx.hasMore = false ∧ q' = q ∧ r = { «end» := true, unbeatable := q.asciiEnd.isSome }) ∨
      (q.ctx.hasMore = true ∧ X12Read q q' r) := by
  cases hm : q.ctx.hasMore with
  | false =>
    rw [x12Step_end q hm]
    exact .inl ⟨rfl, rfl, rfl⟩
  | true =>
    have h0 : 0 < q.ctx.charsLeft := by
      simp only [Ctx.hasMore, decide_eq_true_eq] at hm
      unfold Ctx.charsLeft; omega
    by_cases hc : q.values = 0 ∧ q.ctx.charsLeft ≤ 2 ∧ q.asciiEnd = none
    · rcases x12Init_trigger q hc.1 hc.2.2 h0 hc.2.1 with ⟨hi, h1, hf⟩ | ⟨c0, hi, hE⟩
      · rw [x12Step_dead q hm hi]
        exact ⟨rfl, hc.2.2, .inl ⟨hc.1, hc.2.1, h1, hf⟩⟩
      · rw [x12Step_ascii q _ _ hm hi rfl]
        exact .inr ⟨rfl, .fire c0 hc.1 hc.2.2 hc.2.1 hE⟩
    · have hi := x12Init_skip q hc
      cases hae : q.asciiEnd with
      | none =>
        have hc' : ¬ (q.values = 0 ∧ q.ctx.charsLeft ≤ 2) := fun h' => hc ⟨h'.1, h'.2, hae⟩
        rw [x12Step_native q q hm hi hae]
        cases hn : isNativeX12 q.ctx.peek with
        | false => exact ⟨rfl, rfl, .inr ⟨hc', hn⟩⟩
        | true => exact .inr ⟨rfl, .nat hc' hae hn⟩
      | some f =>
        rw [x12Step_ascii q q f hm hi hae]
        exact .inr ⟨rfl, .asc f hae⟩

theorem x12Step_some {q q' : X12P} {r : StepResult} (h : x12Step q = .ok (some (q', r))) :
    (q.ctx.hasMore = false ∧ q' = q ∧ r = { «end» := true, unbeatable := q.asciiEnd.isSome }) ∨
    (q.ctx.hasMore = true ∧ X12Read q q' r) := by
  have := x12Step_cases q
  rwa [h] at this

theorem x12Step_none {q : X12P} (h : x12Step q = .ok none) : q.ctx.hasMore = true ∧ q.asciiEnd = none ∧ X12Dead q := by
  have := x12Step_cases q
  rwa [h] at this

theorem ediInit_eq (p : EdiP) (h0 : 0 < p.ctx.charsLeft) :
    ediInit p =
      if p.written = 0 ∧ p.ctx.charsLeft ≤ 4 ∧ p.asciiEnd = none ∧ asciiSize p.ctx.rest ≤ 2 then
        .ok ((p.ctx.sizeLeft (asciiSize p.ctx.rest)).map fun sl =>
          if sl + asciiSize p.ctx.rest ≤ 2 then
            { p with asciiEnd := some (asciiSize p.ctx.rest * (12 / p.ctx.charsLeft)) }
          else p)
      else .ok (some p) := by
  unfold ediInit
  by_cases hc : p.written = 0 ∧ p.ctx.charsLeft ≤ 4 ∧ p.asciiEnd = none
  · have hL : p.written = 0 ∧ p.ctx.charsLeft ≤ 4 ∧ p.asciiEnd.isNone = true := ⟨hc.1, hc.2.1, by simp [hc.2.2]⟩
    rw [if_pos hL]
    by_cases h2 : asciiSize p.ctx.rest ≤ 2
    · have hR : p.written = 0 ∧ p.ctx.charsLeft ≤ 4 ∧ p.asciiEnd = none ∧ asciiSize p.ctx.rest ≤ 2 :=
        ⟨hc.1, hc.2.1, hc.2.2, h2⟩
      rw [if_pos hR]
      simp only [h2, ↓reduceIte, frac_eq _ _ h0 hc.2.1]
      cases p.ctx.sizeLeft (asciiSize p.ctx.rest) with
      | none => rfl
      | some sl => simp only [Option.map_some]; split <;> rfl
    · have hR : ¬ (p.written = 0 ∧ p.ctx.charsLeft ≤ 4 ∧ p.asciiEnd = none ∧ asciiSize p.ctx.rest ≤ 2) :=
        fun h => h2 h.2.2.2
      rw [if_neg hR]
      simp only [h2, ↓reduceIte]
  · have hL : ¬ (p.written = 0 ∧ p.ctx.charsLeft ≤ 4 ∧ p.asciiEnd.isNone = true) :=
      fun h => hc ⟨h.1, h.2.1, by simpa using h.2.2⟩
    have hR : ¬ (p.written = 0 ∧ p.ctx.charsLeft ≤ 4 ∧ p.asciiEnd = none ∧ asciiSize p.ctx.rest ≤ 2) :=
      fun h => hc ⟨h.1, h.2.1, h.2.2.1⟩
    rw [if_neg hL, if_neg hR]

theorem ediStep_end (q : EdiP) (h : q.ctx.hasMore = false) :
    ediStep q = .ok (some (q, { «end» := true, unbeatable := q.asciiEnd.isSome })) := by
  simp only [ediStep, h, Bool.not_false, ↓reduceIte]

theorem ediStep_portion (q p : EdiP) (f : Nat) (hm : q.ctx.hasMore = true) (hi : ediInit q = .ok (some p))
    (ha : p.asciiEnd = some f) :
    ediStep q = .ok (some ({ p with ctx := p.ctx.eat, cost := p.cost + f }, { «end» := false, unbeatable := true })) := by
  simp only [ediStep, hm, hi, ha, Bool.not_true, Bool.false_eq_true, ↓reduceIte]

theorem ediStep_dead (q : EdiP) (hm : q.ctx.hasMore = true) (hi : ediInit q = .ok none) : ediStep q = .ok none := by
  simp only [ediStep, hm, hi, Bool.not_true, Bool.false_eq_true, ↓reduceIte]

theorem ediStep_value (q p : EdiP) (hm : q.ctx.hasMore = true) (hi : ediInit q = .ok (some p)) (ha : p.asciiEnd = none) :
    ediStep q = if ediEncodable p.ctx.peek then
      .ok (some ({ ctx := { p.ctx with pos := p.ctx.pos + 1,
                                       written := p.ctx.written + if (p.written + 1) % 4 = 0 then 3 else 0 },
                   written := (p.written + 1) % 4, asciiEnd := none, cost := p.cost + 9 },
                 { «end» := false, unbeatable := false }))
      else .ok none := by
  simp only [ediStep, hm, hi, ha, Bool.not_true, Bool.false_eq_true, ↓reduceIte]
  cases ediEncodable p.ctx.peek
  · rfl
  · by_cases hv : (p.written + 1) % 4 = 0 <;> simp [hv, Ctx.eat, Ctx.write]

end DM.Lemmas.PlanStep
