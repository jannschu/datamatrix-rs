import DM.Lemmas.RSSafe
import DM.Lemmas.RSBridge
import Mathlib.Algebra.BigOperators.Ring.Finset
/-
Bytes and the field: the passage from the decoder model's `Nat` arithmetic (`gadd`, `gmul`, `gdivD`,
`dotV`) and its lists to the field `GF`.  Entry `i` of a list read in the field has three names with
one body, `RSTot.gF`, `RSSound.gf`, `LD.V` (total correctness and completeness, soundness, the
Levinson–Durbin algebra); the access lemmas are stated for `V`, for the other two where a user needs
them.  `RSSound.window` is a row of the syndromes against a locator, read in the field.
Namespaces: `DM.Lemmas` (`ofNat_foldl_xor`), `RSTot`, `RSSound`, `LD`.
-/
namespace DM.Lemmas
open DM.Model

theorem ofNat_foldl_xor (L : List Nat) (a : Nat) :
    GF.ofNat (L.foldl gadd a) = GF.ofNat a + (L.map GF.ofNat).sum := by
  induction L generalizing a with
  | nil => simp
  | cons b L ih =>
    simp only [List.foldl_cons, List.map_cons, List.sum_cons]
    rw [ih, GF.ofNat_xor]
    ring

end DM.Lemmas

namespace DM.Lemmas.RSTot
open DM.Model DM.Model.RS DM.Lemmas DM.Lemmas.RSTotal

def gF (l : List Nat) (i : Nat) : GF := GF.ofNat (l.getD i 0)

theorem dotV_lt (a b : List Nat) : dotV a b < 256 := by
  unfold dotV
  apply RSSound.foldl_gadd_lt _ _ (by omega)
  intro x hx
  rw [List.mem_iff_getElem] at hx
  obtain ⟨i, hi, rfl⟩ := hx
  rw [List.getElem_zipWith]
  exact gmul_lt' _ _

theorem ofNat_gdivD {a b : Nat} (ha : a < 256) (hb : b < 256) (h0 : b ≠ 0) :
    GF.ofNat (gdivD a b) = GF.ofNat a / GF.ofNat b := by
  unfold gdivD
  rw [gdiv_eq ha hb h0, Option.getD_some, GF.ofNat_gmul ha (ginv_lt b), div_eq_mul_inv]
  congr 1
  apply GF.ext
  rw [GF.inv_val, GF.ofNat_val (ginv_lt b), GF.ofNat_val hb]

theorem ofNat_one : GF.ofNat 1 = 1 := rfl

theorem ofNat_eq_iff {a b : Nat} (ha : a < 256) (hb : b < 256) : GF.ofNat a = GF.ofNat b ↔ a = b :=
  ⟨ofNat_inj ha hb, fun h => by rw [h]⟩

theorem gF_of_le (a : List Nat) (i : Nat) (h : a.length ≤ i) : gF a i = 0 := by
  unfold gF
  rw [getD_of_ge _ _ h]
  rfl

end DM.Lemmas.RSTot

namespace DM.Lemmas.RSSound
open DM.Model DM.Model.RS DM.Lemmas DM.Lemmas.RSTotal

def gf (l : List Nat) (i : Nat) : GF := GF.ofNat (l.getD i 0)

theorem gf_of_le {l : List Nat} {i : Nat} (h : l.length ≤ i) : gf l i = 0 := RSTot.gF_of_le l i h

theorem gf_cons_zero (a : Nat) (l : List Nat) : gf (a :: l) 0 = GF.ofNat a := rfl
theorem gf_cons_succ (a : Nat) (l : List Nat) (i : Nat) : gf (a :: l) (i + 1) = gf l i := rfl

theorem gf_append_left {l₁ l₂ : List Nat} {i : Nat} (h : i < l₁.length) :
    gf (l₁ ++ l₂) i = gf l₁ i := by
  unfold gf
  rw [getD_append, if_pos h]

theorem gf_snoc_one (w : List Nat) : gf (w ++ [1]) w.length = 1 := by
  unfold gf
  rw [getD_append, if_neg (Nat.lt_irrefl _), Nat.sub_self]
  rfl

theorem ofNat_eq_zero_iff {a : Nat} (ha : a < 256) : GF.ofNat a = 0 ↔ a = 0 := GF.ofNat_eq_zero ha

theorem gf_add_self (a : GF) : a + a = 0 := GF.add_self a

theorem gf_add_eq_zero_of_eq {a b : GF} (h : a = b) : a + b = 0 := by
  rw [h]; exact GF.add_self b

theorem sum_zipWith_getD (f : Nat → Nat → GF) (a b : List Nat) :
    (List.zipWith f a b).sum
      = ∑ i ∈ Finset.range (min a.length b.length), f (a.getD i 0) (b.getD i 0) := by
  induction a generalizing b with
  | nil => simp
  | cons x a ih =>
    cases b with
    | nil => simp
    | cons y b =>
      rw [List.zipWith_cons_cons, List.sum_cons, ih b, List.length_cons, List.length_cons,
        Nat.succ_min_succ, Finset.sum_range_succ', add_comm]
      rfl

theorem ofNat_dotv (a b : List Nat) (ha : Bytes a) (hb : Bytes b) :
    GF.ofNat ((List.zipWith gmul a b).foldl gadd 0)
      = ∑ i ∈ Finset.range (min a.length b.length), gf a i * gf b i := by
  rw [ofNat_foldl_xor, ofNat_zero, zero_add, List.map_zipWith, sum_zipWith_getD]
  exact Finset.sum_congr rfl fun i _ => GF.ofNat_gmul (ha.getD i) (hb.getD i)

theorem bytes_syndromes (l : List Nat) (k : Nat) : Bytes (syndromes l k) :=
  Bytes.map_range _ _ fun _ _ =>
    foldl_gadd_lt _ _ (by omega) (Bytes.map_range _ _ fun _ _ => gmul_lt' _ _)

def window (syn lam : List Nat) (j : Nat) : GF :=
  ∑ i ∈ Finset.range lam.length, gf syn (j + i) * gf lam i

end DM.Lemmas.RSSound

namespace DM.Lemmas.LD
open DM.Model DM.Model.RS DM.Lemmas DM.Lemmas.RSTotal DM.Lemmas.RSTot

def V (l : List Nat) (j : Nat) : GF := GF.ofNat (l.getD j 0)

theorem V_of_ge {l : List Nat} {j : Nat} (h : l.length ≤ j) : V l j = 0 := gF_of_le l j h

theorem V_nil (j : Nat) : V [] j = 0 := V_of_ge (by simp)
theorem V_cons_zero (a : Nat) (l : List Nat) : V (a :: l) 0 = GF.ofNat a := rfl
theorem V_cons_succ (a : Nat) (l : List Nat) (j : Nat) : V (a :: l) (j + 1) = V l j := rfl

theorem V_cons (a : Nat) (l : List Nat) (j : Nat) :
    V (a :: l) j = if j = 0 then GF.ofNat a else V l (j - 1) := by
  cases j with
  | zero => rfl
  | succ j => simp [V_cons_succ]

theorem V_slice (l : List Nat) (a L j : Nat) (hj : j < L) :
    V ((l.drop a).take L) j = V l (a + j) := by
  unfold V
  rw [getD_take, if_pos hj, getD_drop]

theorem V_map_range (n : Nat) (f : Nat → Nat) (j : Nat) :
    V ((List.range n).map f) j = if j < n then GF.ofNat (f j) else 0 := by
  unfold V
  rw [getD_map_range]
  split <;> rfl

theorem V_set (l : List Nat) (i x j : Nat) :
    V (l.set i x) j = if j = i ∧ i < l.length then GF.ofNat x else V l j := by
  unfold V
  rw [getD_set]
  by_cases h : i = j
  · subst h; split <;> simp_all
  · rw [if_neg (by omega), if_neg (by omega)]

theorem V_append (l₁ l₂ : List Nat) (j : Nat) :
    V (l₁ ++ l₂) j = if j < l₁.length then V l₁ j else V l₂ (j - l₁.length) := by
  unfold V
  rw [getD_append]
  split <;> rfl

theorem V_snoc_one (w : List Nat) (j : Nat) :
    V (w ++ [1]) j = if j < w.length then V w j else if j = w.length then 1 else 0 := by
  rw [V_append]
  split
  · rfl
  · split
    · rename_i h; rw [h, Nat.sub_self]; rfl
    · exact V_of_ge (by simp only [List.length_singleton]; omega)

theorem V_replicate_zero (k j : Nat) : V (List.replicate k 0) j = 0 := by
  unfold V
  rw [List.getD_eq_getElem?_getD, List.getElem?_replicate]
  split <;> rfl

theorem V_dropLast (l : List Nat) (j : Nat) (h : j + 1 < l.length) : V l.dropLast j = V l j := by
  unfold V
  rw [List.dropLast_eq_take, getD_take, if_pos (by omega)]

theorem ofNat_ne_zero {a : Nat} (ha : a < 256) (h0 : a ≠ 0) : GF.ofNat a ≠ 0 :=
  fun h => h0 ((GF.ofNat_eq_zero ha).mp h)

theorem bytes_of_getD {l : List Nat} (h : ∀ j, j < l.length → l.getD j 0 < 256) : Bytes l := by
  intro x hx
  obtain ⟨i, hi, rfl⟩ := List.getElem_of_mem hx
  exact getD_of_lt l i hi ▸ h i hi

end DM.Lemmas.LD
