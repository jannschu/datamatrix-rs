import DM.Lemmas.RSSafe
import DM.Lemmas.RSTot
import DM.Lemmas.ListGetD
/-
`find_error_values_bp` as a value: for pairwise distinct non-zero byte roots, at most as many as
there are syndromes, `bjorckPereyra roots syn = .ok (roots.map (gdivD 1), bpList roots syn)`
(`bjorckPereyra_eq`; the syndromes need not be bytes), with `bpList` the folds of its three stages.
Namespace: `RSTotal`.
-/
namespace DM.Lemmas.RSTotal
open DM.Model DM.Model.RS DM.Lemmas

variable {A : String → Prop}

theorem xor_ne_zero {a b : Nat} (h : a ≠ b) : gadd a b ≠ 0 := by
  intro h0
  apply h
  have h0 : a ^^^ b = 0 := h0
  have : a ^^^ (a ^^^ b) = a := by rw [h0, Nat.xor_zero]
  rw [← Nat.xor_assoc, Nat.xor_self, Nat.zero_xor] at this
  exact this.symm

theorem getD_map_gdivD (roots : List Nat) (i : Nat) (hi : i < roots.length) :
    (roots.map (gdivD 1)).getD i 0 = gdivD 1 roots[i] := by
  rw [getD_of_lt _ _ (by rwa [List.length_map]), List.getElem_map]

theorem inv_ne_zero (roots : List Nat) (hnz : ∀ r ∈ roots, r ≠ 0 ∧ r < 256) (i : Nat)
    (hi : i < roots.length) : (roots.map (gdivD 1)).getD i 0 ≠ 0 := by
  rw [getD_map_gdivD roots i hi]
  exact gdivD_ne_zero (by decide) (hnz _ (List.getElem_mem hi)).1

theorem inv_distinct (roots : List Nat) (hnd : roots.Nodup) (hnz : ∀ r ∈ roots, r ≠ 0 ∧ r < 256)
    (i j : Nat) (hi : i < roots.length) (hj : j < roots.length) (hij : i < j) :
    (roots.map (gdivD 1)).getD i 0 ≠ (roots.map (gdivD 1)).getD j 0 := by
  rw [getD_map_gdivD roots i hi, getD_map_gdivD roots j hj]
  intro h
  have hri := hnz _ (List.getElem_mem hi)
  have hrj := hnz _ (List.getElem_mem hj)
  have := gdivD_one_inj hri.2 hrj.2 hri.1 hrj.1 h
  exact (List.pairwise_iff_getElem.1 (List.nodup_iff_pairwise_ne.1 hnd)) i j hi hj hij this

/-- stage 1 of `find_error_values_bp`, round `k`: `j` runs downwards -/
def bpS1 (e : Nat) (x s : List Nat) (k : Nat) : List Nat :=
  ((List.range e).filter (· ≥ k + 1)).reverse.foldl
    (fun s j => s.set j (gadd (s.getD j 0) (gmul (x.getD k 0) (s.getD (j - 1) 0)))) s

def bpDiv (e : Nat) (x s : List Nat) (k : Nat) : List Nat :=
  ((List.range e).filter (· ≥ k + 1)).foldl
    (fun s j => s.set j (gdivD (s.getD j 0) (gadd (x.getD j 0) (x.getD (j - k - 1) 0)))) s

def bpSub (e : Nat) (s : List Nat) (k : Nat) : List Nat :=
  ((List.range (e - 1)).filter (· ≥ k)).foldl
    (fun s j => s.set j (gadd (s.getD j 0) (s.getD (j + 1) 0))) s

/-- the error values that `find_error_values_bp` returns -/
def bpList (roots syn : List Nat) : List Nat :=
  (List.range roots.length).foldl
    (fun s i => s.set i (gdivD (s.getD i 0) ((roots.map (gdivD 1)).getD i 0)))
    ((List.range (roots.length - 1)).reverse.foldl
      (fun s k => bpSub roots.length (bpDiv roots.length (roots.map (gdivD 1)) s k) k)
      ((List.range (roots.length - 1)).foldl (bpS1 roots.length (roots.map (gdivD 1))) syn))

theorem bpS1_length (e : Nat) (x s : List Nat) (k : Nat) : (bpS1 e x s k).length = s.length :=
  length_foldl _ (fun _ _ => List.length_set) _ _

theorem bpDiv_length (e : Nat) (x s : List Nat) (k : Nat) : (bpDiv e x s k).length = s.length :=
  length_foldl _ (fun _ _ => List.length_set) _ _

theorem bpSub_length (e : Nat) (s : List Nat) (k : Nat) : (bpSub e s k).length = s.length :=
  length_foldl _ (fun _ _ => List.length_set) _ _

theorem bpList_length (roots syn : List Nat) : (bpList roots syn).length = syn.length := by
  unfold bpList
  rw [length_foldl _ (fun _ _ => List.length_set),
    length_foldl _ (fun s k => by rw [bpSub_length, bpDiv_length]),
    length_foldl _ (fun s k => bpS1_length _ _ s k)]

theorem bjorckPereyra_eq (roots syn : List Nat) (hne : roots ≠ []) (hnd : roots.Nodup)
    (hnz : ∀ r ∈ roots, r ≠ 0 ∧ r < 256) (hlen : roots.length ≤ syn.length) :
    bjorckPereyra roots syn = .ok (roots.map (gdivD 1), bpList roots syn) := by
  have he : roots.length ≠ 0 := fun h => hne (List.length_eq_zero_iff.1 h)
  -- every loop after the first only overwrites entries of `s`: its length stays `syn.length`
  have l1 : ((List.range (roots.length - 1)).foldl
      (bpS1 roots.length (roots.map (gdivD 1))) syn).length = syn.length :=
    length_foldl _ (fun s k => bpS1_length _ _ s k) _ _
  have l2 : ((List.range (roots.length - 1)).reverse.foldl
      (fun s k => bpSub roots.length (bpDiv roots.length (roots.map (gdivD 1)) s k) k)
      ((List.range (roots.length - 1)).foldl
        (bpS1 roots.length (roots.map (gdivD 1))) syn)).length = syn.length := by
    rw [length_foldl _ (fun s k => by rw [bpSub_length, bpDiv_length]), l1]
  unfold bjorckPereyra
  simp only []
  rw [forIn_eq_foldl' _ (fun (x : List Nat) z => x ++ [gdivD 1 z]) roots [] fun z hz x => by
    rw [div'_ok (hnz z hz).1]; rfl]
  rw [foldl_snoc_map, List.nil_append, ok_bind, if_neg he]
  rw [(forIn_eq_foldl _ (bpS1 roots.length (roots.map (gdivD 1)))
    (fun s : List Nat => s.length = syn.length) _ syn rfl fun k hk s hs => ?_).1, ok_bind,
    (forIn_eq_foldl _
      (fun s k => bpSub roots.length (bpDiv roots.length (roots.map (gdivD 1)) s k) k)
      (fun s : List Nat => s.length = syn.length) _ _ l1 fun k hk s hs => ?_).1, ok_bind,
    (forIn_eq_foldl _ (fun s i => s.set i (gdivD (s.getD i 0) ((roots.map (gdivD 1)).getD i 0)))
      (fun s : List Nat => s.length = syn.length) _ _ l2 fun i hi s hs => ?_).1]
  · rfl
  · rw [List.mem_range] at hi
    refine ⟨?_, by rw [List.length_set, hs]⟩
    rw [at'_ok (by omega), ok_bind, div'_ok (inv_ne_zero roots hnz i hi)]
    rfl
  · simp only [List.mem_reverse, List.mem_range] at hk
    have ld := (bpDiv_length roots.length (roots.map (gdivD 1)) s k).trans hs
    refine ⟨?_, by rw [bpSub_length, ld]⟩
    unfold bpDiv at ld
    rw [(forIn_eq_foldl _ (fun s j => s.set j (gdivD (s.getD j 0)
        (gadd ((roots.map (gdivD 1)).getD j 0) ((roots.map (gdivD 1)).getD (j - k - 1) 0))))
      (fun s' : List Nat => s'.length = syn.length) _ s hs fun j hj s' hs' => ?_).1, ok_bind,
      (forIn_eq_foldl _ (fun s j => s.set j (gadd (s.getD j 0) (s.getD (j + 1) 0)))
        (fun s' : List Nat => s'.length = syn.length) _ _ ld fun j hj s' hs' => ?_).1]
    · rfl
    · simp only [List.mem_filter, List.mem_range, decide_eq_true_eq] at hj
      refine ⟨?_, by rw [List.length_set, hs']⟩
      rw [at'_ok (by omega), ok_bind, at'_ok (by omega)]
      rfl
    · simp only [List.mem_filter, List.mem_range, decide_eq_true_eq] at hj
      refine ⟨?_, by rw [List.length_set, hs']⟩
      rw [at'_ok (by omega), ok_bind, div'_ok (xor_ne_zero
        (inv_distinct roots hnd hnz (j - k - 1) j (by omega) hj.1 (by omega)).symm)]
      rfl
  · refine ⟨?_, by rw [bpS1_length, hs]⟩
    rw [(forIn_eq_foldl _ (fun s j => s.set j (gadd (s.getD j 0)
        (gmul ((roots.map (gdivD 1)).getD k 0) (s.getD (j - 1) 0))))
      (fun s' : List Nat => s'.length = syn.length) _ s hs fun j hj s' hs' => ?_).1]
    · rfl
    · simp only [List.mem_reverse, List.mem_filter, List.mem_range, decide_eq_true_eq] at hj
      refine ⟨?_, by rw [List.length_set, hs']⟩
      rw [at'_ok (by omega), ok_bind, at'_ok (by omega)]
      rfl
theorem bjorckPereyra_safe (roots syn : List Nat) (hne : roots ≠ []) (hnd : roots.Nodup)
    (hnz : ∀ r ∈ roots, r ≠ 0 ∧ r < 256) (hlen : roots.length ≤ syn.length) :
    Safe A (bjorckPereyra roots syn) (fun p => ∀ l ∈ p.1, l ≠ 0) := by
  rw [bjorckPereyra_eq roots syn hne hnd hnz hlen]
  intro l hl
  obtain ⟨r, hr, rfl⟩ := List.mem_map.mp hl
  exact gdivD_ne_zero (by decide) (hnz r hr).1

theorem bjorckPereyra_noPanic (roots syn : List Nat) (hne : roots ≠ []) (hnd : roots.Nodup)
    (hnz : ∀ r ∈ roots, r ≠ 0 ∧ r < 256) (hlen : roots.length ≤ syn.length) (site : String) :
    bjorckPereyra roots syn ≠ .error (.panic site) :=
  fun h => Safe_panic (bjorckPereyra_safe (A := fun _ => False) roots syn hne hnd hnz hlen) h

end DM.Lemmas.RSTotal
