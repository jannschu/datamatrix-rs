import DM.Model.Symbol
/-
The symbol list of the test vectors, `symbolList (List.range 30)`: the first 30 sizes, which already stand in `Ord`
order. A test vector that lets the kernel run the encoder model on this list rewrites with `symbols30` first: sorting
the list (insertion sort over table look-ups) is otherwise most of what the kernel evaluates for each vector.
Namespace: `DM.Lemmas`.
-/
namespace DM.Lemmas

theorem symbols30 : DM.Model.symbolList (List.range 30) = List.range 30 := by decide +kernel

end DM.Lemmas
