import DM.Model.Encode
import DM.Lemmas.SymbolList
/-
The primitives of the encoder model's state, each said once: `Res` (a result with a property, or an error other than
`SymbolListEmpty`), `backup`, the room left, the read position, `maybe_switch_mode` as an equation and inverted, and
`onSwitch`, the way every loop consults it.  What the handlers and the loops do with these is in `EncStep`.
Namespaces: `EncStep`, `CoupleC40` (`st_sizeLeft`), `CoupleEdi` (`at_end`), `EncRT`.
-/
namespace DM.Lemmas.EncStep
open DM.Model DM.Model.Enc

def Res {α : Type} (P : α → Prop) : R α → Prop
  | .ok a => P a
  | .error e => e ≠ .listEmpty

section
variable {α : Type} {P Q : α → Prop} {r : R α}

theorem Res.ok {a : α} (h : Res P r) (hr : r = .ok a) : P a := by
  subst hr; exact h

theorem Res.err {e : EErr} (h : Res P r) (hr : r = .error e) : e ≠ .listEmpty := by
  subst hr; exact h

theorem Res.mono (h : Res P r) (hpq : ∀ a, P a → Q a) : Res Q r := by
  cases r with
  | ok a => exact hpq a h
  | error e => exact h

theorem res_panic {m : String} : Res P (.error (.panic m)) := nofun

theorem res_fuel : Res P (.error .fuel) := nofun

theorem res_if {c : Prop} [Decidable c] {a b : R α} (ha : c → Res P a) (hb : ¬c → Res P b) :
    Res P (if c then a else b) := by
  split
  · exact ha ‹_›
  · exact hb ‹_›

theorem res_ite {c : Prop} [Decidable c] {a b : R α} (ha : Res P a) (hb : Res P b) : Res P (if c then a else b) :=
  res_if (fun _ => ha) (fun _ => hb)

end

theorem backup_err (s : St) (n : Nat) (e : EErr) (h : s.backup n = .error e) :
    e = .panic "backup: subtract with overflow" := by
  unfold St.backup at h
  split at h <;> cases h
  rfl


theorem backup_ok {s s1 : St} {n : Nat} (h : s.backup n = .ok s1) : s1 = { s with pos := s.pos - n } ∧ n ≤ s.pos := by
  unfold St.backup at h
  split at h <;> cases h
  exact ⟨rfl, ‹_›⟩

theorem backup_one (s : St) (h : 0 < s.pos) : s.backup 1 = .ok { s with pos := s.pos - 1 } := by
  unfold St.backup
  rw [if_pos (show 1 ≤ s.pos from h)]

theorem sizeLeftE_eq (s : St) (e : Nat) :
    s.sizeLeftE e = match CoupleC40.szLeft s.list (s.cw.length + e) with
      | some n => .ok n
      | none => .error .tooMuch := rfl

theorem sizeLeftE_err {s : St} {n : Nat} {e : EErr} (h : s.sizeLeftE n = .error e) : e ≠ .listEmpty := by
  unfold St.sizeLeftE at h
  split at h <;> cases h
  nofun

theorem sizeLeftE_ok {s : St} {k n : Nat} (h : s.sizeLeftE k = .ok n) : s.sizeLeft k = some n := by
  unfold St.sizeLeftE at h
  split at h
  · cases h; assumption
  · cases h

theorem sizeLeft_zero (s : St) (k : Nat) (h : s.sizeLeft k = some 0) :
    MainRT.ExactFit s.list (s.cw.length + k) :=
  CoupleC40.szLeft_eq_zero_iff.mp h

theorem rest_length (s : St) : s.rest.length = s.charsLeft := List.length_drop

theorem rest_cons (s : St) (h : s.pos < s.input.length) : s.rest = s.input[s.pos] :: s.input.drop (s.pos + 1) :=
  List.drop_eq_getElem_cons h

theorem rest_nil (s : St) (h : s.input.length ≤ s.pos) : s.rest = [] := List.drop_eq_nil_of_le h

theorem rest_eq_cons {s : St} {ch : Nat} {t : List Nat} (h : s.rest = ch :: t) :
    ∃ hlt : s.pos < s.input.length, ch = s.input[s.pos] ∧ s.input.drop (s.pos + 1) = t := by
  have hlt : s.pos < s.input.length := by
    have := rest_length s; rw [h] at this; unfold St.charsLeft at this; simp at this; omega
  rw [rest_cons s hlt] at h
  exact ⟨hlt, (List.cons.inj h).1.symm, (List.cons.inj h).2⟩

theorem rest_eq_nil {s : St} (h : s.rest = []) : s.input.length ≤ s.pos ∧ s.hasMore = false := by
  have := rest_length s; rw [h] at this; unfold St.charsLeft at this
  have hle : s.input.length ≤ s.pos := by simp at this; omega
  exact ⟨hle, decide_eq_false (Nat.not_lt.mpr hle)⟩

theorem eat_lt (s : St) (h : s.pos < s.input.length) : s.eat = some (s.input[s.pos], { s with pos := s.pos + 1 }) := by
  simp only [St.eat, List.getElem?_eq_getElem h]

theorem eat_ge (s : St) (h : s.input.length ≤ s.pos) : s.eat = none := by
  simp only [St.eat, List.getElem?_eq_none h]

theorem eat_eq (s : St) : s.eat = match s.rest with
    | [] => none
    | ch :: _ => some (ch, { s with pos := s.pos + 1 }) := by
  by_cases h : s.pos < s.input.length
  · rw [eat_lt s h, rest_cons s h]
  · rw [eat_ge s (by omega), rest_nil s (by omega)]

theorem noMore {s : St} (h : s.hasMore = false) : s.charsLeft = 0 := by
  simp only [St.hasMore, decide_eq_false_iff_not] at h
  simp only [St.charsLeft]; omega

theorem hasMore_charsLeft (s : St) : s.hasMore = true ↔ 0 < s.charsLeft := by
  unfold St.hasMore St.charsLeft
  simp only [decide_eq_true_eq]
  omega

theorem maybeSwitch_res (s : St) : Res (fun _ => True) s.maybeSwitch := by
  unfold St.maybeSwitch
  split
  · exact res_panic
  · refine res_ite res_panic ?_
    dsimp only
    split <;> exact res_ite trivial trivial

theorem maybeSwitch_err {s : St} {e : EErr} (h : s.maybeSwitch = .error e) : e ≠ .listEmpty :=
  (maybeSwitch_res s).err h

theorem maybeSwitch_eq (s : St) {at_ : Nat} {m : EMode} {rest : List (Nat × EMode)} (hp : s.plan = (at_, m) :: rest) :
    s.maybeSwitch =
      if s.charsLeft < at_ then .error (.panic "expected to call maybe_switch_mode earlier")
      else if 0 < at_ ∧ s.charsLeft = at_ then
        if m = s.mode then .ok (false, { s with plan := rest })
        else .ok (true, { s with mode := m, plan := rest,
                                 newMode := match m.latch with | some l => some l | none => s.newMode })
      else .ok (false, s) := by
  unfold St.maybeSwitch
  rw [hp]
  dsimp only
  split
  · rfl
  · by_cases hc : 0 < at_ ∧ s.charsLeft = at_
    · have hc' : s.charsLeft > 0 ∧ s.charsLeft = at_ := ⟨hc.2 ▸ hc.1, hc.2⟩
      rw [if_pos hc, if_pos hc']
      by_cases hm : m = s.mode
      · rw [if_pos hm]; simp only [hm, ne_eq, not_true_eq_false, ↓reduceIte]
      · rw [if_neg hm]; simp only [ne_eq, hm, not_false_eq_true, ↓reduceIte]; rfl
    · have hc' : ¬ (s.charsLeft > 0 ∧ s.charsLeft = at_) := fun h => hc ⟨h.2 ▸ h.1, h.2⟩
      rw [if_neg hc, if_neg hc']
      simp only [ne_eq, not_true_eq_false, ↓reduceIte]
      rw [← hp]

theorem maybeSwitch_cases {s s1 : St} {b : Bool} (h : s.maybeSwitch = .ok (b, s1)) :
    ∃ at_ m rest, s.plan = (at_, m) :: rest ∧ at_ ≤ s.charsLeft ∧
      ((¬(s.charsLeft > 0 ∧ s.charsLeft = at_) ∧ b = false ∧ s1 = s) ∨
       ((s.charsLeft > 0 ∧ s.charsLeft = at_) ∧ m = s.mode ∧ b = false ∧ s1 = { s with plan := rest }) ∨
       ((s.charsLeft > 0 ∧ s.charsLeft = at_) ∧ m ≠ s.mode ∧ b = true ∧
         s1 = { s with mode := m, plan := rest,
                       newMode := match m.latch with | some l => some l | none => s.newMode })) := by
  match hp : s.plan with
  | [] => rw [St.maybeSwitch, hp] at h; cases h
  | (at_, m) :: rest =>
    rw [maybeSwitch_eq s hp] at h
    refine ⟨at_, m, rest, rfl, ?_⟩
    split at h
    · cases h
    · refine ⟨by omega, ?_⟩
      split at h
      · split at h <;> cases h
        · exact .inr (.inl ⟨by omega, ‹_›, rfl, rfl⟩)
        · exact .inr (.inr ⟨by omega, ‹_›, rfl, rfl⟩)
      · cases h; exact .inl ⟨by omega, rfl, rfl⟩

theorem maybeSwitch_false {s s1 : St} (h : s.maybeSwitch = .ok (false, s1)) :
    ∃ pl, s1 = { s with plan := pl } ∧ (pl = s.plan ∨ s.plan = (s.charsLeft, s.mode) :: pl) := by
  obtain ⟨at_, m, rest, hp, _, hc⟩ := maybeSwitch_cases h
  rcases hc with ⟨_, _, h1⟩ | ⟨hc, hm, _, h1⟩ | ⟨_, _, hb, _⟩
  · exact ⟨s.plan, h1, .inl rfl⟩
  · exact ⟨rest, h1, .inr (by rw [hp, hc.2, hm])⟩
  · cases hb

theorem maybeSwitch_true {s s1 : St} (h : s.maybeSwitch = .ok (true, s1)) :
    ∃ m pl, s.plan = (s.charsLeft, m) :: pl ∧ 0 < s.charsLeft ∧ m ≠ s.mode ∧
      s1 = { s with mode := m, plan := pl, newMode := match m.latch with | some l => some l | none => s.newMode } := by
  obtain ⟨at_, m, rest, hp, _, hc⟩ := maybeSwitch_cases h
  rcases hc with ⟨_, hb, _⟩ | ⟨_, _, hb, _⟩ | ⟨hc, hne, _, h1⟩
  · cases hb
  · cases hb
  · exact ⟨m, rest, by rw [hp, hc.2], hc.1, hne, h1⟩

theorem maybeSwitch_stay (s : St) (at_ : Nat) (m : EMode) (rest : List (Nat × EMode)) (hp : s.plan = (at_, m) :: rest)
    (h : at_ = 0 ∨ at_ < s.charsLeft) : s.maybeSwitch = .ok (false, s) := by
  rw [maybeSwitch_eq s hp, if_neg (by omega), if_neg (by omega)]

/-- how every loop of the encoder consults `maybe_switch_mode`: an error passes, at a planned switch the mode encoder
`leave`s, else it `stay`s -/
def onSwitch {α : Type} (s : St) (leave stay : St → R α) : R α :=
  match s.maybeSwitch with
  | .error e => .error e
  | .ok (true, s1) => leave s1
  | .ok (false, s1) => stay s1

theorem onSwitch_ok {α : Type} {s : St} {leave stay : St → R α} {r : α} (h : onSwitch s leave stay = .ok r) :
    (∃ pl, (pl = s.plan ∨ s.plan = (s.charsLeft, s.mode) :: pl) ∧ stay { s with plan := pl } = .ok r) ∨
    (∃ m pl, s.plan = (s.charsLeft, m) :: pl ∧ 0 < s.charsLeft ∧ m ≠ s.mode ∧
      leave { s with mode := m, plan := pl, newMode := match m.latch with | some l => some l | none => s.newMode } = .ok r) := by
  unfold onSwitch at h
  split at h
  · cases h
  · obtain ⟨m, pl, h1, h2, h3, rfl⟩ := maybeSwitch_true ‹_›
    exact .inr ⟨m, pl, h1, h2, h3, h⟩
  · obtain ⟨pl, rfl, hpl⟩ := maybeSwitch_false ‹_›
    exact .inl ⟨pl, hpl, h⟩

theorem onSwitch_res {α : Type} {O : α → Prop} {s : St} {leave stay : St → R α}
    (hl : ∀ s1, s.maybeSwitch = .ok (true, s1) → Res O (leave s1))
    (hs : ∀ s1, s.maybeSwitch = .ok (false, s1) → Res O (stay s1)) : Res O (onSwitch s leave stay) := by
  unfold onSwitch
  split
  · exact maybeSwitch_err ‹_›
  · exact hl _ ‹_›
  · exact hs _ ‹_›

theorem onSwitch_eq {α : Type} (s : St) (leave stay : St → R α) {at_ : Nat} {m : EMode} {rest : List (Nat × EMode)}
    (hp : s.plan = (at_, m) :: rest) :
    onSwitch s leave stay =
      if s.charsLeft < at_ then .error (.panic "expected to call maybe_switch_mode earlier")
      else if 0 < at_ ∧ s.charsLeft = at_ then
        if m = s.mode then stay { s with plan := rest }
        else leave { s with mode := m, plan := rest,
                            newMode := match m.latch with | some l => some l | none => s.newMode }
      else stay s := by
  unfold onSwitch
  rw [maybeSwitch_eq s hp]
  by_cases h1 : s.charsLeft < at_
  · rw [if_pos h1, if_pos h1]
  rw [if_neg h1, if_neg h1]
  by_cases h2 : 0 < at_ ∧ s.charsLeft = at_
  · rw [if_pos h2, if_pos h2]
    by_cases h3 : m = s.mode
    · rw [if_pos h3, if_pos h3]
    · rw [if_neg h3, if_neg h3]
  · rw [if_neg h2, if_neg h2]

theorem c40Low_res (ch : Nat) : Res (fun _ => True) (c40Low ch) := by
  unfold c40Low
  repeat refine res_ite trivial ?_
  exact res_panic

theorem x12Enc_res (ch : Nat) : Res (fun _ => True) (x12Enc ch) := by
  unfold x12Enc
  repeat refine res_ite trivial ?_
  exact res_panic

theorem toVals_res (text : Bool) (buf : List Nat) (ch : Nat) : Res (fun _ => True) (toVals text buf ch) := by
  have hl : ∀ c, Res (fun _ => True) ((if text = true then textLow else c40Low) c) := by
    intro c
    cases text
    · exact c40Low_res c
    · exact c40Low_res _
  unfold toVals
  dsimp only
  split
  · rename_i heq
    split at heq
    · exact (hl _).err heq
    · split at heq
      · cases heq
      · cases heq; exact (hl _).err ‹_›
  · exact res_ite res_panic trivial

theorem write4_same (s : St) (sym : List Nat) :
    (write4 s sym).pos = s.pos ∧ (write4 s sym).input = s.input ∧ (write4 s sym).list = s.list ∧
    (write4 s sym).plan = s.plan ∧ (write4 s sym).mode = s.mode ∧ (write4 s sym).newMode = s.newMode := by
  simp only [write4, St.push, apply_ite St.pos, apply_ite St.input, apply_ite St.list, apply_ite St.plan,
    apply_ite St.mode, apply_ite St.newMode, ite_self, and_self]


theorem St_ext (a b : St) (h1 : a.input = b.input) (h2 : a.pos = b.pos) (h3 : a.mode = b.mode) (h4 : a.plan = b.plan)
    (h5 : a.newMode = b.newMode) (h6 : a.cw = b.cw) (h7 : a.list = b.list) : a = b := by
  cases a; cases b
  simp only [] at h1 h2 h3 h4 h5 h6 h7
  subst h1 h2 h3 h4 h5 h6 h7
  rfl


theorem write4_eq (s : St) (sym : List Nat) : write4 s sym = { s with cw := (write4 s sym).cw } := by
  obtain ⟨w1, w2, w3, w4, w5, w6⟩ := write4_same s sym
  exact St_ext _ _ w2 w1 w5 w4 w6 rfl w3

theorem flush_eq : ∀ (f : Nat) (s : St) (buf : List Nat),
    (flushTriples f s buf).1 = { s with cw := (flushTriples f s buf).1.cw } := by
  intro f
  induction f with
  | zero => intro s buf; rfl
  | succ f ih =>
    intro s buf
    unfold flushTriples
    split
    · rw [ih]; rfl
    · rfl


theorem write4_len (s : St) (sym : List Nat) (h : sym ≠ []) :
    (write4 s sym).cw.length = s.cw.length + min sym.length 3 := by
  have := List.length_pos_iff.mpr h
  unfold write4
  simp only []
  split <;> (try split) <;> simp only [St.push, List.length_append, List.length_singleton] <;> omega

end DM.Lemmas.EncStep

namespace DM.Lemmas.CoupleC40
open DM.Model DM.Model.Enc

theorem st_sizeLeft (s : St) (e : Nat) : s.sizeLeft e = szLeft s.list (s.cw.length + e) := rfl

end DM.Lemmas.CoupleC40

namespace DM.Lemmas.CoupleEdi
open DM.Model DM.Model.Enc

theorem at_end (s : St) (h : s.input.length ≤ s.pos) : s.rest = [] ∧ s.hasMore = false :=
  ⟨EncStep.rest_nil s h, decide_eq_false (Nat.not_lt.mpr h)⟩


end DM.Lemmas.CoupleEdi

namespace DM.Lemmas.EncRT
open DM.Model DM.Model.Enc

def SameRun (s s' : St) : Prop := s'.input = s.input ∧ s'.list = s.list

theorem SameRun.refl (s : St) : SameRun s s := ⟨rfl, rfl⟩

theorem SameRun.trans {a b c : St} (h1 : SameRun a b) (h2 : SameRun b c) : SameRun a c :=
  ⟨h2.1.trans h1.1, h2.2.trans h1.2⟩


end DM.Lemmas.EncRT
