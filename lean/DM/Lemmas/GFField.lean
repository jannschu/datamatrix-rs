import DM.Lemmas.GFLaws
import Mathlib.Algebra.Ring.MinimalAxioms
import Mathlib.Algebra.Field.Defs
import Mathlib.Tactic.Ring
/-
The byte type with the table-driven arithmetic is a field. This lets `ring` and the
Mathlib polynomial library speak about the model's arithmetic.
Namespaces: `DM.Lemmas` (`GF`), `GF`.
-/
namespace DM.Lemmas
open DM.Model

structure GF where
  val : Nat
  lt : val < 256

namespace GF

@[ext] theorem ext {a b : GF} (h : a.val = b.val) : a = b := by
  cases a; cases b; simp_all

instance : DecidableEq GF := fun a b =>
  if h : a.val = b.val then isTrue (ext h) else isFalse (fun e => h (by rw [e]))

def ofNat (n : Nat) : GF := ⟨n % 256, Nat.mod_lt _ (by omega)⟩

theorem ofNat_val {n : Nat} (h : n < 256) : (ofNat n).val = n := Nat.mod_eq_of_lt h

instance : Zero GF := ⟨⟨0, by omega⟩⟩
instance : One GF := ⟨⟨1, by omega⟩⟩
instance : Add GF := ⟨fun a b => ⟨a.val ^^^ b.val, xor_lt_256 a.lt b.lt⟩⟩
instance : Neg GF := ⟨fun a => a⟩
instance : Mul GF := ⟨fun a b => ⟨gmul a.val b.val, gmul_lt a.lt b.lt⟩⟩
instance : Inv GF := ⟨fun a => ⟨ginv a.val, ginv_lt a.val⟩⟩

@[simp] theorem zero_val : (0 : GF).val = 0 := rfl
@[simp] theorem one_val : (1 : GF).val = 1 := rfl
@[simp] theorem add_val (a b : GF) : (a + b).val = a.val ^^^ b.val := rfl
@[simp] theorem neg_val (a : GF) : (-a).val = a.val := rfl
@[simp] theorem mul_val (a b : GF) : (a * b).val = gmul a.val b.val := rfl
@[simp] theorem inv_val (a : GF) : (a⁻¹).val = ginv a.val := rfl

instance : CommRing GF :=
  CommRing.ofMinimalAxioms
    (fun a b c => ext (by simp [Nat.xor_assoc]))
    (fun a => ext (by simp))
    (fun a => ext (by simp))
    (fun a b c => ext (by simpa using gmul_assoc a.lt b.lt c.lt))
    (fun a b => ext (by simpa using gmul_comm a.val b.val))
    (fun a => ext (by simpa using gmul_one_left a.lt))
    (fun a b c => ext (by simpa using gmul_xor a.lt b.lt c.lt))

instance : Field GF where
  inv := Inv.inv
  exists_pair_ne := ⟨0, 1, fun h => by have := congrArg GF.val h; simp at this⟩
  mul_inv_cancel := fun a h => ext (by
    have h0 : a.val ≠ 0 := fun e => h (ext e)
    simpa using gmul_ginv a.lt h0)
  inv_zero := ext (by simp [ginv])
  nnqsmul := _
  nnqsmul_def := fun _ _ => rfl
  qsmul := _
  qsmul_def := fun _ _ => rfl

theorem add_self (a : GF) : a + a = 0 := ext (by simp)

theorem neg_eq (a : GF) : -a = a := rfl

theorem sub_eq_add (a b : GF) : a - b = a + b := by
  rw [sub_eq_add_neg, neg_eq]

theorem eq_of_add_eq_zero {a b : GF} (h : a + b = 0) : a = b := by
  rw [← sub_eq_zero, sub_eq_add]; exact h

theorem ofNat_xor (a b : Nat) : ofNat (a ^^^ b) = ofNat a + ofNat b :=
  ext (by simp [ofNat, Nat.xor_mod_two_pow (n := 8)])

theorem ofNat_gmul {a b : Nat} (ha : a < 256) (hb : b < 256) :
    ofNat (gmul a b) = ofNat a * ofNat b :=
  ext (by simp [ofNat, Nat.mod_eq_of_lt ha, Nat.mod_eq_of_lt hb, Nat.mod_eq_of_lt (gmul_lt ha hb)])

theorem ofNat_eq_zero {a : Nat} (ha : a < 256) : ofNat a = 0 ↔ a = 0 := by
  constructor
  · intro h; have := congrArg GF.val h; simpa [ofNat, Nat.mod_eq_of_lt ha] using this
  · intro h; subst h; rfl

end GF
end DM.Lemmas
