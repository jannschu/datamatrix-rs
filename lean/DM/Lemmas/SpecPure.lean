import DM.Lemmas.X12RT
import DM.Lemmas.SpecStep
/-
The run of the encoder under the pure plan of one mode other than ASCII, `[(len, m), (0, m)]`, around
the call of that mode's encoder: how the main loop gets there, how it finishes when the mode encoder
has handed the rest to ASCII, and what the padding behind looks like (`pad_shape`: `Pads.addPadding_pads` read
by position, `Pads.Padded`, the form the reference decoder's pad test wants).
-/
namespace DM.Lemmas.SpecPure
open DM.Model DM.Lemmas DM.Lemmas.AsciiRT DM.Lemmas.EncRT DM.Lemmas.X12RT DM.Lemmas.MainRT

theorem run_nil (list : List Sym) (pre : List Nat) (plan plan' : List (Nat × Enc.EMode)) :
    Enc.run list pre [] plan = Enc.run list pre [] plan' := by
  unfold Enc.run
  simp only [List.length_nil]
  rw [Enc.mainLoop, Enc.mainLoop]
  simp [Enc.St.hasMore]

/-- the state on which the main loop calls the encoder of mode `m` (latch `c` written) -/
def entered (list : List Sym) (pre body : List Nat) (m : Enc.EMode) (c : Nat) : Enc.St :=
  { input := body, pos := 0, mode := m, plan := [(0, m)], newMode := none, cw := pre ++ [c], list := list }

/-- the first round (ASCII) switches to `m` at once, the second calls the encoder of `m` -/
theorem pure_run_start (list : List Sym) (pre body cw : List Nat) (sym : Sym) (m : Enc.EMode) (c : Nat)
    (hne : body ≠ []) (hc : m.latch = some c) (h : Enc.run list pre body [(body.length, m), (0, m)] = .ok (cw, sym)) :
    ∃ s3 sE k, Enc.encodeMode (entered list pre body m c) = .ok s3 ∧ Enc.mainLoop (2 * body.length + 6) s3 k = .ok sE ∧
      firstBigEnough list sE.cw.length = some sym ∧ addPadding sE.cw (sE.mode == .ascii) (dataCw sym) = some cw := by
  obtain ⟨sE, k1, hm1, hsym, hpad⟩ := run_pure_first hne hc h
  have hlen : 0 < body.length := List.length_pos_iff.mpr hne
  obtain ⟨s3, k2, he2, hm2⟩ := mainLoop_step (2 * body.length + 6) _ sE k1 hm1 (by simp [Enc.St.hasMore, hlen])
  exact ⟨s3, sE, k2, he2, hm2, hsym, hpad⟩

theorem mainLoop_ascii_rest (f : Nat) (s sE : Enc.St) (k : Nat) (hm : s.mode = .ascii) (hp : s.plan = [(0, .ascii)])
    (hnm : s.newMode = none) (hpos : s.pos ≤ s.input.length) (h : Enc.mainLoop f s k = .ok sE) :
    sE.cw = s.cw ++ asciiEnc s.rest ∧ sE.mode = .ascii ∧ sE.list = s.list := by
  rw [DM.Lemmas.X12RT.mainLoop_ascii_rest _ k s sE hp hm hnm hpos h]
  exact ⟨rfl, hm, rfl⟩

theorem pad_shape (cwE cw : List Nat) (asc : Bool) (cap : Nat) (hcap : cwE.length ≤ cap)
    (hasc : asc = true ∨ cwE.length = cap) (hpad : addPadding cwE asc cap = some cw) :
    cw.length = cap ∧ cw.take cwE.length = cwE ∧ Pads.Padded cw cwE.length := by
  rw [Pads.addPadding_pads cwE asc cap hcap hasc] at hpad
  cases hpad
  exact ⟨by rw [List.length_append, Pads.length_padsOf]; omega, List.take_left' rfl, DM.Props.C02.padded_append _ _⟩

end DM.Lemmas.SpecPure
