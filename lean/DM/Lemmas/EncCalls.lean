import DM.Lemmas.EncRT
import DM.Props.C13TailDefs
/-!
The run of the encoder's main loop as a chain of calls of the mode encoders (`Calls`).  Read forwards, a chain gives
equations between runs of `Enc.mainLoop` (`Calls.main_eq`, `Calls.main_err`) and of the instrumented loop
`C13Tail.traceLoop` (`Calls.trace_eq`): this is how a run is constructed.  Read backwards, a successful run is a chain
that ends where nothing is left to encode (`Calls.of_main`, the one induction on the fuel), so what every call preserves
holds at the end (`Calls.ind`, `mainLoop_ind`).
Namespace: `EncRT`.
-/
namespace DM.Lemmas.EncRT
open DM.Model DM.Model.Enc DM.Props.C13Tail

theorem traceLoop_unfold (f : Nat) (s : St) (nw : Nat) (tr : List Seg) (hm : s.hasMore = true) :
    traceLoop (f + 1) s nw tr =
      match encodeMode (latched s) with
      | .error e => .error e
      | .ok s' =>
        if s'.cw.length < (latched s).cw.length then .error (.panic "codewords.len() - len")
        else if s'.cw.length - (latched s).cw.length ≤ 1 then
          (if nw + 1 > 5 then .error (.panic "no progress in encoder")
           else traceLoop f s' (nw + 1) (tr ++ [((latched s).pos, s'.pos, (latched s).mode)]))
        else traceLoop f s' 0 (tr ++ [((latched s).pos, s'.pos, (latched s).mode)]) := by
  rw [traceLoop]
  simp only [hm, Bool.not_true, Bool.false_eq_true, ↓reduceIte]
  unfold latched
  cases s.newMode <;> rfl

theorem traceLoop_end (f : Nat) (s : St) (nw : Nat) (tr : List Seg) (h : s.hasMore = false) :
    traceLoop (f + 1) s nw tr = .ok (s, tr) := by
  rw [traceLoop]; simp [h]

theorem mainLoop_round (f : Nat) (s s' : St) (nw : Nat) (hm : s.hasMore = true)
    (he : encodeMode (latched s) = .ok s') (hle : (latched s).cw.length ≤ s'.cw.length)
    (hnw : s'.cw.length - (latched s).cw.length ≤ 1 → nw ≤ 4) :
    mainLoop (f + 1) s nw = mainLoop f s' (if s'.cw.length - (latched s).cw.length ≤ 1 then nw + 1 else 0) := by
  rw [mainLoop_unfold f s nw hm, he]
  simp only []
  rw [if_neg (by omega)]
  split
  · rw [if_neg (by have := hnw ‹_›; omega)]
  · rfl

theorem mainLoop_round_err (f : Nat) (s : St) (nw : Nat) (e : EErr) (hm : s.hasMore = true)
    (he : encodeMode (latched s) = .error e) : mainLoop (f + 1) s nw = .error e := by
  rw [mainLoop_unfold f s nw hm, he]

theorem traceLoop_round (f : Nat) (s s' : St) (nw : Nat) (tr : List Seg) (hm : s.hasMore = true)
    (he : encodeMode (latched s) = .ok s') (hle : (latched s).cw.length ≤ s'.cw.length)
    (hnw : s'.cw.length - (latched s).cw.length ≤ 1 → nw ≤ 4) :
    traceLoop (f + 1) s nw tr =
      traceLoop f s' (if s'.cw.length - (latched s).cw.length ≤ 1 then nw + 1 else 0) (tr ++ [(s.pos, s'.pos, s.mode)]) := by
  rw [traceLoop_unfold f s nw tr hm, he, latched_pos, latched_mode]
  simp only []
  rw [if_neg (by omega)]
  split
  · rw [if_neg (by have := hnw ‹_›; omega)]
  · rfl

theorem loops_pop (s : St) (P : List (Nat × EMode)) (hm : s.hasMore = true) (hnm : s.newMode = none)
    (he : encodeMode s = encodeMode { s with plan := P }) (f nw : Nat) :
    mainLoop f s nw = mainLoop f { s with plan := P } nw ∧
    ∀ tr, traceLoop f s nw tr = traceLoop f { s with plan := P } nw tr := by
  cases f with
  | zero => exact ⟨rfl, fun _ => rfl⟩
  | succ f =>
    have hm2 : ({ s with plan := P } : St).hasMore = true := hm
    have hl1 : latched s = s := by unfold latched; rw [hnm]
    have hl2 : latched { s with plan := P } = { s with plan := P } := by unfold latched; simp only [hnm]
    exact ⟨by rw [mainLoop_unfold f s nw hm, mainLoop_unfold f _ nw hm2, hl1, hl2, he],
      fun tr => by rw [traceLoop_unfold f s nw tr hm, traceLoop_unfold f _ nw tr hm2, hl1, hl2, he]⟩

/-- `Calls st k0 n nw tr s`: started in `st` with the no-progress counter at `k0`, the main loop stands in `s` after `n`
successful calls of the mode encoders, none of which shortened the codeword list or tripped the no-progress counter, which
stands at `nw`; `tr` records the calls as (position before, position after, mode), as `traceLoop` does. -/
inductive Calls (st : St) (k0 : Nat) : Nat → Nat → List Seg → St → Prop
  | nil : Calls st k0 0 k0 [] st
  | call {n nw : Nat} {tr : List Seg} {s s' : St} : Calls st k0 n nw tr s → s.hasMore = true →
      encodeMode (latched s) = .ok s' → (latched s).cw.length ≤ s'.cw.length →
      (s'.cw.length - (latched s).cw.length ≤ 1 → nw ≤ 4) →
      Calls st k0 (n + 1) (if s'.cw.length - (latched s).cw.length ≤ 1 then nw + 1 else 0)
        (tr ++ [(s.pos, s'.pos, s.mode)]) s'

theorem Calls.main_eq {st s : St} {k0 n nw : Nat} {tr : List Seg} (h : Calls st k0 n nw tr s) :
    ∀ f, mainLoop (n + f) st k0 = mainLoop f s nw := by
  induction h with
  | nil => intro f; rw [Nat.zero_add]
  | call _ hm he hle hnw ih =>
    intro f
    rw [Nat.add_assoc, Nat.add_comm 1 f, ih (f + 1)]
    exact mainLoop_round f _ _ _ hm he hle hnw

theorem Calls.main_err {st s : St} {k0 n nw : Nat} {tr : List Seg} {e : EErr} (h : Calls st k0 n nw tr s)
    (hm : s.hasMore = true) (he : encodeMode (latched s) = .error e) (f : Nat) :
    mainLoop (n + 1 + f) st k0 = .error e := by
  rw [Nat.add_assoc, Nat.add_comm 1 f, h.main_eq (f + 1)]
  exact mainLoop_round_err f s nw e hm he

theorem Calls.trace_eq {st s : St} {k0 n nw : Nat} {tr : List Seg} (h : Calls st k0 n nw tr s) :
    ∀ f tr0, traceLoop (n + f) st k0 tr0 = traceLoop f s nw (tr0 ++ tr) := by
  induction h with
  | nil => intro f tr0; rw [Nat.zero_add, List.append_nil]
  | call _ hm he hle hnw ih =>
    intro f tr0
    rw [Nat.add_assoc, Nat.add_comm 1 f, ih (f + 1) tr0, traceLoop_round f _ _ _ _ hm he hle hnw, List.append_assoc]

theorem Calls.trace_err {st s : St} {k0 n nw : Nat} {tr : List Seg} {e : EErr} (h : Calls st k0 n nw tr s)
    (hm : s.hasMore = true) (he : encodeMode (latched s) = .error e) (f : Nat) (tr0 : List Seg) :
    traceLoop (n + 1 + f) st k0 tr0 = .error e := by
  rw [Nat.add_assoc, Nat.add_comm 1 f, h.trace_eq (f + 1) tr0, traceLoop_unfold f s nw _ hm, he]

theorem Calls.of_main {st : St} {k0 : Nat} {sE : St} : ∀ (F : Nat) {n nw : Nat} {tr : List Seg} {s : St},
    Calls st k0 n nw tr s → mainLoop F s nw = .ok sE →
    ∃ m nw' tr', Calls st k0 (n + m) nw' tr' sE ∧ sE.hasMore = false ∧ m < F
  | 0, _, _, _, _, _, h => nomatch h
  | F + 1, n, nw, tr, s, hc, h => by
    by_cases hm : s.hasMore = true
    · obtain ⟨s', he, hle, hnw, h'⟩ := mainLoop_call h hm
      obtain ⟨m, nw', tr', hc', hf, hlt⟩ := Calls.of_main F (hc.call hm he hle hnw) h'
      exact ⟨m + 1, nw', tr', by rw [← Nat.add_assoc, Nat.add_right_comm]; exact hc', hf, by omega⟩
    · have hm' : s.hasMore = false := by simpa using hm
      rw [mainLoop_end F s nw hm'] at h
      cases h
      exact ⟨0, nw, tr, hc, hm', by omega⟩

theorem Calls.ind {M : St → Prop} (step : ∀ s s', M s → s.hasMore = true → encodeMode (latched s) = .ok s' → M s')
    {st s : St} {k0 n nw : Nat} {tr : List Seg} (h : Calls st k0 n nw tr s) (h0 : M st) : M s := by
  induction h with
  | nil => exact h0
  | call _ hm he _ _ ih => exact step _ _ ih hm he

theorem mainLoop_ind {M : St → Prop}
    (step : ∀ s s', M s → s.hasMore = true → encodeMode (latched s) = .ok s' → M s') :
    ∀ (f : Nat) (s : St) (k : Nat) (sE : St), Enc.mainLoop f s k = .ok sE → M s → M sE ∧ sE.hasMore = false := by
  intro f s k sE h h0
  obtain ⟨_, _, _, hc, hf, _⟩ := Calls.of_main f .nil h
  exact ⟨hc.ind step h0, hf⟩

end DM.Lemmas.EncRT
