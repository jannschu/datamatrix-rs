import DM.Model.Placement
import DM.Lemmas.Bytes
import DM.Lemmas.GFTable
/-
Writing values through pairwise distinct positions and reading them back.
Namespace: `DM.Lemmas`.
-/
namespace DM.Lemmas
open DM.Model

theorem setAll_cons {α : Type} (e : List α) (a : Nat × α) (as : List (Nat × α)) :
    setAll e (a :: as) = setAll (e.set a.1 a.2) as := rfl

theorem setAll_length (as : List (Nat × Bool)) (e : List Bool) : (setAll e as).length = e.length := by
  induction as generalizing e with
  | nil => rfl
  | cons a as ih => rw [setAll_cons, ih, List.length_set]

theorem setAll_getD_not_mem (as : List (Nat × Bool)) (e : List Bool) (q : Nat)
    (h : q ∉ as.map Prod.fst) : (setAll e as).getD q false = e.getD q false := by
  induction as generalizing e with
  | nil => rfl
  | cons a as ih =>
    rw [List.map_cons, List.mem_cons, not_or] at h
    rw [setAll_cons, ih _ h.2, getD_set, if_neg fun e => h.1 e.1.symm]

theorem setAll_getD_mem (as : List (Nat × Bool)) (e : List Bool)
    (hnd : (as.map Prod.fst).Nodup) (p : Nat) (v : Bool) (hm : (p, v) ∈ as) (hp : p < e.length) :
    (setAll e as).getD p false = v := by
  induction as generalizing e with
  | nil => cases hm
  | cons a as ih =>
    rw [List.map_cons, List.nodup_cons] at hnd
    rw [setAll_cons]
    rcases List.mem_cons.mp hm with rfl | h
    · rw [setAll_getD_not_mem as _ p hnd.1, getD_set, if_pos ⟨rfl, hp⟩]
    · exact ih _ hnd.2 h (by rw [List.length_set]; exact hp)
theorem writeCodewords_eq (e : List Bool) (layout : List (List Nat)) (data : List Nat) :
    writeCodewords e layout data = setAll e (assigns layout data) := rfl

theorem bitsMsb_length (c : Nat) : (bitsMsb c).length = 8 := by simp [bitsMsb]

theorem map_fst_zip_sublist {α β : Type} : ∀ (l₁ : List α) (l₂ : List β),
    ((l₁.zip l₂).map Prod.fst).Sublist l₁
  | [], _ => by simp
  | _ :: _, [] => by simp
  | a :: as, b :: bs => by
    simp only [List.zip_cons_cons, List.map_cons]
    exact (map_fst_zip_sublist as bs).cons_cons a

theorem assigns_fst_sublist : ∀ (layout : List (List Nat)) (data : List Nat),
    ((assigns layout data).map Prod.fst).Sublist layout.flatten := by
  intro layout
  induction layout with
  | nil => intro data; simp [assigns]
  | cons o layout ih =>
    intro data
    cases data with
    | nil => simp [assigns]
    | cons c data =>
      have h1 : assigns (o :: layout) (c :: data) = o.zip (bitsMsb c) ++ assigns layout data := by
        simp [assigns]
      rw [h1, List.map_append, List.flatten_cons]
      apply List.Sublist.append _ (ih data)
      exact map_fst_zip_sublist o (bitsMsb c)

theorem mem_assigns (lay : List (List Nat)) (c : List Nat) (i k : Nat)
    (hi : i < lay.length) (hc : i < c.length) (hk : k < lay[i].length) (hk8 : k < 8) :
    (lay[i][k], (c[i]).testBit (7 - k)) ∈ assigns lay c := by
  unfold assigns
  rw [List.mem_flatMap]
  refine ⟨(lay[i], c[i]), ?_, ?_⟩
  · rw [List.mem_iff_getElem]
    exact ⟨i, by rw [List.length_zip]; omega, by simp⟩
  · rw [List.mem_iff_getElem]
    refine ⟨k, by simp only [List.length_zip, bitsMsb_length]; omega, ?_⟩
    simp [bitsMsb]

theorem getD_writeCodewords {e : List Bool} {lay : List (List Nat)} {c : List Nat} (hnd : lay.flatten.Nodup)
    {i k : Nat} (hi : i < lay.length) (hc : i < c.length) (hk : k < lay[i].length) (hk8 : k < 8)
    (hp : lay[i][k] < e.length) :
    (writeCodewords e lay c).getD (lay[i][k]) false = (c[i]).testBit (7 - k) :=
  setAll_getD_mem _ _ (hnd.sublist (assigns_fst_sublist _ _)) _ _ (mem_assigns lay c i k hi hc hk hk8) hp

theorem getD_writeCodewords_of_not_mem (e : List Bool) {lay : List (List Nat)} (c : List Nat) {q : Nat}
    (hq : q ∉ lay.flatten) : (writeCodewords e lay c).getD q false = e.getD q false :=
  setAll_getD_not_mem _ _ _ fun hm => hq ((assigns_fst_sublist _ _).subset hm)

end DM.Lemmas

namespace DM.Lemmas
open DM.Model

theorem getD_set_true (e : List Bool) (p : Nat) {q : Nat} (hq : q < e.length) :
    (e.set p true).getD q false = (q == p || e.getD q false) := by
  rw [getD_set]
  by_cases h : p = q
  · rw [if_pos ⟨h, hq⟩, h, beq_self_eq_true, Bool.true_or]
  · rw [if_neg fun e => h e.1, beq_false_of_ne (Ne.symm h), Bool.false_or]

theorem length_writePadding (e : List Bool) (h w : Nat) (pad : Bool) : (writePadding e h w pad).length = e.length := by
  unfold writePadding
  split <;> simp

theorem getD_writePadding (e : List Bool) (h w : Nat) (pad : Bool) {q : Nat} (hq : q < e.length) :
    (writePadding e h w pad).getD q false
      = (pad && (q == (h - 1) * w + (w - 1) || q == (h - 2) * w + (w - 2)) || e.getD q false) := by
  cases pad
  · rfl
  · rw [writePadding, if_pos rfl, getD_set_true _ _ (by rw [List.length_set]; exact hq), getD_set_true _ _ hq,
      Bool.true_and, Bool.or_assoc]

def fromBitsMsb (bs : List Bool) : Nat :=
  bs.foldl (fun c b => (c * 2 % 256) ||| (if b then 1 else 0)) 0

theorem readCodeword_eq (e : List Bool) (idxs : List Nat) :
    readCodeword e idxs = fromBitsMsb (idxs.map fun i => e.getD i false) := by
  unfold readCodeword fromBitsMsb
  rw [List.foldl_map]

theorem byte_bits_roundtrip : ∀ c, c < 256 → fromBitsMsb (bitsMsb c) = c := by
  intro c hc
  have h : allBelow 256 (fun c => fromBitsMsb (bitsMsb c) == c) = true := by decide +kernel
  simpa using allBelow_spec h c hc

theorem readCodewords_eq_of_bits {e : List Bool} {lay : List (List Nat)} {c : List Nat} (hlen : lay.length = c.length)
    (hc : Bytes c) (ho : ∀ o ∈ lay, o.length = 8)
    (hv : ∀ i k, (hi : i < lay.length) → (hk : k < lay[i].length) →
      e.getD (lay[i][k]) false = (c.getD i 0).testBit (7 - k)) :
    readCodewords e lay = c := by
  unfold readCodewords
  apply List.ext_getElem
  · simp [hlen]
  · intro i h1 h2
    simp only [List.length_map] at h1
    rw [List.getElem_map, readCodeword_eq]
    have hb : (lay[i].map fun p => e.getD p false) = bitsMsb c[i] := by
      apply List.ext_getElem
      · simp [ho _ (List.getElem_mem h1), bitsMsb]
      · intro k hk1 hk2
        simp only [List.length_map] at hk1
        rw [List.getElem_map, hv i k h1 hk1, getD_of_lt _ _ h2]
        simp [bitsMsb]
    rw [hb]
    exact byte_bits_roundtrip _ (hc _ (List.getElem_mem h2))

end DM.Lemmas
