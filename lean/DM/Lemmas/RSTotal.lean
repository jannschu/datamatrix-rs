import DM.Lemmas.RSTot
import DM.Lemmas.LDEq
import DM.Lemmas.CorrectParts
import DM.Lemmas.Interleave
/-
Panic safety of the Reed–Solomon decoder model, for syndromes that need not be bytes.  Each function
of `DM.Model.RS` is a value under hypotheses on lengths alone (LDEq, ChienEq, BPEq, `correctBlock_eq` in CorrectParts).  Read
off them: the only panics are the algebraic assertions `eq (3)`, `eq (4)` (`AlgebraicSite`), and
what shape the results have.  The chain from `correctBlock` to `decode` is stated for any `A` given
the safety of the locator search (`LDSafe A`); LDTotal instantiates it with no site allowed at all.
-/
namespace DM.Lemmas.RSTotal
open DM.Model DM.Model.RS DM.Lemmas

variable {A : String → Prop}

theorem ldInitW_safe (syn : List Nat) (v : Nat) (hv : 1 ≤ v) (hlen : 2 * v ≤ syn.length)
    (hp : syn.getD (v - 1) 0 ≠ 0) :
    Safe A (ldInitW syn v) (fun w => w.length = v) := by
  rw [LD.ldInitW_eq hv hlen hp]
  exact LD.initWV_length hlen

theorem ldInitW_noPanic (syn : List Nat) (v : Nat) (hv : 1 ≤ v) (hlen : 2 * v ≤ syn.length)
    (hp : syn.getD (v - 1) 0 ≠ 0) (site : String) :
    ldInitW syn v ≠ .error (.panic site) :=
  fun he => Safe_panic (ldInitW_safe (A := fun _ => False) syn v hv hlen hp) he

theorem ldCheck_safe (syn w y : List Nat) (v : Nat) (hw : w.length = v) (hy : y.length = v)
    (hlen : 2 * v ≤ syn.length) :
    Safe AlgebraicSite (ldCheck syn w y v) (fun _ => True) := by
  rw [LD.ldCheck_eq hw hy hlen]
  split
  · exact Or.inl rfl
  · split
    · exact Or.inr rfl
    · trivial

theorem ldStep_safe (syn : List Nat) (t : Nat) (st : LDSt) (ht : 2 * t ≤ syn.length)
    (hv1 : 1 ≤ st.v) (hvt : st.v < t) (hw : st.w.length = st.v) (hy : st.y.length = st.v) :
    Safe AlgebraicSite (ldStep syn t st) (fun r => ∀ st', r = some st' → LDInv t st') := by
  rw [LD.ldStep_stepV syn t st ht hv1 hvt hw hy]
  cases h : LD.stepV syn t st with
  | none => exact Safe_pure (fun st' h => nomatch h)
  | some st' =>
    obtain ⟨h1, h2, h3, h4⟩ := LD.stepV_shape syn t st st' hv1 hvt hw hy h
    refine Safe_bind (Safe_mono (ldCheck_safe syn _ _ _ h3 h4 (by omega)) fun _ _ => ?_)
    apply Safe_pure
    intro st'' hst''
    cases hst''
    exact ⟨by omega, h2, h3, h4⟩

theorem ldStep_panic_algebraic (syn : List Nat) (t : Nat) (st : LDSt) (ht : 2 * t ≤ syn.length)
    (hinv : LDInv t st) (hvt : st.v < t) (site : String)
    (h : ldStep syn t st = .error (.panic site)) : AlgebraicSite site :=
  Safe_panic (ldStep_safe syn t st ht hinv.1 hvt hinv.2.2.1 hinv.2.2.2) h

theorem ldLoop_inv {J : LDSt → Prop} (syn : List Nat) (t : Nat)
    (hstep : ∀ st, J st → st.v < t → Safe A (ldStep syn t st) (fun r => ∀ st', r = some st' → J st'))
    (fuel : Nat) : ∀ st, J st → Safe A (ldLoop syn t fuel st) J := by
  induction fuel with
  | zero => intro st hst; exact hst
  | succ f ih =>
    intro st hst
    unfold ldLoop
    refine Safe_ite (fun hlt => ?_) (fun _ => hst)
    have hs := hstep st hst hlt
    revert hs
    cases ldStep syn t st with
    | error e => intro hs; cases e <;> exact hs
    | ok r =>
      intro hs
      cases r with
      | none => exact hst
      | some st' => exact ih st' (hs st' rfl)

theorem ldLoop_safe (syn : List Nat) (t : Nat) (ht : 2 * t ≤ syn.length) (fuel : Nat) :
    ∀ st, LDInv t st → Safe AlgebraicSite (ldLoop syn t fuel st) (LDInv t) :=
  ldLoop_inv syn t (fun st hst hlt => ldStep_safe syn t st ht hst.1 hlt hst.2.2.1 hst.2.2.2) fuel

theorem ldLoop_panic_algebraic (syn : List Nat) (t : Nat) (ht : 2 * t ≤ syn.length) (fuel : Nat)
    (st : LDSt) (hinv : LDInv t st) (site : String)
    (h : ldLoop syn t fuel st = .error (.panic site)) : AlgebraicSite site :=
  Safe_panic (ldLoop_safe syn t ht fuel st hinv) h

/-- what the rest of the decoder needs to know about the locator polynomial: `v` coefficients
followed by the constant `1`, `1 ≤ v ≤ t` -/
def LocatorShape (syn lam : List Nat) : Prop :=
  ∃ w : List Nat, lam = w ++ [1] ∧ 1 ≤ w.length ∧ w.length ≤ syn.length / 2

theorem levinsonDurbin_safe (syn : List Nat) :
    Safe AlgebraicSite (levinsonDurbin syn) (LocatorShape syn) := by
  rw [LD.levinsonDurbin_loop]
  refine Safe_ite (fun _ => trivial) (fun hvt => ?_)
  unfold LD.v0 at hvt
  refine Safe_bind (Safe_mono (ldLoop_safe syn (syn.length / 2) (by omega) _ _
    ⟨Nat.le_add_left 1 _, by show LD.v0 syn ≤ _; unfold LD.v0; omega,
      LD.initWV_length (by unfold LD.v0; omega), by
        show (_ :: List.replicate _ 0).length = LD.v0 syn
        unfold LD.v0; length_omega⟩) fun st hst => ?_)
  apply Safe_pure
  exact ⟨st.w, rfl, by have := hst.1; have := hst.2.2.1; omega,
    by have := hst.2.1; have := hst.2.2.1; omega⟩

theorem levinsonDurbin_panic_algebraic (syn : List Nat) (site : String)
    (h : levinsonDurbin syn = .error (.panic site)) : AlgebraicSite site :=
  Safe_panic (levinsonDurbin_safe syn) h

theorem correctBlock_safe_of (dataB errB : List Nat) (errLen : Nat) (syn : List Nat)
    (hsyn : syn.length = errLen) (hLD : Safe A (levinsonDurbin syn) (LocatorShape syn)) :
    Safe A (correctBlock dataB errB errLen syn)
      (fun p => p.1.length = dataB.length ∧ p.2.length = errB.length) := by
  rcases h : levinsonDurbin syn with e | lam
  · rw [correctBlock_of_ld_error dataB errB errLen syn h]; rw [h] at hLD
    cases e <;> exact hLD
  · rw [h] at hLD
    obtain ⟨w, rfl, hw1, hwt⟩ := hLD
    rw [correctBlock_eq dataB errB errLen syn w hsyn h hw1 (hsyn ▸ hwt)]
    cases hv : correctV dataB errB errLen syn w with
    | error e => rcases correctV_error hv with rfl | rfl <;> trivial
    | ok p => rw [(correctV_ok_iff.1 hv).2.2.2]; exact foldl_corrStep_length _ _ _ _

theorem correctBlock_panic_algebraic (dataB errB : List Nat) (errLen : Nat) (syn : List Nat)
    (hsyn : syn.length = errLen) (site : String)
    (h : correctBlock dataB errB errLen syn = .error (.panic site)) : AlgebraicSite site :=
  Safe_panic (correctBlock_safe_of dataB errB errLen syn hsyn (levinsonDurbin_safe syn)) h

theorem length_syndromes (received : List Nat) (k : Nat) : (syndromes received k).length = k := by
  unfold syndromes
  simp only [List.length_map, List.length_range]

def LDSafe (A : String → Prop) : Prop :=
  ∀ (received : List Nat) (k : Nat),
    Safe A (levinsonDurbin (syndromes received k)) (LocatorShape (syndromes received k))

theorem ldSafe_algebraic : LDSafe AlgebraicSite := fun _ _ => levinsonDurbin_safe _

theorem decodeBlock_eq (dB eB : List Nat) (k : Nat) (h1 : 1 ≤ k) (h2 : k < dB.length + eB.length) :
    decodeBlock dB eB k =
      if (syndromes (dB ++ eB) k).all (· == 0) then .ok (dB, eB)
      else correctBlock dB eB k (syndromes (dB ++ eB) k) := by
  unfold decodeBlock
  rw [if_neg (by omega), if_neg (by omega)]

theorem decodeBlock_safe_of (hLD : LDSafe A) (dataB errB : List Nat) (errLen : Nat)
    (h1 : 1 ≤ errLen) (h2 : errLen < dataB.length + errB.length) :
    Safe A (decodeBlock dataB errB errLen)
      (fun p => p.1.length = dataB.length ∧ p.2.length = errB.length) := by
  rw [decodeBlock_eq dataB errB errLen h1 h2]
  split
  · exact Safe_ok ⟨rfl, rfl⟩
  · exact correctBlock_safe_of dataB errB errLen _ (length_syndromes _ _) (hLD _ _)

theorem decodeBlock_panic_algebraic (dataB errB : List Nat) (errLen : Nat) (h1 : 1 ≤ errLen)
    (h2 : errLen < dataB.length + errB.length) (site : String)
    (h : decodeBlock dataB errB errLen = .error (.panic site)) : AlgebraicSite site :=
  Safe_panic (decodeBlock_safe_of ldSafe_algebraic dataB errB errLen h1 h2) h

theorem decodeBlocks_safe_of (hLD : LDSafe A) (blocks eccPer dataCw : Nat) (he : 1 ≤ eccPer)
    (hb : blocks ≤ dataCw) (bs : List Nat) :
    ∀ data err : List Nat, (∀ b ∈ bs, b < blocks) → data.length = dataCw →
      err.length = blocks * eccPer →
      Safe A (decodeBlocks blocks eccPer bs data err)
        (fun p => p.1.length = dataCw ∧ p.2.length = blocks * eccPer) := by
  induction bs with
  | nil => intro data err _ hd hr; exact Safe_ok ⟨hd, hr⟩
  | cons b bs ih =>
    intro data err hbs hd hr
    have hbb : b < blocks := hbs b (List.mem_cons_self)
    have hle : blocks ≤ blocks * eccPer := Nat.le_mul_of_pos_right _ he
    unfold decodeBlocks
    refine Safe_ite (fun h => absurd h (by omega)) (fun _ => ?_)
    have hdl := strided_length_pos data b blocks (by omega) (by omega)
    have hel := strided_length_full err b blocks eccPer hbb hr
    have hs := decodeBlock_safe_of hLD (strided data b blocks) (strided err b blocks) eccPer he (by omega)
    revert hs
    cases decodeBlock (strided data b blocks) (strided err b blocks) eccPer with
    | error e => intro hs; cases e <;> exact hs
    | ok p =>
      intro _
      obtain ⟨dB, eB⟩ := p
      exact ih _ _ (fun b' hb' => hbs b' (List.mem_cons_of_mem _ hb'))
        (by rw [length_scatter]; exact hd) (by rw [length_scatter]; exact hr)

/-- every row of the size table (and the default row used for an index outside the table)
has at least one error codeword per block and at least one data codeword per block -/
theorem row_ok (s : Sym) :
    (row s).blocks = 0 ∨ (1 ≤ (row s).eccPer ∧ (row s).blocks ≤ (row s).dataCw) := by
  by_cases hs : s < numSizes
  · exact .inr ⟨(rowShape s hs).k_pos, (rowShape s hs).blocks_le⟩
  · left
    unfold row
    rw [getD_of_ge _ _ (Nat.le_of_not_lt hs)]
    rfl

theorem decode_safe_of (hLD : LDSafe A) (s : Sym) (cw : List Nat)
    (hlen : cw.length = (row s).dataCw + (row s).blocks * (row s).eccPer) :
    Safe A (decode s cw) (fun out => out.length = cw.length) := by
  unfold decode
  simp only []
  refine Safe_ite (fun h => absurd h (by omega)) (fun _ => ?_)
  have hd : (cw.take (row s).dataCw).length = (row s).dataCw := by
    rw [List.length_take]; omega
  have hr : (cw.drop (row s).dataCw).length = (row s).blocks * (row s).eccPer := by
    rw [List.length_drop]; omega
  rcases row_ok s with h0 | ⟨he, hb⟩
  · rw [h0]
    show Safe A (Except.ok _) _
    apply Safe_ok
    simp only [List.length_append, List.length_take, List.length_drop]; omega
  · have hs := decodeBlocks_safe_of hLD _ _ _ he hb (List.range (row s).blocks) _ _
      (fun b hb' => List.mem_range.1 hb') hd hr
    revert hs
    cases decodeBlocks (row s).blocks (row s).eccPer (List.range (row s).blocks)
      (cw.take (row s).dataCw) (cw.drop (row s).dataCw) with
    | error e => intro hs; cases e <;> exact hs
    | ok p =>
      intro hs
      obtain ⟨d, e⟩ := p
      apply Safe_ok
      simp only [List.length_append]
      have := hs.1; have := hs.2
      simp only at *
      omega

/-- The only panics `decode` can produce on a word of the right length are the algebraic
debug assertions of the Levinson–Durbin iteration (equations (3) and (4)). The entries of the
word need not be bytes, and no hypothesis on the table row is needed (`row_ok`). -/
theorem decode_panic_algebraic_of_length (s : Sym) (cw : List Nat)
    (hlen : cw.length = (row s).dataCw + (row s).blocks * (row s).eccPer)
    (site : String) (h : decode s cw = .error (.panic site)) : AlgebraicSite site :=
  Safe_panic (decode_safe_of ldSafe_algebraic s cw hlen) h

theorem decode_panic_algebraic (s : Sym) (cw : List Nat)
    (hlen : cw.length = (row s).dataCw + (row s).blocks * (row s).eccPer)
    (_hbytes : ∀ b ∈ cw, b < 256)
    (site : String) (h : decode s cw = .error (.panic site)) : AlgebraicSite site :=
  decode_panic_algebraic_of_length s cw hlen site h

theorem decode_length (s : Sym) (cw : List Nat)
    (hlen : cw.length = (row s).dataCw + (row s).blocks * (row s).eccPer)
    (out : List Nat) (h : decode s cw = .ok out) : out.length = cw.length :=
  Safe_val (decode_safe_of ldSafe_algebraic s cw hlen) h
end DM.Lemmas.RSTotal
