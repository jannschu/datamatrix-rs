import DM.Spec.Stream
import DM.Lemmas.Pads
/-
Toolkit for reasoning about the reference decoder `DM.Spec.Stream` (it rests on nothing else but `Pads.Padded`). `step` is stated once per
mode, as a flat cascade whose leaves are the next state or the error (`step_ascii_eq`, `step_c40_eq`, `step_x12_eq`,
`step_edifact` / `step_edifact_short`, `step_b256_eq`); the lemmas on single kinds of codewords here and in the mode files,
and the termination measure in `SpecFuel`, read them. Then runs of steps (`Steps`, with `Steps.finish` /
`Steps.finish_pad` for the end of a run), `decode` behind each of the four headers (`decode_behind`), codewords standing
at a position of a stream (`Occurs`).
-/
namespace DM.Lemmas.SpecStep
open DM.Spec.Stream

theorem idx {cw : Array Nat} {i c : Nat} (h : cw[i]? = some c) : i < cw.size ∧ cw[i]! = c := by
  have := Array.getElem?_eq_some_iff.mp h
  obtain ⟨h1, h2⟩ := this
  exact ⟨h1, by simp [h1, h2]⟩

theorem step_end (cw : Array Nat) (s : St) (h : cw.size ≤ s.i) : step cw s = .ok none := by
  unfold step
  simp [h]
  rfl

def emit (s : St) (n : Nat) (chunk : List Nat) (m : Mode) : St :=
  { s with i := s.i + n, out := s.out ++ chunk.toArray, trace := s.trace ++ Array.replicate chunk.length m }

@[simp] theorem emit_mode (s : St) (n : Nat) (chunk : List Nat) (m : Mode) : (emit s n chunk m).mode = s.mode := rfl
@[simp] theorem emit_i (s : St) (n : Nat) (chunk : List Nat) (m : Mode) : (emit s n chunk m).i = s.i + n := rfl

theorem emit_emit (s : St) (a b : Nat) (c d : List Nat) (m : Mode) :
    emit (emit s a c m) b d m = emit s (a + b) (c ++ d) m := by
  simp [emit, Nat.add_assoc, ← Array.replicate_append_replicate]

theorem emit_zero (s : St) (m : Mode) : emit s 0 [] m = s := by
  simp [emit]

theorem push_emit (s : St) (b n : Nat) (m : Mode) : { push s b m with i := s.i + n } = emit s n [b] m := by
  simp [emit, push]

theorem push2_emit (s : St) (a b n : Nat) (m : Mode) : { push (push s a m) b m with i := s.i + n } = emit s n [a, b] m := by
  have h1 : ∀ (o : Array Nat) (a b : Nat), (o.push a).push b = o ++ #[a, b] := by
    intro o a b; apply Array.ext'; simp
  have h2 : ∀ (o : Array Mode) (a b : Mode), (o.push a).push b = o ++ #[a, b] := by
    intro o a b; apply Array.ext'; simp
  have h3 : Array.replicate 2 m = #[m, m] := rfl
  simp [emit, push, h1, h2, h3]

theorem foldl_push (g : Nat → Nat) (m : Mode) : ∀ (l : List Nat) (s : St),
    List.foldl (fun b a => push b (g a) m) s l =
      { s with out := s.out ++ (l.map g).toArray, trace := s.trace ++ Array.replicate l.length m } := by
  intro l
  induction l with
  | nil => intro s; simp
  | cons a t ih =>
    intro s
    rw [List.foldl_cons, ih]
    have h1 : ∀ (o : Array Nat) (a : Nat) (l : List Nat), o.push a ++ l.toArray = o ++ (a :: l).toArray := by
      intro o a l; apply Array.ext'; simp
    have h2 : ∀ (o : Array Mode) (n : Nat), o.push m ++ Array.replicate n m = o ++ Array.replicate (n + 1) m := by
      intro o n; apply Array.ext'; simp [List.replicate_succ]
    simp only [push, List.map_cons, List.length_cons, h1, h2]

theorem emit_eq_pushes (s : St) (n : Nat) (l : List Nat) (m : Mode) :
    emit s n l m = { l.foldl (fun t b => push t b m) s with i := s.i + n } := by
  have := foldl_push id m l s
  simp only [id] at this
  rw [this, List.map_id]
  rfl

theorem emit_nil (s : St) (n : Nat) (m : Mode) : emit s n [] m = { s with i := s.i + n } := by
  simp [emit]

/-- The decoder's state behind a latched stretch entered from ASCII mode at `s`. Every mode's walk ends in such a state
(`emitE`, `x12Done`, `c40Done` are instances). -/
def afterStretch (s : St) (n : Nat) (cst : CState) (chunk : List Nat) (m mA : Mode) : St :=
  { s with i := s.i + n, mode := mA, cst := cst, out := s.out ++ chunk.toArray,
           trace := s.trace ++ Array.replicate chunk.length m, latches := s.latches.push (s.i, m) }

theorem emit_latch (s : St) (n : Nat) (chunk : List Nat) (m : Mode) :
    emit (latch s m) n chunk m = afterStretch s (1 + n) {} chunk m m := by
  simp [emit, latch, afterStretch, Nat.add_assoc]

theorem step_ascii_eq (cw : Array Nat) (s : St) (hm : s.mode = .ascii) (hn : s.i < cw.size) :
    step cw s =
      if 1 ≤ cw[s.i]! ∧ cw[s.i]! ≤ 128 then .ok (some { push s (cw[s.i]! - 1) .ascii with i := s.i + 1 })
      else if cw[s.i]! = 129 then (do
        for j in [s.i+1:cw.size] do
          if unrand253 cw[j]! (j + 1) ≠ 129 then throw s!"bad pad at {j}"
        return some { s with i := cw.size, padAt := some s.i })
      else if cw[s.i]! ≤ 229 then
        .ok (some { push (push s (48 + (cw[s.i]! - 130) / 10) .ascii) (48 + (cw[s.i]! - 130) % 10) .ascii with i := s.i + 1 })
      else if cw[s.i]! = 230 then .ok (some (latch s .c40))
      else if cw[s.i]! = 231 then .ok (some (latch s .base256))
      else if cw[s.i]! = 235 then
        if s.i + 1 < cw.size then
          if 1 ≤ cw[s.i+1]! ∧ cw[s.i+1]! ≤ 128 then .ok (some { push s (cw[s.i+1]! - 1 + 128) .ascii with i := s.i + 2 })
          else .error "bad upper shift"
        else .error "upper shift at end"
      else if cw[s.i]! = 238 then .ok (some (latch s .x12))
      else if cw[s.i]! = 239 then .ok (some (latch s .text))
      else if cw[s.i]! = 240 then .ok (some (latch s .edifact))
      else if cw[s.i]! = 241 then
        readEci cw (s.i + 1) >>= fun r => pure (some { s with i := s.i + 1 + r.2, ecis := s.ecis.push (s.out.size, r.1) })
      else .error s!"illegal ascii codeword {cw[s.i]!} at {s.i}" := by
  have hn' : ¬ cw.size ≤ s.i := by omega
  unfold step
  simp only [hm, ge_iff_le, hn', if_false]
  rfl

/-- the loop of `step` over the values of a pair of codewords in C40 / Text mode, for any list of values -/
def valsLoop (V : List Nat) (s : St) : Except String St :=
  forIn V s fun x s => do
    let r ← c40Value (s.mode == .text) s.cst x
    match r.2 with
    | some b => pure (.yield (push { s with cst := r.1 } b s.mode))
    | _ => pure (.yield { s with cst := r.1 })

theorem step_c40_eq (cw : Array Nat) (s : St) (hm : s.mode = .c40 ∨ s.mode = .text) (hn : s.i < cw.size) :
    step cw s =
      if cw.size - s.i = 1 then
        if cw[s.i]! = 254 then .ok (some { s with i := s.i + 1, mode := .ascii }) else .ok (some { s with mode := .ascii })
      else if cw[s.i]! = 254 then .ok (some { s with i := s.i + 1, mode := .ascii })
      else if cw[s.i]! * 256 + cw[s.i+1]! = 0 then .error "c40 pair 0"
      else if (cw[s.i]! * 256 + cw[s.i+1]! - 1) / 1600 ≥ 40 then .error "c40 pair too big"
      else valsLoop [(cw[s.i]! * 256 + cw[s.i+1]! - 1) / 1600, ((cw[s.i]! * 256 + cw[s.i+1]! - 1) / 40) % 40,
          (cw[s.i]! * 256 + cw[s.i+1]! - 1) % 40] s >>= fun s' => pure (some { s' with i := s.i + 2 }) := by
  have hn' : ¬ cw.size ≤ s.i := by omega
  unfold step
  rcases hm with hm | hm <;> simp only [hm, ge_iff_le, hn', if_false] <;> rfl

theorem step_x12_eq (cw : Array Nat) (s : St) (hm : s.mode = .x12) (hn : s.i < cw.size) :
    step cw s =
      if cw.size - s.i = 1 then
        if cw[s.i]! = 254 then .ok (some { s with i := s.i + 1, mode := .ascii }) else .ok (some { s with mode := .ascii })
      else if cw[s.i]! = 254 then .ok (some { s with i := s.i + 1, mode := .ascii })
      else if cw[s.i]! * 256 + cw[s.i+1]! = 0 then .error "x12 pair 0"
      else if (cw[s.i]! * 256 + cw[s.i+1]! - 1) / 1600 ≥ 40 then .error "x12 pair too big"
      else x12Value ((cw[s.i]! * 256 + cw[s.i+1]! - 1) / 1600) >>= fun x =>
        x12Value (((cw[s.i]! * 256 + cw[s.i+1]! - 1) / 40) % 40) >>= fun y =>
        x12Value ((cw[s.i]! * 256 + cw[s.i+1]! - 1) % 40) >>= fun z =>
        pure (some { push (push (push s x .x12) y .x12) z .x12 with i := s.i + 2 }) := by
  have hn' : ¬ cw.size ≤ s.i := by omega
  unfold step
  simp only [hm, ge_iff_le, hn', if_false]
  -- test by test; behind a `throw` the definition repeats what follows, which `rfl` computes away
  by_cases h1 : cw.size - s.i = 1
  · rw [if_pos h1, if_pos h1]
    rfl
  rw [if_neg h1, if_neg h1]
  by_cases h2 : cw[s.i]! = 254
  · rw [if_pos h2, if_pos h2]
    rfl
  rw [if_neg h2, if_neg h2]
  by_cases h3 : cw[s.i]! * 256 + cw[s.i+1]! = 0
  · rw [if_pos h3, if_pos h3]
    rfl
  rw [if_neg h3, if_neg h3]
  by_cases h4 : 40 ≤ (cw[s.i]! * 256 + cw[s.i+1]! - 1) / 1600
  · rw [if_pos h4, if_pos h4]
    rfl
  rw [if_neg h4, if_neg h4]
  simp only [List.forIn_cons, List.forIn_nil, bind_assoc, pure_bind]

/-- what one step of the reference decoder does with the group `a b d` in EDIFACT mode -/
def ediGroup (s : St) (a b d : Nat) : St :=
  if a / 4 = 31 then { s with i := s.i + 1, mode := .ascii } else
  if (a % 4) * 16 + b / 16 = 31 then { emit s 2 [edifactChar (a / 4)] .edifact with mode := .ascii } else
  if (b % 16) * 4 + d / 64 = 31 then
    { emit s 3 [edifactChar (a / 4), edifactChar ((a % 4) * 16 + b / 16)] .edifact with mode := .ascii } else
  if d % 64 = 31 then
    { emit s 3 [edifactChar (a / 4), edifactChar ((a % 4) * 16 + b / 16), edifactChar ((b % 16) * 4 + d / 64)] .edifact
      with mode := .ascii } else
  emit s 3 [edifactChar (a / 4), edifactChar ((a % 4) * 16 + b / 16), edifactChar ((b % 16) * 4 + d / 64),
    edifactChar (d % 64)] .edifact

theorem step_edifact (cw : Array Nat) (s : St) (hm : s.mode = .edifact) (h3 : s.i + 2 < cw.size) :
    step cw s = .ok (some (ediGroup s cw[s.i]! cw[s.i + 1]! cw[s.i + 2]!)) := by
  have hn : ¬ cw.size ≤ s.i := by omega
  have hr : ¬ cw.size - s.i ≤ 2 := by omega
  unfold step ediGroup
  simp only [hm, emit_eq_pushes, List.foldl_cons, List.foldl_nil]
  generalize cw[s.i]! = a
  generalize cw[s.i + 1]! = b
  generalize cw[s.i + 2]! = d
  by_cases h1 : a / 4 = 31
  · simp [hn, hr, h1]; rfl
  · by_cases h2 : (a % 4) * 16 + b / 16 = 31
    · simp [hn, hr, h1, h2]; rfl
    · by_cases h3 : (b % 16) * 4 + d / 64 = 31
      · simp [hn, hr, h1, h2, h3]; rfl
      · by_cases h4 : d % 64 = 31
        · simp [hn, hr, h1, h2, h3, h4]; rfl
        · simp [hn, hr, h1, h2, h3, h4]; rfl

theorem step_edifact_short (cw : Array Nat) (s : St) (hm : s.mode = .edifact) (h1 : s.i < cw.size)
    (h2 : cw.size ≤ s.i + 2) : step cw s = .ok (some { s with mode := .ascii }) := by
  have hn : ¬ cw.size ≤ s.i := by omega
  have hr : cw.size - s.i ≤ 2 := by omega
  unfold step
  simp only [hm]
  simp [hn, hr]
  rfl

def b256Out (cw : Array Nat) (start len : Nat) : List Nat :=
  (List.range' start len).map (fun j => unrand255 cw[j]! (j + 1))

def b256Read (cw : Array Nat) (s : St) (len start : Nat) : Except String (Option St) :=
  if start + len > cw.size then .error "base256 overruns symbol"
  else .ok (some { s with i := start + len, mode := .ascii, out := s.out ++ (b256Out cw start len).toArray,
                          trace := s.trace ++ Array.replicate len .base256 })

theorem step_b256_eq (cw : Array Nat) (s : St) (hm : s.mode = .base256) (hn : s.i < cw.size) :
    step cw s =
      if unrand255 cw[s.i]! (s.i + 1) = 0 then b256Read cw s (cw.size - (s.i + 1)) (s.i + 1)
      else if unrand255 cw[s.i]! (s.i + 1) ≤ 249 then b256Read cw s (unrand255 cw[s.i]! (s.i + 1)) (s.i + 1)
      else if s.i + 1 < cw.size then
        b256Read cw s (250 * (unrand255 cw[s.i]! (s.i + 1) - 249) + unrand255 cw[s.i+1]! (s.i + 2)) (s.i + 2)
      else .error "base256 length truncated" := by
  have hn' : ¬ cw.size ≤ s.i := by omega
  -- what follows the length field in the definition: the loop over the data is a fold of `push`es
  have key : ∀ len start : Nat, (do
      if start + len > cw.size then throw "base256 overruns symbol"
      let mut t := s
      for j in [start:start+len] do
        t := push t (unrand255 cw[j]! (j + 1)) .base256
      return some { t with i := start + len, mode := .ascii } : Except String (Option St)) = b256Read cw s len start := by
    intro len start
    unfold b256Read
    by_cases hf : start + len > cw.size
    · simp [hf]; rfl
    · simp [hf, foldl_push, b256Out]; rfl
  unfold step
  simp only [hm, ge_iff_le, hn', if_false, pure_bind]
  -- the length field: "to the end of the symbol", one codeword, two codewords
  by_cases h0 : unrand255 cw[s.i]! (s.i + 1) = 0
  · rw [if_pos h0, if_pos h0]
    exact key _ _
  rw [if_neg h0, if_neg h0]
  by_cases h1 : unrand255 cw[s.i]! (s.i + 1) ≤ 249
  · rw [if_pos h1, if_pos h1]
    exact key _ _
  rw [if_neg h1, if_neg h1]
  by_cases h2 : s.i + 1 < cw.size
  · rw [if_pos h2, if_pos h2]
    exact key _ _
  · rw [if_neg h2, if_neg h2]
    rfl

theorem step_ascii_char (cw : Array Nat) (s : St) (c : Nat) (hc : cw[s.i]? = some c) (hm : s.mode = .ascii)
    (hr : 1 ≤ c ∧ c ≤ 128) :
    step cw s = .ok (some { push s (c - 1) .ascii with i := s.i + 1 }) := by
  obtain ⟨h, hc⟩ := idx hc
  rw [step_ascii_eq cw s hm h, hc, if_pos hr]

theorem step_ascii_pair (cw : Array Nat) (s : St) (c : Nat) (hc : cw[s.i]? = some c) (hm : s.mode = .ascii)
    (hr : 130 ≤ c ∧ c ≤ 229) :
    step cw s = .ok (some { push (push s (48 + (c - 130) / 10) .ascii) (48 + (c - 130) % 10) .ascii with i := s.i + 1 }) := by
  obtain ⟨h, hc⟩ := idx hc
  rw [step_ascii_eq cw s hm h, hc, if_neg (by omega), if_neg (by omega), if_pos hr.2]

theorem step_upper_shift (cw : Array Nat) (s : St) (d : Nat) (hc : cw[s.i]? = some 235) (hd : cw[s.i + 1]? = some d)
    (hm : s.mode = .ascii) (hr : 1 ≤ d ∧ d ≤ 128) :
    step cw s = .ok (some { push s (d - 1 + 128) .ascii with i := s.i + 2 }) := by
  obtain ⟨h, hc⟩ := idx hc
  obtain ⟨h', hd⟩ := idx hd
  rw [step_ascii_eq cw s hm h, hc, hd, if_neg (by omega), if_neg (by omega), if_neg (by omega), if_neg (by omega),
    if_neg (by omega), if_pos rfl, if_pos h', if_pos hr]

theorem step_latch (cw : Array Nat) (s : St) (c : Nat) (m : Mode) (hc : cw[s.i]? = some c) (hm : s.mode = .ascii)
    (hr : (c = 230 ∧ m = .c40) ∨ (c = 231 ∧ m = .base256) ∨ (c = 238 ∧ m = .x12) ∨ (c = 239 ∧ m = .text) ∨
      (c = 240 ∧ m = .edifact)) :
    step cw s = .ok (some (latch s m)) := by
  obtain ⟨h, hc⟩ := idx hc
  rw [step_ascii_eq cw s hm h, hc]
  rcases hr with ⟨rfl, rfl⟩ | ⟨rfl, rfl⟩ | ⟨rfl, rfl⟩ | ⟨rfl, rfl⟩ | ⟨rfl, rfl⟩ <;> rfl

theorem padLoop_ok (cw : Array Nat) (l : List Nat) (hl : ∀ j ∈ l, unrand253 cw[j]! (j + 1) = 129) :
    (forIn l PUnit.unit (fun j (_ : PUnit) =>
      if unrand253 cw[j]! (j + 1) = 129 then (pure (ForInStep.yield PUnit.unit) : Except String _)
      else (fun _ => ForInStep.yield PUnit.unit) <$> (throw (toString "bad pad at " ++ j.repr) : Except String PUnit))) = pure PUnit.unit := by
  induction l with
  | nil => rfl
  | cons a t ih =>
    rw [List.forIn_cons]
    simp only [hl a (by simp), if_true]
    simp only [pure_bind]
    exact ih (fun j hj => hl j (by simp [hj]))

theorem step_pad (cw : Array Nat) (s : St) (hc : cw[s.i]? = some 129) (hm : s.mode = .ascii)
    (hp : ∀ j, s.i < j → j < cw.size → unrand253 cw[j]! (j + 1) = 129) :
    step cw s = .ok (some { s with i := cw.size, padAt := some s.i }) := by
  obtain ⟨h, hc⟩ := idx hc
  rw [step_ascii_eq cw s hm h, hc, if_neg (by omega), if_pos rfl]
  simp
  rw [padLoop_ok]
  · rfl
  · intro j hj
    simp only [List.mem_range'_1] at hj
    exact hp j (by omega) (by omega)

theorem step_b256 (cw : Array Nat) (s : St) (c len start : Nat) (hc : cw[s.i]? = some c) (hm : s.mode = .base256)
    (hcase : (unrand255 c (s.i + 1) = 0 ∧ len = cw.size - (s.i + 1) ∧ start = s.i + 1) ∨
      (1 ≤ unrand255 c (s.i + 1) ∧ unrand255 c (s.i + 1) ≤ 249 ∧ len = unrand255 c (s.i + 1) ∧ start = s.i + 1) ∨
      (250 ≤ unrand255 c (s.i + 1) ∧ s.i + 1 < cw.size ∧
        len = 250 * (unrand255 c (s.i + 1) - 249) + unrand255 cw[s.i + 1]! (s.i + 2) ∧ start = s.i + 2))
    (hfit : start + len ≤ cw.size) :
    step cw s = .ok (some
      { s with i := start + len, mode := .ascii, out := s.out ++ (b256Out cw start len).toArray,
               trace := s.trace ++ Array.replicate len .base256 }) := by
  obtain ⟨h, hc⟩ := idx hc
  rw [step_b256_eq cw s hm h, hc]
  rcases hcase with ⟨h0, rfl, rfl⟩ | ⟨h1, h2, rfl, rfl⟩ | ⟨h1, h2, rfl, rfl⟩
  · rw [if_pos h0, b256Read, if_neg (by omega)]
  · rw [if_neg (by omega), if_pos h2, b256Read, if_neg (by omega)]
  · rw [if_neg (by omega), if_neg (by omega), if_pos h2, b256Read, if_neg (by omega)]

theorem run_step (cw : Array Nat) (f : Nat) (s s' : St) (h : step cw s = .ok (some s')) :
    run cw (f + 1) s = run cw f s' := by
  rw [run, h]; rfl

theorem run_done (cw : Array Nat) (f : Nat) (s : St) (h : step cw s = .ok none) :
    run cw (f + 1) s = .ok s := by
  rw [run, h]; rfl

def Steps (cw : Array Nat) (n : Nat) (s s' : St) : Prop := ∀ f, run cw (n + f) s = run cw f s'

theorem Steps.refl (cw : Array Nat) (s : St) : Steps cw 0 s s := by intro f; simp

theorem Steps.one {cw : Array Nat} {s s' : St} (h : step cw s = .ok (some s')) : Steps cw 1 s s' := by
  intro f; rw [Nat.add_comm]; exact run_step cw f s s' h

theorem Steps.trans {cw : Array Nat} {a b : Nat} {s s1 s2 : St} (h1 : Steps cw a s s1) (h2 : Steps cw b s1 s2) :
    Steps cw (a + b) s s2 := by
  intro f; rw [Nat.add_assoc, h1, h2]

theorem Steps.finish {cw : Array Nat} {n fuel : Nat} {s s' : St} (h : Steps cw n s s') (hd : step cw s' = .ok none)
    (hf : n < fuel) : run cw fuel s = .ok s' := by
  have : fuel = n + ((fuel - n - 1) + 1) := by omega
  rw [this, h, run_done cw _ s' hd]

theorem Steps.finish_pad {cwl : List Nat} {n fuel : Nat} {s sD : St} (h : Steps cwl.toArray n s sD)
    (hp : Pads.Padded cwl sD.i) (hm : sD.i < cwl.length → sD.mode = .ascii) (hf : n + 1 < fuel) :
    run cwl.toArray fuel s =
      .ok { sD with i := cwl.length, padAt := if sD.i = cwl.length then sD.padAt else some sD.i } := by
  by_cases hfull : sD.i = cwl.length
  · rw [if_pos hfull]
    have : ({ sD with i := cwl.length, padAt := sD.padAt } : St) = sD := by
      cases sD; simp only [] at hfull; subst hfull; rfl
    rw [this]
    exact h.finish (step_end _ _ (by simp [hfull])) (by omega)
  · rw [if_neg hfull]
    have hlt : sD.i < cwl.length := by have := hp.le; omega
    have hc : cwl.toArray[sD.i]? = some 129 := by
      have := hp.first hlt
      rw [List.getD_eq_getElem?_getD, List.getElem?_eq_getElem hlt] at this
      rw [List.getElem?_toArray, List.getElem?_eq_getElem hlt]
      simpa using this
    refine (h.trans (Steps.one ?_)).finish (step_end _ _ (by simp)) hf
    rw [step_pad _ _ hc (hm hlt)]
    · simp
    · intro j h1 h2
      rw [show cwl.toArray[j]! = cwl.getD j 0 by simp [List.getD_eq_getElem?_getD]]
      exact hp.rest j h1 (by simpa using h2)

def macOf : List Nat → Nat
  | 236 :: _ => 5
  | 237 :: _ => 6
  | _ => 0

def mkDecoded (s : St) (mac : Nat) (f1 : Bool) : Decoded :=
  { bytes := if mac = 0 then s.out.toList else macroHead mac ++ s.out.toList ++ macroTrail,
    body := s.out.toList, trace := s.trace.toList, latches := s.latches.toList,
    ecis := s.ecis.toList, padAt := s.padAt, «macro» := mac, fnc1 := f1 }

theorem decode_eq (cwl : List Nat) : decode cwl =
    (fun s => mkDecoded s (macOf cwl) (decide (macOf cwl = 0 ∧ cwl.toArray.getD 0 0 = 232))) <$>
      run cwl.toArray (3 * cwl.toArray.size + 4)
        { i := if macOf cwl = 0 ∧ cwl.toArray.getD 0 0 = 232 then 1 else if macOf cwl = 0 then 0 else 1 } := rfl

/-- The four headers: none, FNC1, Macro 05, Macro 06. Without a header the first codeword must not look like one; behind
a header `decode` does not look at what follows. -/
theorem decode_behind (pre cw : List Nat) (sF : St) (hpre : pre = [] ∨ pre = [232] ∨ pre = [236] ∨ pre = [237])
    (hpfx : cw.take pre.length = pre) (hhd : pre = [] → ∀ c ∈ cw.head?, c ≠ 232 ∧ c ≠ 236 ∧ c ≠ 237)
    (hrun : run cw.toArray (3 * cw.length + 4) { i := pre.length } = .ok sF) :
    decode cw = .ok (mkDecoded sF (macOf pre) (pre == [232])) := by
  have hcons : ∀ c, pre = [c] → ∃ t, cw = c :: t ∧ run (c :: t).toArray (3 * (c :: t).length + 4) { i := 1 } = .ok sF := by
    intro c hc
    subst hc
    match cw, hpfx, hrun with
    | y :: t, hpfx, hrun =>
      simp only [List.length_singleton, List.take_succ_cons, List.take_zero, List.cons.injEq, and_true] at hpfx
      subst hpfx
      exact ⟨t, rfl, hrun⟩
  rcases hpre with rfl | rfl | rfl | rfl
  · rw [decode_eq]
    match cw, hhd rfl with
    | [], _ => simp [macOf] at hrun ⊢; rw [hrun]; rfl
    | c :: t, hhd =>
      have := hhd c (by simp)
      have hm : macOf (c :: t) = 0 := by
        unfold macOf; split <;> simp_all
      simp [hm, this.1] at hrun ⊢
      rw [hrun]; rfl
  all_goals
    obtain ⟨t, rfl, hr⟩ := hcons _ rfl
    rw [decode_eq]
    simp [macOf] at hr ⊢
    rw [hr]; rfl

def Occurs (cw : Array Nat) (i : Nat) (X : List Nat) : Prop := ∀ k, k < X.length → cw[i + k]? = X[k]?

theorem Occurs.head {cw : Array Nat} {i x : Nat} {X : List Nat} (h : Occurs cw i (x :: X)) : cw[i]? = some x := by
  have := h 0 (by simp)
  simpa using this

theorem Occurs.tail {cw : Array Nat} {i x : Nat} {X : List Nat} (h : Occurs cw i (x :: X)) : Occurs cw (i + 1) X := by
  intro k hk
  have := h (k + 1) (by simp; omega)
  rw [List.getElem?_cons_succ] at this
  rw [← this]; congr 1; omega

theorem Occurs.left {cw : Array Nat} {i : Nat} {X Y : List Nat} (h : Occurs cw i (X ++ Y)) : Occurs cw i X := by
  intro k hk
  have := h k (by simp; omega)
  rw [List.getElem?_append_left hk] at this
  exact this

theorem Occurs.right {cw : Array Nat} {i : Nat} {X Y : List Nat} (h : Occurs cw i (X ++ Y)) :
    Occurs cw (i + X.length) Y := by
  intro k hk
  have := h (X.length + k) (by simp; omega)
  rw [List.getElem?_append_right (by omega)] at this
  rw [Nat.add_assoc, this]; congr 1; omega

theorem occurs_of_take (cwl A X : List Nat) (h : cwl.take (A.length + X.length) = A ++ X) :
    Occurs cwl.toArray A.length X := by
  intro k hk
  have h1 : (cwl.take (A.length + X.length))[A.length + k]? = cwl[A.length + k]? :=
    List.getElem?_take_of_lt (by omega)
  rw [h, List.getElem?_append_right (by omega)] at h1
  simp only [List.getElem?_toArray]
  rw [← h1]; congr 1; omega

theorem occurs_of_eq (pre X : List Nat) : Occurs (pre ++ X).toArray pre.length X :=
  occurs_of_take (pre ++ X) pre X (by rw [← List.length_append, List.take_length])

theorem occurs_zero_right {cw : Array Nat} {A B : List Nat} (h : Occurs cw 0 (A ++ B)) : Occurs cw A.length B := by
  simpa using h.right

theorem occurs_snoc {cw : Array Nat} {i c : Nat} {X : List Nat} (h : Occurs cw i X) (hc : cw[i + X.length]? = some c) :
    Occurs cw i (X ++ [c]) := by
  intro k hk
  by_cases hlt : k < X.length
  · rw [List.getElem?_append_left hlt]
    exact h k hlt
  · have : k = X.length := by
      simp only [List.length_append, List.length_singleton] at hk
      omega
    subst this
    rw [hc]
    simp

theorem Occurs.fits {cw : Array Nat} {i : Nat} {X : List Nat} (h : Occurs cw i X) (hne : X ≠ []) : i + X.length ≤ cw.size := by
  have hpos := List.length_pos_iff.mpr hne
  have := h (X.length - 1) (by omega)
  rw [List.getElem?_eq_getElem (by omega)] at this
  have := (idx this).1
  omega

end DM.Lemmas.SpecStep
