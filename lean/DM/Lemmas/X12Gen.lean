import DM.Lemmas.C40Gen
/-!
The X12 encoder from an arbitrary position under an arbitrary plan (`x12Encode_genP`; the loop itself is analysed in
`X12RT.lean`), and `TEnd`, the form in which a C40 / Text / X12 run is handed to the main-loop invariants: codewords that
decode to the characters consumed (`SegDec`), UNLATCH or not.  The predicate that reads the packed triples back is a
parameter (`SpecX12.TEndQ`); `c40_to_TEndP` puts the outcome of `c40::encode` (`C40Gen.End`) into that form.
Namespaces: `MainRT`, `SpecX12` (`TEndQ`).
-/
namespace DM.Lemmas.MainRT
open DM.Model DM.Model.Enc DM.Model.Dec DM.Gen DM.Lemmas DM.Lemmas.DecRun DM.Lemmas.AsciiRT DM.Lemmas.Complete
open DM.Lemmas.EncRT DM.Lemmas.X12RT DM.Lemmas.EdiRT DM.Lemmas.C40RT DM.Lemmas.C40Gen DM.Lemmas.B256Gen
open DM.Lemmas.PlanProv
open DM.Spec.Build

def SegDec (latch : Nat) (X chunk : List Nat) : Prop :=
  ∀ (un : Bool) (tail : List Nat) (e : Nat) (out : List Nat), TripleTail un tail →
    decRun .ascii { rest := [latch] ++ X ++ (if un then [254] else []) ++ tail, eaten := e, out := out, ecis := [] } =
    decRun .ascii { rest := tail, eaten := e + (1 + X.length + (if un then 1 else 0)), out := out ++ chunk, ecis := [] }

theorem segDec_iff {latch : Nat} {X chunk : List Nat} : SegDec latch X chunk ↔
    ∀ (un : Bool) (e : Nat), Seg e (latch :: (X ++ (if un then [254] else []))) chunk (TripleTail un) := by
  have hlen : ∀ (un : Bool) (e : Nat), e + (latch :: (X ++ (if un then [254] else []))).length =
      e + (1 + X.length + (if un then 1 else 0)) := fun un e => by cases un <;> simp <;> omega
  constructor
  · intro h un e tail ht out
    have := h un tail e out ht
    simp only [List.cons_append, List.append_assoc] at this
    rw [hlen, List.cons_append, List.append_assoc]
    exact this
  · intro h un tail e out ht
    have := h un e tail ht out
    rw [hlen, List.cons_append, List.append_assoc] at this
    simp only [List.cons_append, List.append_assoc]
    exact this

structure TEnd (list : List Sym) (body : List Nat) (p0 : Nat) (c0 : List Nat) (latch : Nat) (s' : St) : Prop where
  out : ∃ (X : List Nat) (p : Nat) (un : Bool), SegDec latch X (seg body p0 p) ∧ p0 ≤ p ∧ p ≤ body.length ∧
    s'.cw = c0 ++ latch :: X ++ (if un then [254] else []) ∧ s'.pos = p ∧ s'.input = body ∧ s'.list = list ∧
    ((s'.mode = .ascii ∧ s'.plan = [(0, .ascii)] ∧ s'.newMode = none) ∨
     (un = true ∧ s'.hasMore = true ∧ Pending s' ∧ PlanOKE body s'.plan) ∨ (p = body.length ∧ un = false)) ∧
    (un = false → asciiSize (body.drop p) ≤ 1 ∧
      ∃ S, firstBigEnough list (s'.cw.length + asciiSize (body.drop p)) = some S ∧
        dataCw S = s'.cw.length + asciiSize (body.drop p))

/-- `TEnd` with the decoder-side predicate of the segment as a parameter (`tEnd_iff`) -/
structure _root_.DM.Lemmas.SpecX12.TEndQ (Q : List Nat → List Nat → Prop) (list : List Sym) (body : List Nat) (p0 : Nat) (c0 : List Nat)
    (latch : Nat) (s' : St) : Prop where
  out : ∃ (X : List Nat) (p : Nat) (un : Bool), Q X (seg body p0 p) ∧ p0 ≤ p ∧ p ≤ body.length ∧
    s'.cw = c0 ++ latch :: X ++ (if un then [254] else []) ∧ s'.pos = p ∧ s'.input = body ∧ s'.list = list ∧
    ((s'.mode = .ascii ∧ s'.plan = [(0, .ascii)] ∧ s'.newMode = none) ∨
     (un = true ∧ s'.hasMore = true ∧ Pending s' ∧ PlanOKE body s'.plan) ∨ (p = body.length ∧ un = false)) ∧
    (un = false → asciiSize (body.drop p) ≤ 1 ∧
      ∃ S, firstBigEnough list (s'.cw.length + asciiSize (body.drop p)) = some S ∧
        dataCw S = s'.cw.length + asciiSize (body.drop p))

open DM.Lemmas.SpecX12 (TEndQ)

theorem c40_to_TEndP (text : Bool) (Q : List Nat → List Nat → Prop)
    (hQ : ∀ (n : Nat) (V chunk : List Nat) (st' : CSt), V.length = 3 * n → (∀ v ∈ V, v < 40) →
      (∀ out, c40Values (tabs text).1 (tabs text).2 V st0 out = .ok (st', out ++ chunk)) → Q (packTriples V) chunk)
    (list : List Sym) (body : List Nat) (p0 : Nat) (c0 : List Nat) (s' : St)
    (h : End text list body p0 c0 s' ∧ Handed body (modeOf text) s') : TEndQ Q list body p0 c0 (latchOf text) s' := by
  obtain ⟨h, hco⟩ := h
  obtain ⟨V, n, p, un, st', hVl, hVlt, hdec, hp0, hp, hcw, hpos, hin, hli, hctl, hex⟩ := h.out
  exact ⟨packTriples V, p, un, hQ n V _ st' hVl hVlt hdec, hp0, hp, hcw, hpos, hin, hli, hco.ctl hpos hctl, hex⟩

theorem c40_to_TEnd (text : Bool) (list : List Sym) (body : List Nat) (p0 : Nat) (c0 : List Nat) (s' : St)
    (h : End text list body p0 c0 s' ∧ Handed body (modeOf text) s') : TEnd list body p0 c0 (latchOf text) s' :=
  ⟨(c40_to_TEndP text (SegDec (latchOf text))
    (fun _ _ _ _ hVl hVlt hdec => segDec_iff.mpr fun un e => c40_vals_Seg text hVl hVlt hdec un e) list body p0 c0 s' h).out⟩

theorem x12Encode_genP (Q : List Nat → List Nat → Prop)
    (hQ : ∀ (n : Nat) (b : List Nat), b.length = 3 * n → X12Native b → Q (packTriples (b.filterMap x12Val)) b)
    (list : List Sym) (body : List Nat) (p0 : Nat) (c0 : List Nat) (sL s3 : St)
    (hin : sL.input = body) (hli : sL.list = list) (hpos : sL.pos = p0) (hle : p0 ≤ body.length)
    (hnm : sL.newMode = none) (hcw : sL.cw = c0 ++ [238]) (hpl : PlanOKE body sL.plan)
    (h : x12Encode sL = .ok s3) : TEndQ Q list body p0 c0 238 s3 := by
  obtain ⟨s2, sw, hl, hs⟩ := EncStep.x12Encode_ok h
  obtain ⟨n, run⟩ := x12Loop_gen _ sL s2 sw hl
  have hco := (EncStep.x12Encode_res (pend_pass body sL.mode) (by decide) sL ⟨hin, hpl, hnm, rfl⟩).ok h
  have hp2 : s2.pos = p0 + 3 * n := by rw [run.pos, hpos]
  have hle2 : s2.pos ≤ body.length := by rw [← hin]; exact run.le (by rw [hpos, hin]; exact hle)
  have hin2 : s2.input = body := run.same.1.trans hin
  have hli2 : s2.list = list := run.same.2.trans hli
  have hsegeq : seg body p0 s2.pos = (sL.input.drop sL.pos).take (3 * n) := by
    unfold seg
    rw [hin, hpos, hp2]
    congr 1
    omega
  have hnat : X12Native (seg body p0 s2.pos) := by rw [hsegeq]; exact run.native
  have hseglen : (seg body p0 s2.pos).length = 3 * n := by
    rw [seg_length body p0 s2.pos (by omega) hle2]; omega
  have hcw2 : s2.cw = c0 ++ 238 :: packTriples ((seg body p0 s2.pos).filterMap x12Val) := by
    rw [run.cw, hcw, hsegeq]; simp
  have hsd := hQ n _ hseglen hnat
  have hnm2 : sw = false → s2.newMode = none := fun hs => by rw [(run.stay hs).2.2]; exact hnm
  have unl : ∀ s', s' = (if !sw then s2.setAscii else s2).push 254 → Handed body sL.mode s' →
      TEndQ Q list body p0 c0 238 s' := by
    intro s' hs' hco
    subst hs'
    cases sw with
    | false =>
      exact ⟨_, s2.pos, true, hsd, by omega, hle2, by simp [St.push, St.setAscii, hcw2], rfl,
        hin2, hli2,
        Or.inl ⟨rfl, rfl, hnm2 rfl⟩, by simp⟩
    | true =>
      have hmore : (s2.push 254).hasMore = true := (run.switch rfl).2.1
      exact ⟨_, s2.pos, true, hsd, by omega, hle2, by simp [St.push, hcw2], rfl,
        hin2, hli2, Or.inr (Or.inl ⟨rfl, hmore, hco.pending hmore, hco.plan⟩), by simp⟩
  have exact : s2.hasMore = false → s2.sizeLeft 0 = some 0 → TEndQ Q list body p0 c0 238 s2 := by
    intro hmf hfit
    have hpl2 : s2.pos = body.length := by
      have := of_decide_eq_false hmf
      rw [hin2] at this
      omega
    obtain ⟨S, f1, f2⟩ := EncStep.sizeLeft_zero s2 0 hfit
    refine ⟨_, s2.pos, false, hsd, by omega, hle2, by simp [hcw2], rfl, hin2, hli2, Or.inr (Or.inr ⟨hpl2, rfl⟩), fun _ => ?_⟩
    rw [hpl2, List.drop_eq_nil_of_le (Nat.le_refl _)]
    simp only [asciiSize, Nat.add_zero, Nat.zero_le, true_and]
    exact ⟨S, by rw [← hli2]; simpa using f1, by simpa using f2⟩
  rcases hs with ⟨hfew, hone, hfit, rfl⟩ | hs | ⟨hmf, hfit, rfl⟩
  · -- one ASCII codeword fills the symbol: no UNLATCH
    obtain ⟨S, f1, f2⟩ := EncStep.sizeLeft_zero s2 1 hfit
    have hnm3 : s2.newMode = none := hco.noLate (show s2.charsLeft ≤ 4 by omega)
    have hrest : s2.rest = body.drop s2.pos := by simp [St.rest, hin2]
    refine ⟨_, s2.pos, false, hsd, by omega, hle2, by simp [St.setAscii, hcw2], rfl, hin2,
      hli2, Or.inl ⟨rfl, rfl, hnm3⟩, fun _ => ?_⟩
    rw [← hrest, hone]
    exact ⟨Nat.le_refl _, S, by rw [← hli2]; simpa [St.setAscii] using f1, by simpa [St.setAscii] using f2⟩
  · exact unl s3 hs hco
  · exact exact hmf hfit

end DM.Lemmas.MainRT
