import DM.Lemmas.LDBase
import DM.Lemmas.LDEq
/-
The regular case of the Levinson–Durbin iteration preserves equation (4) (`regular_eq4`).  Equation (3)
is the singular case with no jump (`sing_eq3` in `LDSingular.lean` with `n = v`, used in `LDStep.lean`).
Namespace: `LD`.
-/
namespace DM.Lemmas.LD
open DM.Model

theorem bytes_snoc {l : List Nat} {x : Nat} (hl : Bytes l) (hx : x < 256) : Bytes (l ++ [x]) :=
  Bytes.append hl (Bytes.cons hx Bytes.nil)

theorem getD_zipWith_append (f : Nat → Nat → Nat) (a b c : List Nat) (j : Nat) :
    (List.zipWith f a b ++ c).getD j 0 =
      if j < min a.length b.length then f (a.getD j 0) (b.getD j 0)
      else c.getD (j - min a.length b.length) 0 := by
  rw [getD_append, List.length_zipWith]
  split
  · rw [getD_zipWith f a b j ‹_› 0 0]
  · rfl

theorem gadd_zero (a : Nat) : gadd a 0 = a := Nat.xor_zero a

theorem regW_getD (w y : List Nat) (v epsV bg : Nat) (hw : w.length = v) (hy : y.length = v)
    (j : Nat) : (regW w y v epsV bg).getD j 0 =
      gadd (gadd ((0 :: w).getD j 0) (gmul epsV (y.getD j 0))) (gmul bg ((w ++ [1]).getD j 0)) := by
  have h2 : ∀ j, ((List.zipWith (fun wi yi => gadd wi (gmul epsV yi)) ((0 :: w).take v) y)
      ++ (0 :: w).drop (min v y.length)).getD j 0
      = gadd ((0 :: w).getD j 0) (gmul epsV (y.getD j 0)) := by
    intro j
    rw [getD_zipWith_append, getD_take, getD_drop]
    have : min ((0 :: w).take v).length y.length = v := by length_omega
    rw [this, hy, Nat.min_self]
    split
    · rfl
    · rw [getD_of_ge y j (by omega), gmul_zero_right, gadd_zero]
      congr 1; omega
  unfold regW
  simp only []
  rw [getD_zipWith_append, getD_drop, h2, h2]
  have : min ((List.zipWith (fun wi yi => gadd wi (gmul epsV yi)) ((0 :: w).take v) y)
      ++ (0 :: w).drop (min v y.length)).length (w ++ [1]).length = v + 1 := by length_omega
  rw [this]
  split
  · rfl
  · rw [getD_of_ge (0 :: w) _ (by length_omega), getD_of_ge y _ (by omega),
      getD_of_ge (0 :: w) j (by length_omega), getD_of_ge y j (by omega),
      getD_of_ge (w ++ [1]) j (by length_omega)]
    simp [gmul_zero_right]

theorem regY_getD (w y : List Nat) (v epsInv : Nat) (hw : w.length = v) (hy : y.length = v)
    (he : epsInv < 256) (j : Nat) :
    (regY w y epsInv).getD j 0 = gmul ((w ++ [1]).getD j 0) epsInv := by
  unfold regY
  simp only []
  rw [getD_append, getD_zipWith_append]
  have h1 : (List.zipWith (fun _ ti => gmul ti epsInv) y (w ++ [1]) ++ y.drop (w ++ [1]).length).length
      = v := by length_omega
  have h2 : min y.length (w ++ [1]).length = v := by length_omega
  rw [h1, h2]
  split
  · rfl
  · by_cases hj : j = v
    · subst hj
      have : (w ++ [1]).getD w.length 0 = 1 := by
        rw [getD_append, if_neg (Nat.lt_irrefl _), Nat.sub_self]; rfl
      rw [Nat.sub_self, hw.symm, this, gmul_one_left he]
      rfl
    · rw [getD_of_ge (w ++ [1]) j (by length_omega), gmul_zero_left]
      exact getD_of_ge _ _ (by simp only [List.length_singleton]; omega)


theorem regW_bytes (w y : List Nat) (v epsV bg : Nat) (hw : w.length = v) (hy : y.length = v)
    (hbw : Bytes w) : Bytes (regW w y v epsV bg) := by
  apply bytes_of_getD
  intro j _
  rw [regW_getD w y v _ _ hw hy]
  exact xor_lt_256 (xor_lt_256 (Bytes.getD (Bytes.cons (by omega) hbw) j) (gmul_lt' _ _))
    (gmul_lt' _ _)

theorem regY_bytes (w y : List Nat) (v epsInv : Nat) (hw : w.length = v) (hy : y.length = v)
    (he : epsInv < 256) : Bytes (regY w y epsInv) := by
  apply bytes_of_getD
  intro j _
  rw [regY_getD w y v _ hw hy he]
  exact gmul_lt' _ _

theorem H_snoc_one (syn w : List Nat) (v a : Nat) (hw : w.length = v) :
    H syn a (v + 1) (V (w ++ [1])) = H syn a v (V w) + V syn (a + v) := by
  rw [H_succ, V_snoc_one, if_neg (by omega), if_pos hw.symm, mul_one]
  congr 1
  apply H_congr
  intro j hj
  rw [V_snoc_one, if_pos (by omega)]

theorem P_rows (syn w : List Nat) (v : Nat) (hw : w.length = v) (h4 : Eq4 syn v w) (i : Nat)
    (hi : i < v) : H syn i (v + 1) (V (w ++ [1])) = 0 := by
  rw [H_snoc_one syn w v i hw, h4 i hi, Nat.add_comm i v]
  linear_combination V syn (v + i) * two_eq_zero

theorem regular_eq4 (syn w y w' : List Nat) (v : Nat) (eps beta gamma : GF) (hv : 1 ≤ v)
    (hw : w.length = v) (hy : y.length = v) (h3 : Eq3 syn v y) (h4 : Eq4 syn v w)
    (hW : ∀ j, V w' j = V (0 :: w) j + eps * V y j + (beta + gamma) * V (w ++ [1]) j)
    (heps : eps = H syn v (v + 1) (V (w ++ [1])))
    (hbeta : beta * eps = H syn (v + 1) (v + 1) (V (w ++ [1])))
    (hgamma : gamma = H syn v v (V y)) : Eq4 syn (v + 1) w' := by
  intro i hi
  have e1 : H syn i (v + 1) (V (0 :: w)) = H syn (i + 1) v (V w) := by
    rw [← H_shift_one]
    exact H_congr (fun j _ => V_cons 0 w j)
  have e2 : H syn i (v + 1) (V y) = H syn i v (V y) :=
    H_extend syn i v (v + 1) _ (by omega) (fun j hj => V_of_ge (by omega))
  have e0 : H syn i (v + 1) (V w') = H syn (i + 1) v (V w) + eps * H syn i v (V y)
      + (beta + gamma) * H syn i (v + 1) (V (w ++ [1])) := by
    rw [H_congr (fun j _ => hW j), H_add, H_add, H_smul, H_smul, e1, e2]
  rw [e0]
  rw [H_snoc_one syn w v v hw] at heps
  rw [H_snoc_one syn w v (v + 1) hw] at hbeta
  by_cases hlt : i < v
  · rw [P_rows syn w v hw h4 i hlt, h3 i hlt]
    by_cases hl : i = v - 1
    · rw [if_pos hl]
      have : i + 1 = v := by omega
      rw [this]
      rw [show v + 1 + i = v + v by omega]
      linear_combination (-1 : GF) * heps + (eps - V syn (v + v)) * two_eq_zero
    · rw [if_neg hl, h4 (i + 1) (by omega), show v + (i + 1) = v + 1 + i by omega]
      ring
  · have : i = v := by omega
    subst this
    rw [H_snoc_one syn w i i hw, ← heps, ← hgamma]
    linear_combination hbeta + (eps * gamma + H syn (i + 1) i (V w)) * two_eq_zero

theorem regY_V (w y : List Nat) (v epsInv : Nat) (hw : w.length = v) (hy : y.length = v)
    (hbw : Bytes w) (he : epsInv < 256) (j : Nat) :
    V (regY w y epsInv) j = V (w ++ [1]) j * GF.ofNat epsInv := by
  unfold V
  rw [regY_getD w y v _ hw hy he, GF.ofNat_gmul (Bytes.getD (bytes_snoc hbw (by omega)) j) he]

theorem regW_V (w y : List Nat) (v epsV bg : Nat) (hw : w.length = v) (hy : y.length = v)
    (hbw : Bytes w) (hby : Bytes y) (he : epsV < 256) (hbg : bg < 256) (j : Nat) :
    V (regW w y v epsV bg) j
      = V (0 :: w) j + GF.ofNat epsV * V y j + GF.ofNat bg * V (w ++ [1]) j := by
  unfold V
  rw [regW_getD w y v _ _ hw hy, GF.ofNat_xor, GF.ofNat_xor, GF.ofNat_gmul he (Bytes.getD hby j),
    GF.ofNat_gmul hbg (Bytes.getD (bytes_snoc hbw (by omega)) j)]

end DM.Lemmas.LD
