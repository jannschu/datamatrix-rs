import DM.Lemmas.AsciiRT
import DM.Lemmas.EncStep
import DM.Lemmas.C40Table
/-
Encoder side of C40 / Text, independent of the content of the message: `handle_end` moves the read
position back by at most one character; a successful run of the loop under a pure plan has only seen
bytes (`to_vals` fails on anything else: in the crate the input is `u8`) and leaves at most two characters to ASCII.
-/
namespace DM.Lemmas.SpecC40Enc
open DM.Model.Enc DM.Lemmas.EncStep

theorem handleEnd_pos (s s' : St) (last : Nat) (buf : List Nat) (h : c40HandleEnd s last buf = .ok s') :
    s'.input = s.input ∧ s.pos ≤ s'.pos + 1 ∧ (s.hasMore = true → s'.pos = s.pos) := by
  have he := ((EncStep.c40HandleEnd_res s last buf).ok h).1
  refine ⟨he.input, ?_, fun hm => ?_⟩
  · have := he.le_pos; split at this <;> omega
  · have h1 := he.le_pos
    rw [hm, if_pos rfl] at h1
    exact Nat.le_antisymm he.pos_le h1

theorem c40Loop_bytes (text : Bool) (m : EMode) : ∀ (f : Nat) (s : St) (buf : List Nat) (last : Nat) (s' : St),
    s.plan = [(0, m)] → s.mode = m → s.pos ≤ s.input.length → c40Loop text f s buf last = .ok s' →
    (∀ b ∈ s.input.drop s.pos, b < 256) ∧ s'.input = s.input ∧ s.input.length ≤ s'.pos + 2 ∧ s'.newMode = s.newMode ∧
      (s'.mode = m ∧ s'.plan = [(0, m)] ∨ s'.mode = .ascii ∧ s'.plan = [(0, .ascii)]) := by
  intro f
  induction f with
  | zero => intro s buf last s' _ _ _ h; cases h
  | succ f ih =>
    intro s buf last s' hp hm hle h
    have hend : c40HandleEnd s last buf = .ok s' → s.charsLeft ≤ 2 → (∀ b ∈ s.rest, b < 256) →
        (∀ b ∈ s.input.drop s.pos, b < 256) ∧ s'.input = s.input ∧ s.input.length ≤ s'.pos + 2 ∧ s'.newMode = s.newMode ∧
          (s'.mode = m ∧ s'.plan = [(0, m)] ∨ s'.mode = .ascii ∧ s'.plan = [(0, .ascii)]) := fun hend h2 hby => by
      obtain ⟨p1, p2, p3⟩ := handleEnd_pos s s' last buf hend
      have he := ((EncStep.c40HandleEnd_res s last buf).ok hend).1
      refine ⟨hby, p1, ?_, he.newMode, ?_⟩
      · by_cases hmore : s.hasMore = true
        · rw [p3 hmore]; unfold St.charsLeft at h2; omega
        · have := EncStep.noMore (by simpa using hmore); unfold St.charsLeft at this; omega
      · cases he with
        | wrote => exact Or.inl ⟨hm, hp⟩
        | ascii => exact Or.inr ⟨rfl, rfl⟩
    rw [EncStep.c40Loop_eq] at h
    split at h
    · rename_i hr
      exact hend h (by rw [← EncStep.rest_length, hr]; exact Nat.zero_le _) (by rw [hr]; simp)
    · rename_i ch t hr
      split at h
      · rename_i hc
        refine hend h (Nat.le_of_eq hc.2.1) fun b hb => ?_
        obtain ⟨_, hl, hd⟩ := hc
        rw [← EncStep.rest_length, hr] at hl
        rw [hr] at hd hb
        match t, hl, hd, hb with
        | [d], _, hd, hb =>
          simp only [twoDigitsComing, isDigit, Bool.and_eq_true, decide_eq_true_eq] at hd
          simp only [List.mem_cons, List.not_mem_nil, or_false] at hb
          rcases hb with rfl | rfl <;> omega
      · cases htv : toVals text buf ch with
        | error e => rw [htv] at h; cases h
        | ok buf1 =>
          rw [htv] at h
          dsimp only at h
          obtain ⟨hlt, -, ht⟩ := EncStep.rest_eq_cons hr
          have e := flush_eq 3 { s with pos := s.pos + 1 } buf1
          rw [e] at h
          rw [EncStep.onSwitch_eq { ({ s with pos := s.pos + 1 } : St) with cw := _ } _ _ hp, if_neg (Nat.not_lt_zero _), if_neg (fun h => absurd h.1 (Nat.lt_irrefl 0))] at h
          obtain ⟨i1, i2, i3, i4, i5⟩ := ih _ _ _ s' (by exact hp) (by exact hm) (by exact hlt) h
          refine ⟨fun b hb => ?_, i2, i3, i4, i5⟩
          rw [show s.input.drop s.pos = s.rest from rfl, hr] at hb
          rcases List.mem_cons.mp hb with rfl | hb
          · exact C40RT.toVals_lt text buf _ buf1 htv
          · exact i1 b (ht ▸ hb)

end DM.Lemmas.SpecC40Enc
