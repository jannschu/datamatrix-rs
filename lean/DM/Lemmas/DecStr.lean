import DM.Props.C15
/-
Totality of the string decoder model (`decode_str` = `decode_parts(data, false)` + `eci::convert`):
the ECI span starts recorded while decoding are non-decreasing and never beyond the output
(`decodeParts_spec`), so the slices `raw[i..j]` taken by `convert` are always in range.
Namespace: `DM.Lemmas`.
-/
namespace DM.Lemmas
open DM.Model.Dec DM.Gen

theorem tableChar_good {tab : List Int} {spec : Nat → Option Nat}
    (ht : ∀ b, b < 256 → tableChar tab b = DM.Props.C15.specResult (spec b)) (b : Nat) (hb : b < 256) :
    Good (tableChar tab b) := by
  rw [ht b hb]
  cases spec b
  · exact good_err _ trivial
  · exact Good.ok _

theorem good_bind {α β : Type} {r : R α} (hr : Good r) {f : α → R β} (hf : ∀ a, r = .ok a → Good (f a)) :
    Good (match r with | .error e => .error e | .ok a => f a) := by
  cases h : r with
  | error e => exact good_err _ (hr e h)
  | ok a => exact hf a h

theorem mapChars_good {tab : List Int} {spec : Nat → Option Nat}
    (ht : ∀ b, b < 256 → tableChar tab b = DM.Props.C15.specResult (spec b)) :
    ∀ (l : List Nat), ByteList l → Good (mapChars tab l) := by
  intro l
  induction l with
  | nil => intro _; exact Good.ok _
  | cons b t ih =>
    intro hb
    unfold mapChars
    have h1 := tableChar_good ht b hb.head
    cases hc : tableChar tab b with
    | error e => exact good_err _ (h1 e hc)
    | ok c =>
      simp only []
      have h2 := ih hb.tail
      cases hm : mapChars tab t with
      | error e => exact good_err _ (h2 e hm)
      | ok cs => exact Good.ok _

theorem Good.ite {α : Type} {c : Prop} [Decidable c] {a b : R α} (ha : c → Good a) (hb : ¬c → Good b) :
    Good (if c then a else b) := by
  split
  · exact ha ‹_›
  · exact hb ‹_›

theorem convertChunk_good (bytes : List Nat) (eci : Nat) (hb : ByteList bytes) : Good (convertChunk bytes eci) := by
  unfold convertChunk
  refine .ite (fun _ => mapChars_good DM.Props.C15.latin1_exact _ hb) fun _ =>
    .ite (fun _ => mapChars_good DM.Props.C15.iso8859_9_exact _ hb) fun _ =>
    .ite (fun _ => mapChars_good DM.Props.C15.iso8859_11_exact _ hb) fun _ => .ite (fun _ => ?_) fun _ =>
    .ite (fun _ => .ite (fun _ => Good.ok _) fun _ => good_err _ trivial) fun _ => good_err _ trivial
  cases utf8Decode bytes with
  | none => exact good_err _ trivial
  | some cps => exact Good.ok _

theorem convertSpans_good (raw : List Nat) (hb : ByteList raw) : ∀ (spans : List (Nat × Nat)),
    SpansOK raw.length spans → Good (convertSpans raw spans) := by
  intro spans
  induction spans with
  | nil => intro _; unfold convertSpans; exact Good.ok _
  | cons a rest ih =>
    intro hs
    match rest, ih, hs with
    | [], _, _ => unfold convertSpans; exact Good.ok _
    | (j, e2) :: rest', ih, hs =>
      obtain ⟨i, eci⟩ := a
      unfold convertSpans
      have hij : i ≤ j := (List.pairwise_cons.mp hs.1).1 (j, e2) (List.mem_cons_self ..)
      have hj : j ≤ raw.length := hs.2 (j, e2) (List.mem_cons_of_mem _ (List.mem_cons_self ..))
      rw [if_neg (by omega)]
      have hchunk : ByteList ((raw.drop i).take (j - i)) := fun b hb' => hb b (List.mem_of_mem_drop (List.mem_of_mem_take hb'))
      have h1 := convertChunk_good _ eci hchunk
      cases hc : convertChunk ((raw.drop i).take (j - i)) eci with
      | error e => exact good_err _ (h1 e hc)
      | ok cps =>
        simp only []
        have h2 := ih ⟨(List.pairwise_cons.mp hs.1).2, fun e he => hs.2 e (List.mem_cons_of_mem _ he)⟩
        cases hm : convertSpans raw ((j, e2) :: rest') with
        | error e => exact good_err _ (h2 e hm)
        | ok more => exact Good.ok _

theorem convert_good (raw : List Nat) (ecis : List (Nat × Nat)) (h : OutInv raw ecis) : Good (convert raw ecis) := by
  unfold convert
  apply convertSpans_good raw h.1
  refine ⟨?_, ?_⟩
  · rw [List.append_assoc, List.singleton_append, List.pairwise_cons]
    refine ⟨fun e _ => Nat.zero_le _, ?_⟩
    rw [List.pairwise_append]
    refine ⟨h.2.1, by simp, ?_⟩
    intro a ha b hb'
    simp only [List.mem_singleton] at hb'
    subst hb'
    exact h.2.2 a ha
  · intro e he
    simp only [List.cons_append, List.mem_cons, List.mem_append, List.not_mem_nil, or_false, List.nil_append] at he
    rcases he with rfl | he | rfl
    · exact Nat.zero_le _
    · exact h.2.2 e he
    · exact Nat.le_refl _

/-- **`decode_str` is total** (model): for every slice of codewords it returns the string or a
documented error; no slice, index, overflow or table panic is reachable and the loop bound of the
model is never hit. -/
theorem decodeStr_good (data : List Nat) (hb : ByteList data) : Good (decodeStr data) := by
  unfold decodeStr
  have h := decodeParts_spec data false
  cases hp : decodeParts data false with
  | error e => exact good_err _ (h.1 e hp)
  | ok p => exact convert_good _ _ (h.2 p hp hb)

end DM.Lemmas
