import DM.Lemmas.DecTotal
/-
A fuel-free view of the data decoder's main loop: `decRun m st` runs `mainLoop` with the fuel
`decode_parts` would pass for `st.rest`; any larger fuel gives the same answer, so the loop can be
unfolded one mode segment at a time (`decRun_step`). Basis of the decoder-completeness proof (C04).
Behind one of the five prefixes the encoding side writes (`Header`) `decode_parts` is `decRun` on the message
(`decodeParts_header`). `decode_parts` also accepts FNC1 behind a Macro codeword, which nothing writes and no `Header`
stands for; `decodeParts_cases` (`DecStep`) is the statement about every input.
Namespaces: `DecRun`, `MainRT`, `EciFrame` (`decodeAscii_skip`, `eci_step`), `DM.Lemmas`.
-/
namespace DM.Lemmas.DecRun
open DM.Model.Dec DM.Gen DM.Lemmas

theorem fuel_irrel : ∀ (f f' : Nat) (m : DMode) (st : DSt),
    2 * st.rest.length + (if m = .ascii then 0 else 1) < f →
    2 * st.rest.length + (if m = .ascii then 0 else 1) < f' →
    mainLoop f m st = mainLoop f' m st := by
  intro f
  induction f with
  | zero => intro f' m st h; omega
  | succ f ih =>
    intro f' m st hf hf'
    cases f' with
    | zero => omega
    | succ f' =>
      rw [mainLoop_succ, mainLoop_succ]
      by_cases he : st.rest.isEmpty = true
      · rw [if_pos he, if_pos he]
      rw [if_neg he, if_neg he]
      cases hs : modeStep m st with
      | error e => rfl
      | ok p =>
        -- the fuel measure goes down with every segment
        have := ((modeStep_spec m st).2 p hs).1 fun h => he (by rw [h]; rfl)
        exact ih f' p.2 p.1 (by omega) (by omega)

def decRun (m : DMode) (st : DSt) : R DSt := mainLoop (2 * st.rest.length + 2) m st

theorem decRun_nil (m : DMode) (st : DSt) (h : st.rest = []) : decRun m st = .ok st := by
  unfold decRun
  rw [mainLoop_succ, h]
  rfl

theorem decRun_step (m : DMode) (st : DSt) (h : st.rest ≠ []) :
    decRun m st = (modeStep m st).bind fun p => decRun p.2 p.1 := by
  unfold decRun
  rw [mainLoop_succ, if_neg (by simpa using h)]
  cases hs : modeStep m st with
  | error e => rfl
  | ok p =>
    have := ((modeStep_spec m st).2 p hs).1 h
    have le1 : ∀ m' : DMode, (if m' = .ascii then 0 else 1) ≤ 1 := fun m' => by split <;> omega
    have := le1 m
    have := le1 p.2
    exact fuel_irrel _ _ _ _ (by omega) (by omega)

theorem decRun_ascii_eq (st : DSt) :
    decRun .ascii st =
      match decodeAscii st.rest st.eaten st.out st.ecis false 0 with
      | .error e => .error e
      | .ok (st', m) => decRun m st' := by
  by_cases h : st.rest = []
  · obtain ⟨rest, eaten, out, ecis⟩ := st
    replace h : rest = [] := h
    subst h
    rw [decRun_nil _ _ rfl]
    exact (decRun_nil _ _ rfl).symm
  · rw [decRun_step _ st h]
    simp only [modeStep]
    cases decodeAscii st.rest st.eaten st.out st.ecis false 0 <;> rfl

theorem decRun_latch {c : Nat} {m : DMode} (h : asciiAct false c = .latch m)
    (t : List Nat) (e : Nat) (out : List Nat) (ecis : List (Nat × Nat)) :
    decRun .ascii { rest := c :: t, eaten := e, out := out, ecis := ecis } =
      decRun m { rest := t, eaten := e + 1, out := out, ecis := ecis } := by
  rw [decRun_ascii_eq]
  simp only [decodeAscii_latch h]

/-- The triple loops and EDIFACT accept empty input and return it, so for them the equation also holds at the end
of the data. -/
theorem decRun_seg {m : DMode} {st : DSt} {r : R (List Nat × Nat × List Nat)} (hm : modeStep m st = backTo st r)
    (hnil : st.rest = [] → r = .ok ([], st.eaten, st.out)) :
    decRun m st = r.bind fun p => decRun .ascii { st with rest := p.1, eaten := p.2.1, out := p.2.2 } := by
  by_cases h : st.rest = []
  · obtain ⟨rest, eaten, out, ecis⟩ := st
    replace h : rest = [] := h
    subst h
    rw [hnil rfl, decRun_nil _ _ rfl]
    exact (decRun_nil _ _ rfl).symm
  · rw [decRun_step m st h, hm]
    cases r <;> rfl

end DM.Lemmas.DecRun

namespace DM.Lemmas.MainRT

/-- the first codeword is not one of those `decode_parts` looks at before the main loop -/
def HeadOK (cw : List Nat) : Prop := ∀ c ∈ cw.head?, c ≠ 232 ∧ c ≠ 236 ∧ c ≠ 237

theorem headOK_append {A B : List Nat} (ha : HeadOK A) (hb : HeadOK B) : HeadOK (A ++ B) := by
  cases A with
  | nil => simpa using hb
  | cons a t => intro c hc; exact ha c (by simpa using hc)

theorem headOK_cons (c : Nat) (t : List Nat) (h : c ≠ 232 ∧ c ≠ 236 ∧ c ≠ 237) : HeadOK (c :: t) := by
  intro x hx; simp at hx; subst hx; exact h

end DM.Lemmas.MainRT

namespace DM.Lemmas.EciFrame
open DM.Model.Dec DM.Gen DM.Lemmas.DecRun

theorem decodeAscii_skip (D R : List Nat) : ∀ (eaten : Nat) (out : List Nat) (ecis : List (Nat × Nat)) (upper : Bool),
    decodeAscii (D ++ R) eaten out ecis upper D.length = decodeAscii R (eaten + D.length) out ecis upper 0 := by
  induction D with
  | nil => intro eaten out ecis upper; rfl
  | cons d D ih =>
    intro eaten out ecis upper
    simp only [List.cons_append, List.length_cons, decodeAscii]
    rw [if_pos (by omega), Nat.add_sub_cancel, ih]
    congr 1
    omega

theorem eci_step (D R : List Nat) (e k : Nat) (out : List Nat) (E : List (Nat × Nat))
    (hread : readEci (D ++ R) = .ok (e, D.length)) :
    decRun .ascii { rest := 241 :: (D ++ R), eaten := k, out := out, ecis := E } =
    decRun .ascii { rest := R, eaten := k + 1 + D.length, out := out, ecis := E ++ [(out.length, e)] } := by
  rw [decRun_ascii_eq, decRun_ascii_eq, decodeAscii_cons]
  simp only [asciiThen, asciiAct, hread, Except.bind, Nat.reduceLeDiff, Nat.reduceEqDiff, and_false, Bool.false_eq_true,
    ↓reduceIte]
  rw [decodeAscii_skip]

end DM.Lemmas.EciFrame

namespace DM.Lemmas
open DM.Model.Dec DM.Lemmas.DecRun DM.Lemmas.MainRT

/-- what the codewords written before the message mean to `decode_parts`: prefix codewords, initial output, macro flag,
FNC1 flag, and the ECI spans in force when the main loop reaches the message (for a macro they depend on `raw`) -/
inductive Header : List Nat → List Nat → Bool → Bool → (Bool → List (Nat × Nat)) → Prop
  | none : Header [] [] false false fun _ => []
  | fnc1 : Header [232] [] false true fun _ => []
  | m05 : Header [236] macroHead05 true false fun raw => if raw then [] else [(0, 26), (7, 0)]
  | m06 : Header [237] macroHead06 true false fun raw => if raw then [] else [(0, 26), (7, 0)]
  | eci (D : List Nat) (n : Nat) (hread : ∀ R, readEci (D ++ R) = .ok (n, D.length)) :
      Header (241 :: D) [] false false fun _ => [(0, n)]

theorem decodeParts_header {pre out0 : List Nat} {mac fnc1 : Bool} {sp : Bool → List (Nat × Nat)}
    (H : Header pre out0 mac fnc1 sp) {rest : List Nat} (hd : HeadOK rest) (raw : Bool) :
    decodeParts (pre ++ rest) raw = partsFinish mac fnc1 (decRun .ascii
      { rest := rest, eaten := pre.length, out := out0, ecis := sp raw }) := by
  have h2 : ∀ t, rest ≠ 232 :: t := fun t ht => (hd 232 (by rw [ht]; rfl)).1 rfl
  have h6 : ∀ t, rest ≠ 236 :: t := fun t ht => (hd 236 (by rw [ht]; rfl)).2.1 rfl
  have h7 : ∀ t, rest ≠ 237 :: t := fun t ht => (hd 237 (by rw [ht]; rfl)).2.2 rfl
  -- the model writes the spans as `if !raw && mac then … else []`: for each value of `raw` that is the header's list
  cases H with
  | none =>
    refine (decodeParts_other rest raw fun t => ⟨h6 t, h7 t⟩).trans ?_
    rw [partsBody_no232 raw [] rest 0 false h2]
    cases raw <;> rfl
  | fnc1 =>
    refine (decodeParts_other (232 :: rest) raw fun t => ⟨nofun, nofun⟩).trans ?_
    rw [partsBody_232 raw [] rest 0 false]
    cases raw <;> rfl
  | m05 =>
    refine (decodeParts_236 rest raw).trans ?_
    rw [partsBody_no232 raw macroHead05 rest 1 true h2]
    cases raw <;> rfl
  | m06 =>
    refine (decodeParts_237 rest raw).trans ?_
    rw [partsBody_no232 raw macroHead06 rest 1 true h2]
    cases raw <;> rfl
  | eci D n hread =>
    rw [List.cons_append, decodeParts_other (241 :: (D ++ rest)) raw fun t => ⟨nofun, nofun⟩,
      partsBody_no232 raw [] (241 :: (D ++ rest)) 0 false nofun, Bool.and_false, if_neg nofun]
    refine (congrArg _ (EciFrame.eci_step D rest n 0 [] [] (hread rest))).trans ?_
    simp only [List.length_nil, List.nil_append, List.length_cons]
    congr 3
    omega

theorem decodeData_header {pre out0 : List Nat} {mac fnc1 : Bool} {sp : Bool → List (Nat × Nat)}
    (H : Header pre out0 mac fnc1 sp) (hs : sp true = []) {rest : List Nat}
    (hd : HeadOK rest) {e : Nat} {out : List Nat}
    (hr : decRun .ascii { rest := rest, eaten := pre.length, out := out0, ecis := [] } =
      .ok { rest := [], eaten := e, out := out, ecis := [] }) :
    decodeData (pre ++ rest) = .ok (if mac then out ++ macroTrail else out) := by
  unfold decodeData
  rw [decodeParts_header H hd true, hs, hr]
  cases mac <;> rfl

end DM.Lemmas
