import DM.Model.Encode
import DM.Model.Decode
/-
What the statements about a C40 / Text run are written in: the charset flag `text`, its latch codeword and encoder
mode, and the start state of the decoder's value automaton.
Namespace: `C40RT`.
-/
namespace DM.Lemmas.C40RT
open DM.Model DM.Model.Enc DM.Model.Dec

def st0 : CSt := { shift := 0, upper := false }

def latchOf (text : Bool) : Nat := if text then 239 else 230

def modeOf (text : Bool) : EMode := if text then .text else .c40

end DM.Lemmas.C40RT
