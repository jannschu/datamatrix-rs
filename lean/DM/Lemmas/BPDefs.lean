import Mathlib.Algebra.Field.Defs
import Mathlib.Algebra.BigOperators.Ring.Finset
/-
The Björck–Pereyra algorithm for the system  Σ_l y_l · x_l^(i+1) = b_i  (i < e), written on
functions `ℕ → F` over an arbitrary field: the three stages of `find_error_values_bp`
as simultaneous updates.
Namespace: `BP`.
-/
namespace DM.Lemmas.BP

variable {F : Type} [Field F]

def s1Step (e : ℕ) (x : ℕ → F) (k : ℕ) (b : ℕ → F) : ℕ → F :=
  fun j => if k + 1 ≤ j ∧ j < e then b j - x k * b (j - 1) else b j

def s2Div (e : ℕ) (x : ℕ → F) (k : ℕ) (b : ℕ → F) : ℕ → F :=
  fun j => if k + 1 ≤ j ∧ j < e then b j / (x j - x (j - k - 1)) else b j

def s2Sub (e : ℕ) (k : ℕ) (b : ℕ → F) : ℕ → F :=
  fun j => if k ≤ j ∧ j + 1 < e then b j - b (j + 1) else b j

/-- stage 1 with steps k = 0, 1, …, n−1 (in this order) -/
def stage1 (e : ℕ) (x : ℕ → F) : ℕ → (ℕ → F) → (ℕ → F)
  | 0, b => b
  | n + 1, b => s1Step e x n (stage1 e x n b)

/-- stage 2 with steps k = n−1, n−2, …, 0 (in this order) -/
def stage2 (e : ℕ) (x : ℕ → F) : ℕ → (ℕ → F) → (ℕ → F)
  | 0, b => b
  | n + 1, b => stage2 e x n (s2Sub e n (s2Div e x n b))

def bp (e : ℕ) (x : ℕ → F) (b : ℕ → F) : ℕ → F :=
  fun l => stage2 e x (e - 1) (stage1 e x (e - 1) b) l / x l

end DM.Lemmas.BP
