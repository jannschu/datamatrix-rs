import DM.Lemmas.LDBase
import DM.Lemmas.LDEq
import Mathlib.Algebra.BigOperators.Group.Finset.Sigma
/-
The algebra of the singular case of the Levinson–Durbin iteration, in the field.  With `tau i` row `i`
of the infinite Hankel matrix applied to `[w, 1]`: if the rows below `n` vanish and row `n` does not,
`[w, 1]` divided by row `n` satisfies equation (3) at `n + 1` (`sing_eq3`); a round of the `tk` loop
moves the right-hand side of `H tk` one syndrome on (`tk_step`); and `tk` plus the `Γ`-combination of the
shifted copies `Psh` of `[w, 1]`, with `Γ` solving the triangular Toeplitz system in the `tau`, satisfies
equation (4) at `m + v + 1` (`sing_eq4`).
Namespace: `LD`.
-/
namespace DM.Lemmas.LD

def tau (syn w : List Nat) (v i : Nat) : GF := H syn i (v + 1) (V (w ++ [1]))

def Psh (w : List Nat) (off q : Nat) : GF := if off ≤ q then V (w ++ [1]) (q - off) else 0

theorem H_sum (syn : List Nat) (a L k : Nat) (g : Nat → Nat → GF) :
    H syn a L (fun q => ∑ i ∈ Finset.range k, g i q) = ∑ i ∈ Finset.range k, H syn a L (g i) := by
  unfold H
  rw [Finset.sum_comm]
  exact Finset.sum_congr rfl fun j _ => Finset.mul_sum _ _ _

theorem H_Psh (syn w : List Nat) (v r M off : Nat) (hw : w.length = v) (hM : off + (v + 1) ≤ M) :
    H syn r M (Psh w off) = tau syn w v (r + off) := by
  obtain ⟨L, rfl⟩ : ∃ L, M = off + L := ⟨M - off, by omega⟩
  unfold Psh tau
  rw [H_shift]
  exact H_extend syn _ (v + 1) L _ (by omega) (fun j hj => V_of_ge (by length_omega))

theorem tk_step (syn w y tk tk' : List Nat) (v k : Nat) (rho eta : GF) (hv : 1 ≤ v)
    (h3 : Eq3 syn v y) (h4 : Eq4 syn v w)
    (hTK : ∀ i, i < v → H syn i v (V tk) = V syn (v + k + i))
    (hrho : rho = V syn (2 * v + k) + H syn v v (V tk)) (heta : eta = V tk (v - 1))
    (hTK' : ∀ j, j < v → V tk' j = (if j = 0 then 0 else V tk (j - 1)) + (rho * V y j + eta * V w j)) :
    ∀ i, i < v → H syn i v (V tk') = V syn (v + (k + 1) + i) := by
  obtain ⟨u, rfl⟩ : ∃ u, v = u + 1 := ⟨v - 1, by omega⟩
  intro i hi
  rw [H_congr hTK', H_add, H_add, H_smul, H_smul, H_shift_one, h3 i hi, h4 i hi]
  have hs : H syn (i + 1) (u + 1) (V tk) = H syn (i + 1) u (V tk) + V syn (i + 1 + u) * V tk u :=
    H_succ _ _ _ _
  simp only [Nat.add_sub_cancel] at heta ⊢
  by_cases hl : i = u
  · subst hl
    rw [if_pos rfl]
    rw [show i + 1 + (k + 1) + i = 2 * (i + 1) + k by omega, show i + 1 + i = i + 1 + i from rfl]
    rw [hs] at hrho
    rw [← heta] at hrho
    linear_combination hrho + (eta * V syn (i + 1 + i) + H syn (i + 1) i (V tk)) * two_eq_zero
  · rw [if_neg hl]
    have := hTK (i + 1) (by omega)
    rw [hs, ← heta] at this
    rw [show u + 1 + (k + 1) + i = u + 1 + k + (i + 1) by omega,
      show u + 1 + i = i + 1 + u by omega]
    linear_combination this

theorem sing_eq3 (syn w y' : List Nat) (v n : Nat) (sInv : GF) (hw : w.length = v) (hvn : v ≤ n)
    (hY : ∀ j, V y' j = V (w ++ [1]) j * sInv)
    (hτ : ∀ i, i < n → tau syn w v i = 0) (hn : tau syn w v n * sInv = 1) :
    Eq3 syn (n + 1) y' := by
  intro i hi
  rw [H_congr (fun j _ => hY j), H_smul_right, Nat.add_sub_cancel,
    H_extend syn i (v + 1) (n + 1) _ (by omega) (fun j hj => V_of_ge (by length_omega))]
  by_cases h : i = n
  · subst h; rw [if_pos rfl]; exact hn
  · rw [if_neg h]
    have := hτ i (by omega)
    unfold tau at this
    rw [this, zero_mul]

theorem sing_eq4 (syn w tk tw : List Nat) (v m : Nat) (Γ : Nat → GF) (hw : w.length = v)
    (htk : tk.length = v)
    (hTK : ∀ i, i < v → H syn i v (V tk) = V syn (v + m + 1 + i))
    (hτ : ∀ i, i < m + v → tau syn w v i = 0)
    (hΓ : ∀ i, i < m + 1 → ∑ j ∈ Finset.range (i + 1), tau syn w v (m + v + i - j) * Γ j
      = V syn (m + v + v + 1 + i) + H syn (v + i) v (V tk))
    (hTW : ∀ q, V tw q = V tk q + ∑ i' ∈ Finset.range (m + 1), Γ i' * Psh w (m - i') q) :
    Eq4 syn (m + v + 1) tw := by
  intro r hr
  have e0 : H syn r (m + v + 1) (V tw) = H syn r v (V tk)
      + ∑ i' ∈ Finset.range (m + 1), Γ i' * tau syn w v (r + (m - i')) := by
    rw [H_congr (fun q _ => hTW q), H_add, H_sum,
      H_extend syn r v (m + v + 1) _ (by omega) (fun j hj => V_of_ge (by omega))]
    congr 1
    apply Finset.sum_congr rfl
    intro i' hi'
    have := Finset.mem_range.mp hi'
    rw [H_smul, H_Psh syn w v r _ _ hw (by omega)]
  rw [e0]
  by_cases hlt : r < v
  · rw [hTK r hlt, Finset.sum_eq_zero, add_zero]
    · congr 1; omega
    · intro i' hi'
      have := Finset.mem_range.mp hi'
      rw [hτ _ (by omega), mul_zero]
  · obtain ⟨i, rfl⟩ : ∃ i, r = v + i := ⟨r - v, by omega⟩
    have hi : i < m + 1 := by omega
    have e1 : ∑ i' ∈ Finset.range (m + 1), Γ i' * tau syn w v (v + i + (m - i'))
        = ∑ j ∈ Finset.range (i + 1), tau syn w v (m + v + i - j) * Γ j := by
      rw [← Finset.sum_subset (s₁ := Finset.range (i + 1))]
      · apply Finset.sum_congr rfl
        intro j hj
        have := Finset.mem_range.mp hj
        rw [show v + i + (m - j) = m + v + i - j by omega]
        ring
      · intro x hx; exact Finset.mem_range.mpr (by have := Finset.mem_range.mp hx; omega)
      · intro x hx hx'
        have h1 := Finset.mem_range.mp hx
        have h2 : ¬ x < i + 1 := fun h => hx' (Finset.mem_range.mpr h)
        rw [hτ _ (by omega), mul_zero]
    rw [e1, hΓ i hi, show m + v + 1 + (v + i) = m + v + v + 1 + i by omega]
    linear_combination H syn (v + i) v (V tk) * two_eq_zero


theorem tkNext_bytes (w y tk : List Nat) (rho eta : Nat) (htb : Bytes tk) :
    Bytes (tkNext w y tk rho eta) := by
  have hshb : Bytes (0 :: tk.dropLast) :=
    Bytes.cons (by omega) (fun z hz => htb z (List.mem_of_mem_dropLast hz))
  unfold tkNext
  apply Bytes.map_range
  intro j _
  split
  · exact xor_lt_256 (Bytes.getD hshb j) (xor_lt_256 (gmul_lt' _ _) (gmul_lt' _ _))
  · exact Bytes.getD hshb j

theorem tkNext_V (w y tk : List Nat) (v rho eta : Nat) (hw : w.length = v) (hy : y.length = v)
    (htl : tk.length = v) (hbw : Bytes w) (hby : Bytes y) (hr : rho < 256) (he : eta < 256)
    (j : Nat) (hj : j < v) :
    V (tkNext w y tk rho eta) j
      = (if j = 0 then 0 else V tk (j - 1)) + (GF.ofNat rho * V y j + GF.ofNat eta * V w j) := by
  unfold tkNext
  rw [V_map_range, if_pos (by length_omega), if_pos ⟨by omega, by omega⟩, GF.ofNat_xor,
    GF.ofNat_xor, GF.ofNat_gmul hr (Bytes.getD hby j), GF.ofNat_gmul he (Bytes.getD hbw j)]
  congr 1
  show V (0 :: tk.dropLast) j = _
  rw [V_cons]
  split
  · rfl
  · exact V_dropLast tk (j - 1) (by omega)

theorem singY_V (w : List Nat) (v n sInv : Nat) (hw : w.length = v) (hn : v ≤ n) (hbw : Bytes w)
    (hs : sInv < 256) (j : Nat) :
    V (singY w n sInv) j = V (w ++ [1]) j * GF.ofNat sInv := by
  unfold singY
  rw [V_map_range, V_snoc_one, hw]
  by_cases h1 : j < v
  · rw [if_pos (by omega), if_pos h1, if_pos h1, GF.ofNat_gmul (Bytes.getD hbw j) hs]; rfl
  · by_cases h2 : j = v
    · rw [if_pos (by omega), if_neg h1, if_pos h2, if_neg h1, if_pos h2, one_mul]
    · rw [if_neg h1, if_neg h2, if_neg h1, if_neg h2, zero_mul]
      split <;> rfl

theorem singY_bytes (w : List Nat) (n sInv : Nat) (hs : sInv < 256) : Bytes (singY w n sInv) := by
  unfold singY
  apply Bytes.map_range
  intro j _
  split
  · exact gmul_lt' _ _
  · split <;> omega

theorem twAdd_bytes (w tw : List Nat) (off gi : Nat) (hbt : Bytes tw) : Bytes (twAdd w tw off gi) := by
  unfold twAdd
  apply Bytes.map_range
  intro j _
  split
  · exact xor_lt_256 (Bytes.getD hbt j) (gmul_lt' _ _)
  · exact Bytes.getD hbt j

theorem twStep_bytes (w tw : List Nat) (v off gi : Nat) (hbt : Bytes tw) (hg : gi < 256) :
    Bytes (twStep w tw v off gi) :=
  have := twAdd_bytes w tw off gi hbt
  this.set _ (xor_lt_256 (Bytes.getD this _) hg)

theorem twStep_V (w tw : List Nat) (v off gi : Nat) (hw : w.length = v) (hbw : Bytes w)
    (hg : gi < 256) (hoff : off + v < tw.length) (q : Nat) :
    V (twStep w tw v off gi) q = V tw q + GF.ofNat gi * Psh w off q := by
  subst hw
  have h1 : ∀ q, V (twAdd w tw off gi) q
      = V tw q + (if off ≤ q ∧ q - off < w.length then GF.ofNat gi * V w (q - off) else 0) := by
    intro q
    unfold twAdd
    rw [V_map_range]
    by_cases hq : q < tw.length
    · rw [if_pos hq]
      by_cases hc : off ≤ q ∧ q - off < w.length
      · rw [if_pos hc, if_pos hc, GF.ofNat_xor, GF.ofNat_gmul hg (Bytes.getD hbw _)]; rfl
      · rw [if_neg hc, if_neg hc, add_zero]; rfl
    · rw [if_neg hq, V_of_ge (by omega), if_neg (by omega), add_zero]
  unfold twStep
  rw [V_set, twAdd_length]
  unfold Psh
  rw [V_snoc_one]
  by_cases hq : q = off + w.length
  · subst hq
    rw [if_pos ⟨rfl, hoff⟩, GF.ofNat_xor]
    have := h1 (off + w.length)
    unfold V at this
    rw [this, if_neg (by omega), if_pos (by omega), if_neg (by omega), if_pos (by omega)]
    unfold V
    ring
  · rw [if_neg (by tauto), h1]
    by_cases hc : off ≤ q ∧ q - off < w.length
    · rw [if_pos hc, if_pos hc.1, if_pos hc.2]
    · rw [if_neg hc]
      by_cases ho : off ≤ q
      · rw [if_pos ho, if_neg (by tauto), if_neg (by omega), mul_zero]
      · rw [if_neg ho, mul_zero]

end DM.Lemmas.LD
