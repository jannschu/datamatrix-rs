import DM.Model.Decode
/-
One-step equations of the data decoder model: what the triple loops do with one pair of codewords and how
they end (`TripleLoop`), what `decode_ascii` does with one codeword (`asciiAct`), what the main loop does with
one mode segment (`modeStep`), and `decode_parts` with its two header tests resolved (`partsBody`, `partsFinish`).
Namespaces: `DM.Lemmas`, `Complete` (`TripleTail`).
-/
namespace DM.Lemmas
open DM.Model.Dec DM.Gen

theorem addU8_ok (site : String) (a b : Nat) (h : a + b ≤ 255) : addU8 site a b = .ok (a + b) :=
  if_pos h

theorem tableGet_ok (site : String) (tab : List Nat) (i : Nat) (h : i < tab.length) :
    tableGet site tab i = .ok tab[i] := by
  simp [tableGet, List.getElem?_eq_getElem h]

theorem tableGet_mem (site : String) (tab : List Nat) (i b : Nat) (h : tableGet site tab i = .ok b) : b ∈ tab := by
  unfold tableGet at h
  split at h
  · rename_i v hv
    cases h
    exact List.mem_of_getElem? hv
  · cases h

/- In the two equations below `c40Tuple a b` is generalised before the `match` on it is reduced: otherwise
the kernel has to compare terms through the unfolded `(a * 256 + b + 65535) % 65536` on variables, where
its arithmetic on literals does not help it. -/

theorem decodeX12_step (a b : Nat) (t : List Nat) (e : Nat) (out : List Nat) (ha : a ≠ 254) :
    decodeX12 (a :: b :: t) e out =
      (decX12 (c40Tuple a b).1).bind fun x1 => (decX12 (c40Tuple a b).2.1).bind fun x2 =>
        (decX12 (c40Tuple a b).2.2).bind fun x3 => decodeX12 t (e + 2) (out ++ [x1, x2, x3]) := by
  rw [decodeX12, if_neg ha]
  generalize c40Tuple a b = p
  obtain ⟨c1, c2, c3⟩ := p
  simp only
  generalize decX12 c1 = r1
  generalize decX12 c2 = r2
  generalize decX12 c3 = r3
  cases r1 <;> cases r2 <;> cases r3 <;> rfl

theorem decodeC40_step (base sh3 : List Nat) (a b : Nat) (t : List Nat) (e : Nat) (out : List Nat) (st : CSt)
    (ha : a ≠ 254) :
    decodeC40 base sh3 (a :: b :: t) e out st =
      (c40Values base sh3 [(c40Tuple a b).1, (c40Tuple a b).2.1, (c40Tuple a b).2.2] st out).bind
        fun p => decodeC40 base sh3 t (e + 2) p.2 p.1 := by
  rw [decodeC40, if_neg ha]
  generalize c40Tuple a b = p
  obtain ⟨c1, c2, c3⟩ := p
  simp only
  generalize c40Values base sh3 [c1, c2, c3] st out = r
  cases r <;> rfl

structure TripleLoop (g : List Nat → Nat → List Nat → R (List Nat × Nat × List Nat)) : Prop where
  nil : ∀ e out, g [] e out = .ok ([], e, out)
  single : ∀ a e out, g [a] e out = if a = 254 then .ok ([], e + 1, out) else .ok ([a], e, out)
  unlatch : ∀ b t e out, g (254 :: b :: t) e out =
    if t.isEmpty ∧ b = 254 then .ok ([], e + 2, out) else .ok (b :: t, e + 1, out)

theorem tripleLoop_x12 : TripleLoop decodeX12 :=
  ⟨fun _ _ => rfl, fun _ _ _ => by rw [decodeX12], fun _ _ _ _ => by rw [decodeX12, if_pos rfl]⟩

theorem tripleLoop_c40 (base sh3 : List Nat) (st : CSt) :
    TripleLoop fun l e out => decodeC40 base sh3 l e out st :=
  ⟨fun _ _ => rfl, fun _ _ _ => by rw [decodeC40], fun _ _ _ _ => by rw [decodeC40, if_pos rfl]⟩

theorem TripleLoop.stop {g : List Nat → Nat → List Nat → R (List Nat × Nat × List Nat)} (G : TripleLoop g)
    (l : List Nat) (e : Nat) (out : List Nat) (h : l.length < 2 ∨ l.head? = some 254) :
    ∃ r e', g l e out = .ok (r, e', out) ∧ r <:+ l := by
  match l, h with
  | [], _ => exact ⟨[], e, G.nil e out, List.suffix_refl _⟩
  | [a], _ =>
    rw [G.single]
    split
    · exact ⟨_, _, rfl, List.nil_suffix⟩
    · exact ⟨_, _, rfl, List.suffix_refl _⟩
  | a :: b :: t, h =>
    obtain rfl : a = 254 := h.elim (fun h => absurd h (by simp)) fun h => by simpa using h
    rw [G.unlatch]
    split
    · exact ⟨_, _, rfl, List.nil_suffix⟩
    · exact ⟨_, _, rfl, List.suffix_cons _ _⟩

namespace Complete

/-- what may follow a C40 / Text / X12 run: after UNLATCH anything but a second UNLATCH, without
UNLATCH the end of the symbol or a single trailing ASCII codeword -/
def TripleTail (un : Bool) (tail : List Nat) : Prop :=
  tail.head? ≠ some 254 ∧ (un = false → tail.length ≤ 1)

end Complete

theorem TripleLoop.end_ {g : List Nat → Nat → List Nat → R (List Nat × Nat × List Nat)} (G : TripleLoop g)
    (un : Bool) (tail : List Nat) (ht : Complete.TripleTail un tail) (e : Nat) (out : List Nat) :
    g ((if un then [254] else []) ++ tail) e out = .ok (tail, e + (if un then 1 else 0), out) := by
  cases un with
  | true =>
    simp only [↓reduceIte, List.singleton_append]
    match tail, ht with
    | [], _ => rw [G.single, if_pos rfl]
    | c :: t, ht =>
      have hc : c ≠ 254 := fun hc => ht.1 (by simp [hc])
      rw [G.unlatch, if_neg (fun h => hc h.2)]
  | false =>
    simp only [Bool.false_eq_true, ↓reduceIte, List.nil_append, Nat.add_zero]
    match tail, ht with
    | [], _ => exact G.nil e out
    | [c], ht => rw [G.single, if_neg (fun hc => ht.1 (by simp [hc]))]
    | _ :: _ :: _, ht => have := ht.2 rfl; simp at this

inductive AsciiAct
  | emit (bs : List Nat) (upper : Bool)
  | latch (m : DMode)
  | pad
  | eci
  | err (e : DErr)

/-- under upper shift the model adds 127 with an overflow check (`addU8`); for `ch ≤ 128` it cannot fail, so there is
no panic outcome here (`decodeAscii_cons` discharges the check) -/
def asciiAct (upper : Bool) (ch : Nat) : AsciiAct :=
  if 1 ≤ ch ∧ ch ≤ 128 then .emit [if upper then ch + 127 else ch - 1] false
  else if upper then .err (.unexpectedChar ch)
  else if ch = 129 then .pad
  else if 130 ≤ ch ∧ ch ≤ 229 then .emit [48 + (ch - 130) / 10, 48 + (ch - 130) % 10] false
  else if ch = 230 then .latch .c40
  else if ch = 231 then .latch .base256
  else if ch = 232 then .emit [29] false
  else if ch = 233 then .err .notImplemented
  else if ch = 234 then .err .notImplemented
  else if ch = 235 then .emit [] true
  else if ch = 238 then .latch .x12
  else if ch = 239 then .latch .text
  else if ch = 240 then .latch .edifact
  else if ch = 241 then .eci
  else .err (.unexpectedChar ch)

def asciiThen (t : List Nat) (e : Nat) (out : List Nat) (ecis : List (Nat × Nat)) : AsciiAct → R (DSt × DMode)
  | .emit bs u => decodeAscii t (e + 1) (out ++ bs) ecis u 0
  | .latch m => .ok ({ rest := t, eaten := e + 1, out := out, ecis := ecis }, m)
  | .pad => (checkPads t (e + 1)).map fun e' => ({ rest := [], eaten := e', out := out, ecis := ecis }, .ascii)
  | .eci => (readEci t).bind fun p => decodeAscii t (e + 1) out (ecis ++ [(out.length, p.1)]) false p.2
  | .err x => .error x

theorem decodeAscii_cons (ch : Nat) (t : List Nat) (e : Nat) (out : List Nat) (ecis : List (Nat × Nat)) (upper : Bool) :
    decodeAscii (ch :: t) e out ecis upper 0 = asciiThen t e out ecis (asciiAct upper ch) := by
  -- the two chains of tests run in parallel
  have ite : ∀ {c : Prop} [Decidable c] {A B : R (DSt × DMode)} {a b : AsciiAct},
      A = asciiThen t e out ecis a → B = asciiThen t e out ecis b →
      (if c then A else B) = asciiThen t e out ecis (if c then a else b) := fun ha hb => by
    rw [ha, hb, apply_ite (asciiThen t e out ecis)]
  rw [decodeAscii, asciiAct, if_neg (fun h => h rfl)]
  by_cases h1 : 1 ≤ ch ∧ ch ≤ 128
  · rw [if_pos h1, if_pos h1, if_neg (fun h => h.2 h1)]
    cases upper
    · rfl
    · rw [if_pos rfl, addU8_ok _ _ _ (by omega)]; rfl
  rw [if_neg h1, if_neg h1]
  cases upper
  · rw [if_neg (fun h => Bool.false_ne_true h.1), if_neg Bool.false_ne_true]
    refine ite ?pad (ite ?_ (ite ?_ (ite ?_ (ite ?_ (ite ?_ (ite ?_ (ite ?shift (ite ?_ (ite ?_ (ite ?_
      (ite ?eci ?_)))))))))))
    case pad => simp only [asciiThen]; cases checkPads t (e + 1) <;> rfl
    case shift => simp only [asciiThen, List.append_nil]
    case eci => simp only [asciiThen]; cases readEci t <;> rfl
    all_goals rfl
  · rw [if_pos ⟨rfl, h1⟩, if_pos rfl]; rfl

theorem asciiAct_low (u : Bool) (ch : Nat) (h : 1 ≤ ch ∧ ch ≤ 128) :
    asciiAct u ch = .emit [if u then ch + 127 else ch - 1] false := if_pos h

theorem decodeAscii_skip1 (ch : Nat) (t : List Nat) (e : Nat) (out : List Nat) (ecis : List (Nat × Nat)) (upper : Bool)
    (skip : Nat) : decodeAscii (ch :: t) e out ecis upper (skip + 1) = decodeAscii t (e + 1) out ecis upper skip := by
  rw [decodeAscii, if_pos (Nat.succ_ne_zero _), Nat.add_sub_cancel]

theorem decodeAscii_latch {c : Nat} {m : DMode} (h : asciiAct false c = .latch m) (t : List Nat) (e : Nat) (out : List Nat) (ecis : List (Nat × Nat)) :
    decodeAscii (c :: t) e out ecis false 0 = .ok ({ rest := t, eaten := e + 1, out := out, ecis := ecis }, m) := by
  rw [decodeAscii_cons, h]; rfl

def backTo (st : DSt) (r : R (List Nat × Nat × List Nat)) : R (DSt × DMode) :=
  r.map fun p => ({ st with rest := p.1, eaten := p.2.1, out := p.2.2 }, .ascii)

def modeStep (m : DMode) (st : DSt) : R (DSt × DMode) :=
  match m with
  | .ascii => decodeAscii st.rest st.eaten st.out st.ecis false 0
  | .base256 => backTo st (decodeBase256 st.rest st.eaten st.out)
  | .x12 => backTo st (decodeX12 st.rest st.eaten st.out)
  | .edifact => backTo st (.ok (decodeEdifact st.rest.length st.rest st.eaten st.out))
  | .c40 => backTo st (decodeC40 baseC40 shift3C40 st.rest st.eaten st.out { shift := 0, upper := false })
  | .text => backTo st (decodeC40 baseText shift3Text st.rest st.eaten st.out { shift := 0, upper := false })

theorem mainLoop_succ (f : Nat) (m : DMode) (st : DSt) :
    mainLoop (f + 1) m st =
      if st.rest.isEmpty then .ok st else (modeStep m st).bind fun p => mainLoop f p.2 p.1 := by
  by_cases he : st.rest.isEmpty = true
  · cases m <;> rw [mainLoop, if_pos he, if_pos he]
  · cases m <;> rw [mainLoop, if_neg he, if_neg he] <;> simp only [modeStep, backTo]
    · generalize decodeAscii st.rest st.eaten st.out st.ecis false 0 = r; cases r <;> rfl
    · generalize decodeC40 baseC40 shift3C40 st.rest st.eaten st.out _ = r; cases r <;> rfl
    · generalize decodeC40 baseText shift3Text st.rest st.eaten st.out _ = r; cases r <;> rfl
    · generalize decodeX12 st.rest st.eaten st.out = r; cases r <;> rfl
    · rfl
    · generalize decodeBase256 st.rest st.eaten st.out = r; cases r <;> rfl

def partsBody (raw : Bool) (out0 d1 : List Nat) (e1 : Nat) (mac : Bool) : R Parts :=
  let ecis0 : List (Nat × Nat) := if !raw && mac then [(0, 26), (out0.length, 0)] else []
  let (fnc1, data2, eaten2) : Bool × List Nat × Nat :=
    match d1 with
    | 232 :: t => (true, t, e1 + 1)
    | _ => (false, d1, e1)
  match mainLoop (2 * data2.length + 2) .ascii { rest := data2, eaten := eaten2, out := out0, ecis := ecis0 } with
  | .error e => .error e
  | .ok st =>
    if mac then
      let ecis := if st.ecis.isEmpty then st.ecis else st.ecis ++ [(st.out.length, 26)]
      .ok { output := st.out ++ macroTrail, ecis := ecis, fnc1 := fnc1 }
    else .ok { output := st.out, ecis := st.ecis, fnc1 := fnc1 }

theorem decodeParts_236 (t : List Nat) (raw : Bool) :
    decodeParts (236 :: t) raw = partsBody raw macroHead05 t 1 true := rfl

theorem decodeParts_237 (t : List Nat) (raw : Bool) :
    decodeParts (237 :: t) raw = partsBody raw macroHead06 t 1 true := rfl

theorem decodeParts_other (data : List Nat) (raw : Bool) (h : ∀ t, data ≠ 236 :: t ∧ data ≠ 237 :: t) :
    decodeParts data raw = partsBody raw [] data 0 false := by
  unfold decodeParts partsBody
  split
  rename_i heq
  split at heq
  · exact absurd rfl (h _).1
  · exact absurd rfl (h _).2
  · cases heq; rfl

theorem decodeParts_eq (data : List Nat) (raw : Bool) :
    (∃ t, data = 236 :: t ∧ decodeParts data raw = partsBody raw macroHead05 t 1 true) ∨
    (∃ t, data = 237 :: t ∧ decodeParts data raw = partsBody raw macroHead06 t 1 true) ∨
    decodeParts data raw = partsBody raw [] data 0 false := by
  by_cases h5 : ∃ t, data = 236 :: t
  · obtain ⟨t, rfl⟩ := h5; exact .inl ⟨t, rfl, rfl⟩
  by_cases h6 : ∃ t, data = 237 :: t
  · obtain ⟨t, rfl⟩ := h6; exact .inr (.inl ⟨t, rfl, rfl⟩)
  exact .inr (.inr (decodeParts_other data raw fun t => ⟨fun e => h5 ⟨t, e⟩, fun e => h6 ⟨t, e⟩⟩))

def partsFinish (mac fnc1 : Bool) (r : R DSt) : R Parts :=
  match r with
  | .error e => .error e
  | .ok st =>
    if mac then
      .ok { output := st.out ++ macroTrail,
            ecis := if st.ecis.isEmpty then st.ecis else st.ecis ++ [(st.out.length, 26)], fnc1 := fnc1 }
    else .ok { output := st.out, ecis := st.ecis, fnc1 := fnc1 }

theorem partsBody_232 (raw : Bool) (out0 t : List Nat) (e1 : Nat) (mac : Bool) :
    partsBody raw out0 (232 :: t) e1 mac =
      partsFinish mac true (mainLoop (2 * t.length + 2) .ascii
        { rest := t, eaten := e1 + 1, out := out0, ecis := if !raw && mac then [(0, 26), (out0.length, 0)] else [] }) :=
  rfl

theorem partsBody_no232 (raw : Bool) (out0 d1 : List Nat) (e1 : Nat) (mac : Bool) (h : ∀ t, d1 ≠ 232 :: t) :
    partsBody raw out0 d1 e1 mac =
      partsFinish mac false (mainLoop (2 * d1.length + 2) .ascii
        { rest := d1, eaten := e1, out := out0, ecis := if !raw && mac then [(0, 26), (out0.length, 0)] else [] }) := by
  unfold partsBody partsFinish
  -- the matcher's equation for its second alternative takes its side condition `h` from the context
  simp only

theorem decodeParts_cases (data : List Nat) (raw : Bool) :
    ∃ mac fnc1 d e out0, d <:+ data ∧ out0 ∈ [[], macroHead05, macroHead06] ∧
      decodeParts data raw = partsFinish mac fnc1 (mainLoop (2 * d.length + 2) .ascii
        { rest := d, eaten := e, out := out0, ecis := if !raw && mac then [(0, 26), (out0.length, 0)] else [] }) := by
  have body : ∀ out0 d1 e1 mac, ∃ fnc1 d e, d <:+ d1 ∧ partsBody raw out0 d1 e1 mac =
      partsFinish mac fnc1 (mainLoop (2 * d.length + 2) .ascii
        { rest := d, eaten := e, out := out0, ecis := if !raw && mac then [(0, 26), (out0.length, 0)] else [] }) := by
    intro out0 d1 e1 mac
    by_cases h : ∃ t, d1 = 232 :: t
    · obtain ⟨t, rfl⟩ := h
      exact ⟨true, t, e1 + 1, List.suffix_cons _ _, partsBody_232 ..⟩
    · exact ⟨false, d1, e1, List.suffix_refl _, partsBody_no232 _ _ _ _ _ fun t e => h ⟨t, e⟩⟩
  rcases decodeParts_eq data raw with ⟨t, rfl, e⟩ | ⟨t, rfl, e⟩ | e
  · obtain ⟨fnc1, d, e', hd, hb⟩ := body macroHead05 t 1 true
    exact ⟨true, fnc1, d, e', _, hd.trans (List.suffix_cons _ _), by simp, e.trans hb⟩
  · obtain ⟨fnc1, d, e', hd, hb⟩ := body macroHead06 t 1 true
    exact ⟨true, fnc1, d, e', _, hd.trans (List.suffix_cons _ _), by simp, e.trans hb⟩
  · obtain ⟨fnc1, d, e', hd, hb⟩ := body [] data 0 false
    exact ⟨false, fnc1, d, e', _, hd, by simp, e.trans hb⟩

end DM.Lemmas
