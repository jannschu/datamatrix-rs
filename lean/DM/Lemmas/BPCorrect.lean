import DM.Lemmas.RSTot
import DM.Lemmas.RSField
import DM.Lemmas.BPEq
import DM.Lemmas.BPAlg
/-
The folds `RSTotal.bpList` that the model `bjorckPereyra` answers (`RSTotal.bjorckPereyra_eq`), read
in the field, compute the abstract algorithm `BP.bp` (simultaneous updates of functions `ℕ → GF`)
on the field images of the arguments: `bpList_bp`, every inner loop through `foldl_sweep`.  With
`bp_correct` the values `bpList` solve the system `Σ_l v_l x_l^(j+1) = syn_j`: `bpList_correct`.
Namespace: `BP`.
-/
namespace DM.Lemmas.BP
open DM.Model DM.Model.RS DM.Lemmas DM.Lemmas.RSTotal DM.Lemmas.RSTot

theorem bytes_map_gdivD (c : Nat) (l : List Nat) : Bytes (l.map (gdivD c)) := by
  intro y hy
  simp only [List.mem_map] at hy
  obtain ⟨r, _, rfl⟩ := hy
  exact gdivD_lt _ _

theorem gF_set (l : List Nat) (i v j : Nat) (hi : i < l.length) :
    gF (l.set i v) j = if j = i then GF.ofNat v else gF l j := by
  unfold gF
  rw [getD_set]
  by_cases h : j = i
  · rw [if_pos h, if_pos ⟨h.symm, h ▸ hi⟩]
  · rw [if_neg h, if_neg fun hc => h hc.1.symm]

theorem mem_range_filter_ge {n m j : Nat} : j ∈ (List.range n).filter (· ≥ m) ↔ j < n ∧ m ≤ j := by
  simp only [List.mem_filter, List.mem_range, decide_eq_true_eq, ge_iff_le]

theorem foldl_range_rev_inv {β} (g : β → Nat → β) (I : Nat → β → Prop) :
    ∀ (n : Nat) (init : β), I n init → (∀ i, i < n → ∀ b, I (i + 1) b → I i (g b i)) →
      I 0 ((List.range n).reverse.foldl g init)
  | 0, _, h0, _ => h0
  | n + 1, init, h0, hstep => by
    rw [List.range_succ, List.reverse_append, List.reverse_singleton, List.singleton_append,
      List.foldl_cons]
    exact foldl_range_rev_inv g I n _ (hstep n (Nat.lt_succ_self n) _ h0)
      fun i hi => hstep i (Nat.lt_succ_of_lt hi)

/-- a fold `s := s.set a (val s a)` over a list sorted by a relation `rel`, in which the new
entry `a` is computed from entries not yet overwritten: the field image of the state goes from
`gF init` to `g'` -/
theorem foldl_sweep (rel : Nat → Nat → Prop) (l : List Nat) (hl : l.Pairwise rel) (init : List Nat)
    (val : List Nat → Nat → Nat) (g' : Nat → GF) (hb : Bytes init)
    (hg : ∀ j, j ∉ l → g' j = gF init j)
    (hstep : ∀ a s, a ∈ l → Bytes s → s.length = init.length →
      (∀ j, ¬ rel j a → gF s j = gF init j) →
      val s a < 256 ∧ a < init.length ∧ GF.ofNat (val s a) = g' a) :
    Bytes (l.foldl (fun s a => s.set a (val s a)) init) ∧
      gF (l.foldl (fun s a => s.set a (val s a)) init) = g' := by
  have key : ∀ (rest pre s : List Nat), l = pre ++ rest → Bytes s → s.length = init.length →
      (∀ j, gF s j = if j ∈ pre then g' j else gF init j) →
      Bytes (rest.foldl (fun s a => s.set a (val s a)) s) ∧
        ∀ j, gF (rest.foldl (fun s a => s.set a (val s a)) s) j
          = if j ∈ l then g' j else gF init j := by
    intro rest
    induction rest with
    | nil =>
      intro pre s hl' hbs _ hI
      rw [List.append_nil] at hl'
      subst hl'
      exact ⟨hbs, hI⟩
    | cons a rest ih =>
      intro pre s hl' hbs hns hI
      have hrel : ∀ p ∈ pre, rel p a := by
        intro p hp
        rw [hl', List.pairwise_append] at hl
        exact hl.2.2 p hp a (List.mem_cons_self ..)
      obtain ⟨hv, han, hval⟩ := hstep a s (by rw [hl']; simp) hbs hns fun j hj => by
        rw [hI j, if_neg (fun hm => hj (hrel j hm))]
      refine ih (pre ++ [a]) _ (by rw [hl']; simp) (Bytes.set hbs _ hv)
        (by rw [List.length_set]; exact hns) fun j => ?_
      rw [gF_set _ _ _ _ (by rw [hns]; exact han)]
      by_cases hj : j = a
      · subst hj; simp [hval]
      · rw [if_neg hj, hI j]
        simp [hj]
  obtain ⟨hb', h⟩ := key l [] init rfl hb rfl fun j => by simp
  refine ⟨hb', funext fun j => ?_⟩
  rw [h j]
  split
  · rfl
  · exact (hg j ‹_›).symm

theorem pairwise_lt_filter_range (n : Nat) (p : Nat → Bool) :
    ((List.range n).filter p).Pairwise (· < ·) :=
  List.Pairwise.filter _ List.pairwise_lt_range

theorem pairwise_gt_filter_range_reverse (n : Nat) (p : Nat → Bool) :
    ((List.range n).filter p).reverse.Pairwise (· > ·) := by
  rw [List.pairwise_reverse]
  exact pairwise_lt_filter_range n p

theorem bpList_bp (roots syn : List Nat) (hnd : roots.Nodup)
    (hnz : ∀ r ∈ roots, r ≠ 0 ∧ r < 256) (hsyn : Bytes syn) (hlen : roots.length ≤ syn.length) :
    Bytes (bpList roots syn) ∧ ∀ l, l < roots.length →
      gF (bpList roots syn) l = bp roots.length (gF (roots.map (gdivD 1))) (gF syn) l := by
  unfold bpList
  generalize hX : roots.map (gdivD 1) = X
  have hXlt : ∀ i, X.getD i 0 < 256 := fun i => by
    rw [← hX]; exact Bytes.getD (bytes_map_gdivD 1 roots) i
  have hXne : ∀ i j, i < j → j < roots.length → X.getD i 0 ≠ X.getD j 0 := by
    intro i j hij hj
    rw [← hX]
    exact inv_distinct roots hnd hnz i j (lt_trans hij hj) hj hij
  have hXnz : ∀ i, i < roots.length → X.getD i 0 ≠ 0 := by
    intro i hi
    rw [← hX]
    exact inv_ne_zero roots hnz i hi
  generalize roots.length = e at *
  -- stage 1: after `k` rounds the field image is `stage1 e (gF X) k (gF syn)`; `j` runs downwards,
  -- so entry `j-1` is read before it is overwritten (in stage 2 upwards, reading `j+1`)
  obtain ⟨hcb, hcl, hcg⟩ := foldl_range_inv (bpS1 e X)
    (fun k (s : List Nat) => Bytes s ∧ s.length = syn.length ∧ gF s = stage1 e (gF X) k (gF syn))
    syn ⟨hsyn, rfl, rfl⟩ (e - 1) fun k _ s ⟨hsb, hsl, hsg⟩ => by
      obtain ⟨hb', hg'⟩ := foldl_sweep (· > ·) _ (pairwise_gt_filter_range_reverse e _) s
        (fun s j => gadd (s.getD j 0) (gmul (X.getD k 0) (s.getD (j - 1) 0)))
        (s1Step e (gF X) k (gF s)) hsb
        (fun j hj => by
          rw [List.mem_reverse, mem_range_filter_ge] at hj
          exact s1Step_neg _ _ (fun h => hj ⟨h.2, h.1⟩))
        fun a s' ha hb hn hg => by
          rw [List.mem_reverse, mem_range_filter_ge] at ha
          refine ⟨xor_lt_256 (Bytes.getD hb _) (gmul_lt' _ _),
            hsl ▸ lt_of_lt_of_le ha.1 hlen, ?_⟩
          rw [s1Step_pos _ _ ⟨ha.2, ha.1⟩, GF.sub_eq_add, ← hg a (lt_irrefl a),
            ← hg (a - 1) (Nat.not_lt.2 (Nat.sub_le a 1))]
          exact (GF.ofNat_xor _ _).trans (congrArg _ (GF.ofNat_gmul (hXlt k) (Bytes.getD hb _)))
      exact ⟨hb', (bpS1_length e X s k).trans hsl, by rw [show gF (bpS1 e X s k) = _ from hg', hsg]; rfl⟩
  generalize (List.range (e - 1)).foldl (bpS1 e X) syn = c at hcb hcl hcg
  -- stage 2: when the rounds `e-2, …, i` are done, `i` more rounds of `stage2` lead to the end
  obtain ⟨hdb, hdl, hdg⟩ := foldl_range_rev_inv (fun s k => bpSub e (bpDiv e X s k) k)
    (fun i (s : List Nat) => Bytes s ∧ s.length = syn.length ∧
      stage2 e (gF X) i (gF s) = stage2 e (gF X) (e - 1) (gF c)) (e - 1) c ⟨hcb, hcl, rfl⟩
    fun k _ s ⟨hsb, hsl, hsg⟩ => by
      obtain ⟨h1b, h1g⟩ := foldl_sweep (· < ·) _ (pairwise_lt_filter_range e _) s
        (fun s j => gdivD (s.getD j 0) (gadd (X.getD j 0) (X.getD (j - k - 1) 0)))
        (s2Div e (gF X) k (gF s)) hsb
        (fun j hj => by
          rw [mem_range_filter_ge] at hj
          exact s2Div_neg _ _ (fun h => hj ⟨h.2, h.1⟩))
        fun a s' ha hb hn hg => by
          rw [mem_range_filter_ge] at ha
          have hd : gadd (X.getD a 0) (X.getD (a - k - 1) 0) ≠ 0 :=
            xor_ne_zero (hXne (a - k - 1) a (by
              rw [Nat.sub_sub]
              exact Nat.sub_lt (lt_of_lt_of_le (Nat.succ_pos k) ha.2) (Nat.succ_pos k)) ha.1).symm
          refine ⟨gdivD_lt _ _, hsl ▸ lt_of_lt_of_le ha.1 hlen, ?_⟩
          rw [ofNat_gdivD (Bytes.getD hb _) (xor_lt_256 (hXlt _) (hXlt _)) hd, GF.ofNat_xor,
            s2Div_pos _ _ ⟨ha.2, ha.1⟩, GF.sub_eq_add, ← hg a (lt_irrefl a)]
          rfl
      have h1l : (bpDiv e X s k).length = syn.length := (bpDiv_length e X s k).trans hsl
      obtain ⟨h2b, h2g⟩ := foldl_sweep (· < ·) _ (pairwise_lt_filter_range (e - 1) _)
        (bpDiv e X s k) (fun s j => gadd (s.getD j 0) (s.getD (j + 1) 0))
        (s2Sub e k (gF (bpDiv e X s k))) h1b
        (fun j hj => by
          rw [mem_range_filter_ge] at hj
          exact s2Sub_neg _ (fun h => hj ⟨Nat.lt_sub_of_add_lt h.2, h.1⟩))
        fun a s' ha hb hn hg => by
          rw [mem_range_filter_ge] at ha
          refine ⟨xor_lt_256 (Bytes.getD hb _) (Bytes.getD hb _),
            h1l ▸ lt_of_lt_of_le (Nat.lt_of_succ_lt (Nat.add_lt_of_lt_sub ha.1)) hlen, ?_⟩
          rw [s2Sub_pos _ ⟨ha.2, Nat.add_lt_of_lt_sub ha.1⟩, GF.sub_eq_add, ← hg a (lt_irrefl a),
            ← hg (a + 1) (Nat.not_lt.2 (Nat.le_succ a))]
          exact GF.ofNat_xor _ _
      refine ⟨h2b, (bpSub_length e _ k).trans h1l, ?_⟩
      rw [show gF (bpSub e (bpDiv e X s k) k) = _ from h2g, show gF (bpDiv e X s k) = _ from h1g]
      exact hsg
  generalize (List.range (e - 1)).reverse.foldl (fun s k => bpSub e (bpDiv e X s k) k) c = d
    at hdb hdl hdg
  obtain ⟨hrb, hrg⟩ := foldl_sweep (· < ·) _ List.pairwise_lt_range d
    (fun s i => gdivD (s.getD i 0) (X.getD i 0))
    (fun j => if j < e then gF d j / gF X j else gF d j) hdb
    (fun j hj => if_neg (fun h => hj (List.mem_range.2 h)))
    fun a s' ha hb hn hg => by
      rw [List.mem_range] at ha
      refine ⟨gdivD_lt _ _, hdl ▸ lt_of_lt_of_le ha hlen, ?_⟩
      rw [ofNat_gdivD (Bytes.getD hb _) (hXlt _) (hXnz a ha), if_pos ha, ← hg a (lt_irrefl a)]
      rfl
  refine ⟨hrb, fun l hl => ?_⟩
  have hrl : gF ((List.range e).foldl (fun s i => s.set i (gdivD (s.getD i 0) (X.getD i 0))) d) l
      = gF d l / gF X l := by rw [hrg]; exact if_pos hl
  show _ = stage2 e (gF X) (e - 1) (stage1 e (gF X) (e - 1) (gF syn)) l / gF X l
  rw [hrl, ← hcg, ← hdg]
  rfl

theorem bpList_correct (roots syn : List Nat) (hnd : roots.Nodup)
    (hnz : ∀ r ∈ roots, r ≠ 0 ∧ r < 256) (hsyn : Bytes syn) (hlen : roots.length ≤ syn.length) :
    Bytes (bpList roots syn) ∧ ∀ j, j < roots.length →
      ∑ l ∈ Finset.range roots.length,
        gF (bpList roots syn) l * gF (roots.map (gdivD 1)) l ^ (j + 1) = gF syn j := by
  obtain ⟨hb, hv⟩ := bpList_bp roots syn hnd hnz hsyn hlen
  refine ⟨hb, fun j hj => ?_⟩
  have hXb : Bytes (roots.map (gdivD 1)) := bytes_map_gdivD 1 roots
  rw [← bp_correct roots.length (gF (roots.map (gdivD 1))) ?_ ?_ (gF syn) j hj]
  · exact Finset.sum_congr rfl fun l hl => by rw [hv l (Finset.mem_range.1 hl)]
  · intro i hi j hj h
    have h' := ofNat_inj (Bytes.getD hXb i) (Bytes.getD hXb j) h
    rcases Nat.lt_trichotomy i j with hij | hij | hij
    · exact absurd h' (inv_distinct roots hnd hnz i j hi hj hij)
    · exact hij
    · exact absurd h'.symm (inv_distinct roots hnd hnz j i hj hi hij)
  · intro i hi h
    exact inv_ne_zero roots hnz i hi ((GF.ofNat_eq_zero (Bytes.getD hXb i)).1 h)

theorem bjorckPereyra_correct (roots syn : List Nat) (hne : roots ≠ []) (hnd : roots.Nodup)
    (hnz : ∀ r ∈ roots, r ≠ 0 ∧ r < 256) (hsyn : Bytes syn) (hlen : roots.length ≤ syn.length) :
    Tot NoSite (bjorckPereyra roots syn) (fun p =>
      p.1 = roots.map (gdivD 1) ∧ Bytes p.2 ∧ p.2.length = syn.length ∧
      ∀ j, j < roots.length →
        ∑ l ∈ Finset.range roots.length, gF p.2 l * gF p.1 l ^ (j + 1) = gF syn j) := by
  rw [bjorckPereyra_eq roots syn hne hnd hnz hlen]
  obtain ⟨hb, hv⟩ := bpList_correct roots syn hnd hnz hsyn hlen
  exact ⟨rfl, hb, bpList_length roots syn, hv⟩

theorem bjorckPereyra_shape (roots syn : List Nat) (hne : roots ≠ []) (hnd : roots.Nodup)
    (hnz : ∀ r ∈ roots, r ≠ 0 ∧ r < 256) (hsyn : Bytes syn) (hlen : roots.length ≤ syn.length) :
    Tot NoSite (bjorckPereyra roots syn) (fun p =>
      p.1 = roots.map (gdivD 1) ∧ Bytes p.2 ∧ p.2.length = syn.length) := by
  rw [bjorckPereyra_eq roots syn hne hnd hnz hlen]
  exact ⟨rfl, (bpList_bp roots syn hnd hnz hsyn hlen).1, bpList_length roots syn⟩

theorem bjorckPereyra_one (z : Nat) (syn : List Nat) (hz : z ≠ 0) (hlen : 1 ≤ syn.length) :
    bjorckPereyra [z] syn = .ok ([gdivD 1 z], syn.set 0 (gdivD (syn.getD 0 0) (gdivD 1 z))) := by
  have hx : gdivD 1 z ≠ 0 := gdivD_ne_zero (by decide) hz
  rcases syn with _ | ⟨a, rest⟩
  · simp at hlen
  · unfold bjorckPereyra
    simp only [List.length_singleton, Nat.sub_self, List.range_zero, List.reverse_nil,
      List.forIn_nil, List.forIn_cons, div', gdiv_eq_some hz, List.range_one]
    simp only [bind, Except.bind, pure, Except.pure, Nat.one_ne_zero, if_false, at',
      List.getElem?_cons_zero, List.nil_append, List.getD_cons_zero, gdiv_eq_some hx]

/-! ### the Newton basis over `GF`, where subtraction is addition -/

open Finset

variable (x : ℕ → GF)

def q (i : ℕ) (y : GF) : GF := ∏ m ∈ range i, (y + x m)

theorem q_zero (y : GF) : q x 0 y = 1 := by simp [q]

theorem q_succ (i : ℕ) (y : GF) : q x (i + 1) y = q x i y * (y + x i) := prod_range_succ _ _

theorem q_self {l i : ℕ} (h : l < i) : q x i (x l) = 0 :=
  prod_eq_zero (mem_range.2 h) (GF.add_self _)

end DM.Lemmas.BP
