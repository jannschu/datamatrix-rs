import DM.Lemmas.PlanRun
import DM.Lemmas.C40Count
/-!
The invariant of a C40 / Text plan created at `p` with `w` codewords accounted for (`PInv`: normal operation, with the
look-ahead strike pre-accounting `2 * (u / 3)` codewords; `TDInv`: the two-digit ASCII end was chosen), its arithmetic
core `Counts`, and the two results the segments use: `plan_switch` (what `write_unlatch` accounts for and `switch_cost` charges at a planned
switch) and `plan_end` (the final `cost()`). The counts over the data (`NV`, `DigitExit`, `endExtra`) are in
`Lemmas/C40Count.lean`.
Namespace: `CoupleC40`.
-/
namespace DM.Lemmas.CoupleC40
open DM.Model DM.Model.Plan DM.Model.Enc DM.Lemmas.PlanInv DM.Lemmas.Couple DM.Lemmas.PlanStep

theorem strike_go_le (nice : Nat → Bool) : ∀ (l : List Nat) (cd reads : Nat),
    unbeatableStrike.go nice l cd reads ≤ reads + (l.takeWhile nice).length := by
  intro l
  induction l with
  | nil => intro cd reads; simp [unbeatableStrike.go]
  | cons ch t ih =>
    intro cd reads
    unfold unbeatableStrike.go
    by_cases hn : nice ch = true
    · simp only [hn, Bool.not_true, Bool.false_eq_true, ↓reduceIte, List.takeWhile_cons, List.length_cons]
      split
      · split
        · omega
        · have := ih (cd + 1) (reads + 1); omega
      · have := ih 0 (reads + 1); omega
    · simp only [hn, Bool.not_false, ↓reduceIte]; omega

theorem strike_le (nice : Nat → Bool) (l : List Nat) : unbeatableStrike nice l ≤ (l.takeWhile nice).length := by
  unfold unbeatableStrike
  have := strike_go_le nice l 0 0
  omega

theorem strike_mod (nice : Nat → Bool) (l : List Nat) : unbeatableStrike nice l % 3 = 0 := by
  unfold unbeatableStrike
  omega

theorem nice_next {nice : Nat → Bool} {body : List Nat} {a u : Nat}
    (h : u ≤ ((body.drop a).takeWhile nice).length) (hu : 0 < u) (ha : a < body.length) :
    nice body[a] = true ∧ u - 1 ≤ ((body.drop (a + 1)).takeWhile nice).length := by
  rw [List.drop_eq_getElem_cons ha, List.takeWhile_cons] at h
  by_cases hn : nice body[a] = true
  · rw [if_pos hn, List.length_cons] at h
    exact ⟨hn, by omega⟩
  · rw [if_neg hn, List.length_nil] at h
    omega

theorem twoDigit_self {q : C40P} (h : ¬ (q.ctx.rest.length = 2 ∧ twoDigitsComing q.ctx.rest = true)) :
    c40TwoDigit q = some q := by
  unfold c40TwoDigit
  split
  · rename_i a b hab
    rw [if_neg]
    intro hd
    exact h (by rw [hab]; exact ⟨rfl, hd⟩)
  · rfl

theorem twoDigit_two {q : C40P} (h1 : q.ctx.rest.length = 2) (h2 : twoDigitsComing q.ctx.rest = true) :
    c40TwoDigit q = (q.ctx.sizeLeft 1).map fun sl =>
      if sl ≤ 1 then { q with twoDigitAsciiEnd := true, unbeatableReads := 2, ctx := q.ctx.write (1 + sl) }
      else { q with twoDigitAsciiEnd := false } := by
  unfold c40TwoDigit
  split
  · rename_i a b hab
    rw [hab] at h2
    rw [if_pos (show (isDigit a && isDigit b) = true from h2)]
    cases q.ctx.sizeLeft 1 with
    | none => rfl
    | some sl =>
      simp only [Option.map_some]
      split
      · subst sl; rfl
      · split
        · subst sl; rfl
        · rw [if_neg (by omega), decide_eq_false (by omega)]
  · rename_i hne
    match hr : q.ctx.rest, h1 with
    | [a, b], _ => exact absurd hr (hne a b)

/-- `N` values so far, `v` of them buffered, `u` reads of the current strike outstanding, `w` codewords before the
plan: `N / 3` triples are paid for; the triples the strike completes are accounted for when it is found -/
structure Counts (w N v u c wr : Nat) : Prop where
  vals : v = N % 3
  cost : c = 24 * (N / 3)
  written : wr = w + 2 * (N / 3) + 2 * ((v + u) / 3)
  strike : u = 0 ∨ (v + u) % 3 = 0

theorem Counts.look {w N c wr u : Nat} (h : Counts w N 0 0 c wr) (hu : u % 3 = 0) :
    Counts w N 0 u c (wr + u / 3 * 2) := by
  obtain ⟨h1, h2, h3, _⟩ := h
  refine ⟨h1, h2, ?_, Or.inr (by rw [Nat.zero_add]; exact hu)⟩
  rw [h3, Nat.zero_add, Nat.zero_add, Nat.zero_div, Nat.mul_zero, Nat.add_zero, Nat.mul_comm (u / 3)]

theorem Counts.read_strike {w N v u c wr : Nat} (h : Counts w N v (u + 1) c wr) :
    Counts w (N + 1) ((v + 1) % 3) u (c + 24 * ((v + 1) / 3)) wr := by
  obtain ⟨rfl, rfl, rfl, h4⟩ := h
  have h5 : (N % 3 + 1 + u) % 3 = 0 := by omega
  refine ⟨Nat.mod_add_mod N 3 1, ?_, ?_, Or.inr ?_⟩
  · rw [div3_add N 1, Nat.mul_add]
  · -- the triple completed now, if any, was accounted for with the strike
    rw [div3_add N 1, ← Nat.add_assoc (N % 3) u 1, Nat.add_right_comm (N % 3) u 1, div3_add (N % 3 + 1) u]
    omega
  · rw [Nat.mod_add_mod]
    exact h5

theorem Counts.read_plain {w N v c wr : Nat} (h : Counts w N v 0 c wr) (s : Nat) :
    Counts w (N + s) ((v + s) % 3) 0 (c + 24 * ((v + s) / 3)) (wr + 2 * ((v + s) / 3)) := by
  obtain ⟨rfl, rfl, rfl, _⟩ := h
  have hv : N % 3 < 3 := Nat.mod_lt _ (by decide)
  have hv' : (N % 3 + s) % 3 < 3 := Nat.mod_lt _ (by decide)
  refine ⟨Nat.mod_add_mod N 3 s, ?_, ?_, Or.inl rfl⟩
  · rw [div3_add N s, Nat.mul_add]
  · rw [div3_add N s, Nat.add_zero, Nat.add_zero, Nat.div_eq_of_lt hv, Nat.div_eq_of_lt hv']
    omega

theorem Counts.rest {w N v c wr : Nat} (h : Counts w N v 0 c wr) : wr = w + 2 * (N / 3) := by
  obtain ⟨rfl, _, rfl, _⟩ := h
  rw [Nat.add_zero, Nat.div_eq_of_lt (Nat.mod_lt _ (by decide)), Nat.mul_zero, Nat.add_zero]

section Planner
variable (text : Bool) (body : List Nat) (list : List Sym) (p w : Nat)

structure PInv (j : Nat) (q : C40P) : Prop where
  ctx : CtxAt body list (p + j) q.ctx
  txt : q.text = text
  td : q.twoDigitAsciiEnd = false
  vals : q.values = NV text body p j % 3
  cost : q.cost = 24 * (NV text body p j / 3)
  written : q.ctx.written = w + 2 * (NV text body p j / 3) + 2 * ((q.values + q.unbeatableReads) / 3)
  strike : q.unbeatableReads = 0 ∨ (q.values + q.unbeatableReads) % 3 = 0
  nice : q.unbeatableReads ≤ ((body.drop (p + j)).takeWhile (c40InBase text)).length
  ch : 0 < j → q.ch = body.getD (p + j - 1) 0

/-- the two-digit ASCII end was chosen at `j0` (two digits left, at a triple boundary, at most one
codeword of room after the UNLATCH) -/
structure TDInv (j : Nat) (q : C40P) : Prop where
  ctx : CtxAt body list (p + j) q.ctx
  txt : q.text = text
  td : q.twoDigitAsciiEnd = true
  vals : q.values = 1
  ex : ∃ j0 sp, DigitExit text body p j0 ∧
        ((j = j0 + 1 ∧ q.unbeatableReads = 1) ∨ (j = j0 + 2 ∧ q.unbeatableReads = 0)) ∧
        q.cost = 24 * (NV text body p j0 / 3) ∧
        szLeft list (w + 2 * (NV text body p j0 / 3) + 1) = some sp ∧ sp ≤ 1
  ch : q.ch = body.getD (p + j - 1) 0

def Inv (j : Nat) (q : C40P) : Prop := PInv text body list p w j q ∨ TDInv text body list p w j q

variable {text body list p w}

theorem PInv.counts {j : Nat} {q : C40P} (h : PInv text body list p w j q) :
    Counts w (NV text body p j) q.values q.unbeatableReads q.cost q.ctx.written :=
  ⟨h.vals, h.cost, h.written, h.strike⟩

theorem init_u0 {q q1 : C40P} (h : c40Init q = some q1) (h0 : q1.unbeatableReads = 0) : q.unbeatableReads = 0 := by
  unfold c40Init at h
  split at h
  · rename_i hc; exact hc.2
  · cases h; exact h0

theorem init_none {q : C40P} (h : c40Init q = none) : q.unbeatableReads = 0 := by
  unfold c40Init at h
  split at h
  · rename_i hc; exact hc.2
  · cases h

theorem init_self {q : C40P} (h : ¬ (q.values = 0 ∧ q.unbeatableReads = 0)) : c40Init q = some q := by
  rw [c40Init, if_neg h]

theorem strike_spec {j : Nat} {q : C40P} (h : PInv text body list p w j q) (hv : q.values = 0)
    (hu : q.unbeatableReads = 0) : PInv text body list p w j (c40Strike q) := by
  have hc := h.counts
  rw [hv, hu] at hc
  have hm := strike_mod (c40InBase q.text) q.ctx.rest
  have hl := strike_le (c40InBase q.text) q.ctx.rest
  rw [h.txt, rest_eq h.ctx] at hm hl
  have hc' := hc.look hm
  unfold c40Strike
  simp only [h.td, Bool.not_false, ↓reduceIte]
  rw [h.txt, rest_eq h.ctx]
  exact ⟨ctxAt_write h.ctx _, rfl, rfl, h.vals, h.cost, hv ▸ hc'.written, hv ▸ hc'.strike, hl, h.ch⟩

theorem init_spec {j : Nat} {q q1 : C40P} (h : PInv text body list p w j q) (hi : c40Init q = some q1) :
    PInv text body list p w j q1 ∨
    ∃ sp, DigitExit text body p j ∧ szLeft list (w + 2 * (NV text body p j / 3) + 1) = some sp ∧ sp ≤ 1 ∧
      q1 = { q with twoDigitAsciiEnd := true, unbeatableReads := 2, ctx := q.ctx.write (1 + sp) } := by
  unfold c40Init at hi
  split at hi
  · rename_i hc
    obtain ⟨hv, hu⟩ := hc
    by_cases h2 : q.ctx.rest.length = 2 ∧ twoDigitsComing q.ctx.rest = true
    · have hwr : q.ctx.written = w + 2 * (NV text body p j / 3) := by
        have hc := h.counts
        rw [hv, hu] at hc
        exact hc.rest
      rw [twoDigit_two h2.1 h2.2, ctx_sizeLeft, h.ctx.2.1, hwr] at hi
      rw [rest_eq h.ctx, List.length_drop] at h2
      cases hsz : szLeft list (w + 2 * (NV text body p j / 3) + 1) with
      | none => rw [hsz] at hi; cases hi
      | some sp =>
        rw [hsz] at hi
        simp only [Option.map_some, Option.some.injEq] at hi
        subst hi
        by_cases hsp : sp ≤ 1
        · rw [if_pos hsp]
          exact Or.inr ⟨sp, ⟨by omega, h2.2, by rw [← h.vals]; exact hv⟩, rfl, hsp, rfl⟩
        · rw [if_neg hsp, show ({ q with twoDigitAsciiEnd := false } : C40P) = q by rw [← h.td]]
          exact Or.inl (strike_spec h hv hu)
    · rw [twoDigit_self h2] at hi
      cases hi
      exact Or.inl (strike_spec h hv hu)
  · cases hi
    exact Or.inl h

theorem peek_at {c : Ctx} {a : Nat} (h : CtxAt body list a c) (ha : a < body.length) : c.peek = body[a] := by
  rw [peek_eq h]; simp [List.getD, List.getElem?_eq_getElem ha]

theorem getD_pred (j : Nat) (ha : p + j < body.length) : body.getD (p + (j + 1) - 1) 0 = body[p + j] := by
  simp [List.getD, List.getElem?_eq_getElem ha, show p + (j + 1) - 1 = p + j from rfl]

theorem step_normal {j : Nat} {q q1 q' : C40P} {r : StepResult} (h1 : PInv text body list p w j q1)
    (hi : c40Init q = some q1) (hm : q1.ctx.hasMore = true) (hs : c40Step q = some (q', r)) :
    PInv text body list p w (j + 1) q' := by
  have hlt : p + j < body.length := by simpa [hasMore_iff h1.ctx] using hm
  have hpk := peek_at h1.ctx hlt
  have hc := h1.counts
  have hv : q1.values ≤ 2 := h1.vals ▸ Nat.le_of_lt_succ (Nat.mod_lt _ (by decide))
  rw [c40Step_read hi hm hv, Option.some.injEq, Prod.mk.injEq] at hs
  obtain ⟨rfl, _⟩ := hs
  by_cases hu : 0 < q1.unbeatableReads
  · -- inside a strike: the character is in the base set, one value
    obtain ⟨hnice, hn'⟩ := nice_next h1.nice hu hlt
    have hnv := NV_succ text body p j hlt
    rw [valSize_base text _ hnice] at hnv
    rw [← Nat.sub_add_cancel hu] at hc
    have hc' := hc.read_strike
    rw [← hnv] at hc'
    simp only [hu, ↓reduceIte, h1.td, true_or]
    exact ⟨ctxAt_eat h1.ctx, h1.txt, rfl, hc'.vals, hc'.cost, hc'.written, hc'.strike, hn', fun _ =>
      hpk.trans (getD_pred j hlt).symm⟩
  · have hu0 : q1.unbeatableReads = 0 := by omega
    rw [hu0] at hc
    have hc' := hc.read_plain (c40ValSize text body[p + j])
    rw [← NV_succ text body p j hlt] at hc'
    simp only [hu0, Nat.lt_irrefl, ↓reduceIte, h1.txt, hpk]
    exact ⟨ctxAt_write (ctxAt_eat h1.ctx) _, rfl, h1.td, hc'.vals, hc'.cost, hc'.written, hc'.strike, Nat.zero_le _,
      fun _ => (getD_pred j hlt).symm⟩

theorem step_inv {j : Nat} {q q' : C40P} {r : StepResult} (h : Inv text body list p w j q)
    (hs : c40Step q = some (q', r)) (he : r.end = false) : Inv text body list p w (j + 1) q' := by
  obtain ⟨q1, hi, hr⟩ := c40Step_some hs
  have hm : q1.ctx.hasMore = true := by rw [hr] at he; simpa using he
  rcases h with h | h
  · rcases init_spec h hi with h1 | ⟨sp, hde, hsz, hsp, rfl⟩
    · exact Or.inl (step_normal h1 hi hm hs)
    · -- the two-digit ASCII end is chosen here: a strike of two reads that produce one value
      have hlt : p + j < body.length := by have := hde.1; omega
      have hc1 : CtxAt body list (p + j) (q.ctx.write (1 + sp)) := ctxAt_write h.ctx _
      have hv0 : q.values = 0 := by rw [h.vals]; exact hde.2.2
      rw [c40Step_read hi hm (by simp only [hv0]; omega), Option.some.injEq, Prod.mk.injEq] at hs
      obtain ⟨rfl, _⟩ := hs
      simp only [hv0, Nat.zero_lt_succ, ↓reduceIte, or_true]
      exact Or.inr ⟨ctxAt_eat hc1, h.txt, rfl, rfl,
        ⟨j, sp, hde, Or.inl ⟨rfl, rfl⟩, h.cost, hsz, hsp⟩,
        (peek_at hc1 hlt).trans (getD_pred j hlt).symm⟩
  · obtain ⟨t1, t2, t3, t4, ⟨j0, sp, hde, e2, e5, e6, e7⟩, t5⟩ := h
    rw [init_self (by omega), Option.some.injEq] at hi
    subst hi
    have hlt : p + j < body.length := by simpa [hasMore_iff t1] using hm
    rcases e2 with ⟨ej, eu⟩ | ⟨ej, eu⟩
    · rw [c40Step_read (init_self (by omega)) hm (by omega), Option.some.injEq, Prod.mk.injEq] at hs
      obtain ⟨rfl, _⟩ := hs
      simp only [eu, t3, t4, Nat.lt_add_one, ↓reduceIte, Bool.true_eq_false, Nat.one_ne_zero, or_self]
      exact Or.inr ⟨ctxAt_eat t1, t2, rfl, rfl, ⟨j0, sp, hde, Or.inr ⟨by omega, rfl⟩, e5, e6, e7⟩,
        (peek_at t1 hlt).trans (getD_pred j hlt).symm⟩
    · have := hde.1
      omega

end Planner

theorem newPlan_c40 (text : Bool) (ctx : Ctx) :
    newPlan (cmode text) ctx = .c40 { ctx, text := text, values := 0, unbeatableReads := 0, ch := 0,
                                      twoDigitAsciiEnd := false, cost := 0 } := by
  cases text <;> rfl

theorem inv_init (text : Bool) (body : List Nat) (list : List Sym) (p w : Nat) :
    Inv text body list p w 0 { ctx := ctxAt body list p w, text := text, values := 0, unbeatableReads := 0, ch := 0,
                               twoDigitAsciiEnd := false, cost := 0 } :=
  Or.inl ⟨⟨rfl, rfl, rfl⟩, rfl, rfl, by simp [NV_zero], by simp [NV_zero], by simp [NV_zero, ctxAt], Or.inl rfl,
    Nat.zero_le _, fun h => absurd h (Nat.lt_irrefl 0)⟩

theorem plan_run (text : Bool) (body : List Nat) (list : List Sym) (p w k : Nat) (g0 gk : GPlan) (hp : p ≤ body.length)
    (h0 : g0.plan = newPlan (cmode text) (ctxAt body list p w)) (hst : StepsTo k g0 gk) :
    ∃ qk, gk.plan = .c40 qk ∧ gk.extra = g0.extra ∧ Inv text body list p w k qk := by
  obtain ⟨⟨qk, d1, d3⟩, _, d2⟩ := CoupleSeg.fresh_inv (I := fun t pl => ∃ q, pl = .c40 q ∧ Inv text body list p w t q)
    (fun t g g1 r _ _ ⟨q, hq, hi⟩ h1 h2 => by
      obtain ⟨_, _, q1, c1, c2⟩ := hq ▸ gstep_cases h1
      exact ⟨q1, c2, step_inv hi c1 h2⟩)
    hp h0 ⟨_, newPlan_c40 .., inv_init text body list p w⟩ hst
  exact ⟨qk, d1, d2, d3⟩

theorem switchPoint_u0 {g : GPlan} {q : C40P} (hp : g.plan = .c40 q) (h : SwitchPoint g) : q.unbeatableReads = 0 := by
  rcases h with h | ⟨g', r, h, hu, _⟩
  · have hn := gstep_none h
    rw [hp] at hn
    exact init_none (c40Step_none hn)
  · obtain ⟨_, _, q', hc, _⟩ := hp ▸ gstep_cases h
    obtain ⟨q1, hi, rfl⟩ := c40Step_some hc
    exact init_u0 hi (by simpa using hu)

theorem unlatch_switch {q : C40P} {ctx' : Ctx} {w t e : Nat} (hv : q.values ≤ 2) (hc : q.cost = 24 * t)
    (hw : q.ctx.written = w + 2 * t) (h : c40Unlatch q = .ok ctx') :
    ctx'.written = w + 2 * t + (if q.values = 0 then 1 else 3) ∧
    c40SwitchCost q + e = e + 12 * (ctx'.written - w) := by
  unfold c40Unlatch at h
  unfold c40SwitchCost
  by_cases h0 : q.values = 0
  · rw [if_neg (Nat.not_lt.mpr (Nat.le_of_eq h0))] at h
    cases h
    simp only [h0, ↓reduceIte, Ctx.write]
    omega
  · rw [if_pos (Nat.pos_of_ne_zero h0), if_neg (Nat.not_lt.mpr hv)] at h
    cases h
    simp only [h0, ↓reduceIte, Ctx.write]
    omega

theorem plan_switch (text : Bool) (body : List Nat) (list : List Sym) (p w k : Nat) (g0 gk : GPlan) (ac : Nat)
    (ctx' : Ctx) (hlt : p + k < body.length) (hk : 1 ≤ k)
    (h0 : g0.plan = newPlan (cmode text) (ctxAt body list p w))
    (hst : StepsTo k g0 gk) (hsp : SwitchPoint gk) (hsc : gk.switchCost = some ac) (hun : gk.unlatch = .ok ctx') :
    ctx'.written = w + 2 * (NV text body p k / 3) + (if NV text body p k % 3 = 0 then 1 else 3) ∧
    ac = g0.extra + 12 * (ctx'.written - w) ∧ 1 ≤ NV text body p k := by
  obtain ⟨qk, d1, d2, d3⟩ := plan_run text body list p w k g0 gk (by omega) h0 hst
  have hu0 := switchPoint_u0 d1 hsp
  rcases d3 with d3 | ⟨_, _, _, _, ⟨j0, sp, hde, e2, _⟩, _⟩
  · have hc := d3.counts
    rw [hu0] at hc
    rw [GPlan.switchCost, d1, Option.some.injEq] at hsc
    rw [GPlan.unlatch, d1] at hun
    have hv : qk.values ≤ 2 := hc.vals ▸ Nat.le_of_lt_succ (Nat.mod_lt _ (by decide))
    obtain ⟨u1, u2⟩ := unlatch_switch (e := gk.extra) hv hc.cost hc.rest hun
    rw [hc.vals] at u1
    rw [hsc, d2] at u2
    exact ⟨u1, u2, Nat.le_trans hk (NV_ge text body p k (Nat.le_of_lt hlt))⟩
  · -- the two-digit end is chosen only with two characters left
    have := hde.1
    omega

theorem c40Cost_end (q : C40P) (h : q.ctx.hasMore = false) :
    c40Cost q = q.cost + endExtra q.ctx.list q.ctx.written q.values q.ch * 12 := by
  unfold c40Cost endExtra
  simp only [h, Bool.false_eq_true, ↓reduceIte, ctx_sizeLeft]
  rfl

theorem cost_end {q : C40P} {t : Nat} (e : Nat) (h : q.ctx.hasMore = false) (hc : q.cost = 24 * t) :
    e + c40Cost q = e + 12 * (2 * t + endExtra q.ctx.list q.ctx.written q.values q.ch) := by
  have := c40Cost_end q h
  omega

theorem plan_end (text : Bool) (body : List Nat) (list : List Sym) (p w k : Nat) (g0 gk gE : GPlan) (r : StepResult)
    (hpk : p + k = body.length) (hk : 1 ≤ k)
    (h0 : g0.plan = newPlan (cmode text) (ctxAt body list p w))
    (hst : StepsTo k g0 gk) (hstep : gk.step = .ok (some (gE, r))) :
    (gE.cost = g0.extra + 12 * (2 * (NV text body p k / 3) +
        endExtra list (w + 2 * (NV text body p k / 3)) (NV text body p k % 3) (body.getD (body.length - 1) 0))) ∨
    (∃ j0 sp X, k = j0 + 2 ∧ DigitExit text body p j0 ∧
      szLeft list (w + 2 * (NV text body p j0 / 3) + 1) = some sp ∧ sp ≤ 1 ∧ (X = 1 ∨ X = 2) ∧
      gE.cost = g0.extra + 12 * (2 * (NV text body p j0 / 3) + X)) := by
  obtain ⟨qk, d1, d2, d3⟩ := plan_run text body list p w k g0 gk (by omega) h0 hst
  obtain ⟨e3, _, qE, e1, e2⟩ := d1 ▸ gstep_cases hstep
  obtain ⟨q1, hi, _⟩ := c40Step_some e1
  have hcost : gE.cost = g0.extra + c40Cost qE := by rw [GPlan.cost, e2, e3, d2]
  have hend {c : Ctx} (hc : CtxAt body list (p + k) c) : c.hasMore = false := by
    rw [hasMore_iff hc, hpk]; simp
  have hk1 : p + k - 1 = body.length - 1 := by rw [hpk]
  rcases d3 with d3 | ⟨t1, _, _, t4, ⟨j0, sp, hde, x2, x5, x6, x7⟩, t5⟩
  · rcases init_spec d3 hi with h1 | ⟨_, hde, _⟩
    · have hm := hend h1.ctx
      rw [c40Step_end hi hm, Option.some.injEq, Prod.mk.injEq] at e1
      obtain ⟨rfl, _⟩ := e1
      have hu : q1.unbeatableReads = 0 := by
        have := h1.nice
        rw [hpk, List.drop_eq_nil_of_le (Nat.le_refl _)] at this
        exact Nat.le_zero.mp this
      have hc := h1.counts
      rw [hu] at hc
      left
      rw [hcost, cost_end _ hm hc.cost, h1.ctx.2.1, hc.rest, hc.vals, h1.ch hk, hk1]
    · have := hde.1
      omega
  · have hne : ¬ (qk.values = 0 ∧ qk.unbeatableReads = 0) := fun h => by rw [t4] at h; cases h.1
    rw [init_self hne, Option.some.injEq] at hi
    subst hi
    have hm := hend t1
    rw [c40Step_end (init_self hne) hm, Option.some.injEq, Prod.mk.injEq] at e1
    obtain ⟨rfl, _⟩ := e1
    obtain rfl : k = j0 + 2 := by have := hde.1; omega
    have hch : asciiSize [qk.ch] = 1 := by
      have hdig := (two_digits_last hde.1 hde.2.1).2
      rw [t5, show p + (j0 + 2) - 1 = p + j0 + 1 from rfl]
      simp only [isDigit, Bool.and_eq_true, decide_eq_true_eq] at hdig
      rw [asciiSize, if_pos (Nat.le_trans hdig.2 (by decide))]
    refine Or.inr ⟨j0, sp, _, rfl, hde, x6, x7, ?_, by rw [hcost, cost_end _ hm x5]⟩
    rw [endExtra, t4, if_neg (by decide), if_pos rfl, hch]
    split <;> simp

theorem switchPlan_cmode (text : Bool) : CoupleSeg.SwitchPlan (cmode text) := by
  intro body list p w k g0 gk ac ctx' hlt hk h0 hst hsp hsc hun
  obtain ⟨h1, h2, h3⟩ := plan_switch text body list p w k g0 gk ac ctx' hlt
    (hk.resolve_right (by cases text <;> decide)) h0 hst hsp hsc hun
  have hN := NV_ge text body p k (by omega)
  generalize NV text body p k = N at h1 h3 hN
  refine ⟨h2, ?_, fun _ => ?_, ?_⟩ <;> split at h1 <;> omega

theorem endPlan_cmode (text : Bool) : CoupleSeg.EndPlan (cmode text) := by
  intro body list p w k g0 gk gE r hpk hk h0 hst hstep _
  rcases plan_end text body list p w k g0 gk gE r hpk hk h0 hst hstep with h | ⟨j0, sp, X, hj, hd, _, _, hX, h⟩
  · have hN := NV_ge text body p k (by omega)
    have hE := endExtra_ge list (w + 2 * (NV text body p k / 3)) (NV text body p k % 3)
      (body.getD (body.length - 1) 0) (by omega)
    generalize endExtra _ _ _ _ = E at h hE
    generalize NV text body p k = N at h hN hE
    omega
  · obtain ⟨d1, _, d3⟩ := hd
    have hN := NV_ge text body p j0 (by omega)
    generalize NV text body p j0 = N at h hN d3
    omega

end DM.Lemmas.CoupleC40
