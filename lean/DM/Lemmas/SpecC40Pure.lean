import DM.Lemmas.SpecC40Gen
import DM.Lemmas.SpecC40Enc
import DM.Lemmas.SpecAscii
import DM.Lemmas.SpecPureSeg
/-
A message planned entirely in C40 / Text, behind any prefix codewords `pre`: the stream the encoder writes
(`run_c40_shape`, over `C40Gen.c40Encode_gen` and `SpecPure.pure_seg_shape`) and the reference decoder's run on it
(`spec_run_c40`, over `SpecPure.spec_run_seg`). Continues the namespace of SpecC40.lean: it is the part of that toolkit that needs
the analysis for arbitrary plans.
-/
namespace DM.Lemmas.SpecC40
open DM.Model DM.Lemmas.AsciiRT DM.Lemmas.SpecStep DM.Lemmas.Complete
open DM.Spec.Stream
open DM.Spec.Build (packTriples c40Vals)
open DM.Lemmas.C40RT (latchOf modeOf)
open DM.Lemmas.SpecC40Gen (C40Tail SpecSegC40 specSegC40_pack dec_c40)

/-- The stream `cw` of a message `body` planned entirely in C40 / Text: the latch, `n` pairs of codewords packing
the values `V` of the first `p` characters, UNLATCH or not (`un`), the remaining characters in ASCII: `L` codewords
in all; then padding. -/
structure PureC40 (text : Bool) (pre body cw : List Nat) (cap : Nat) (V : List Nat) (n p : Nat) (un : Bool) (L : Nat) :
    Prop where
  len : V.length = 3 * n
  lt : ∀ v ∈ V, v < 40
  vals : ∃ cst, cvals text V {} = .ok (cst, body.take p)
  ple : p ≤ body.length
  near : body.length ≤ p + 2
  L_eq : L = pre.length + 1 + 2 * n + (if un then 1 else 0) + (asciiEnc (body.drop p)).length
  size : cw.length = cap
  take : cw.take L = pre ++ latchOf text :: packTriples V ++ (if un then [254] else []) ++ asciiEnc (body.drop p)
  exact : un = false → L = cap ∧ (asciiEnc (body.drop p)).length ≤ 1
  padded : Pads.Padded cw L
  bytes : ByteList body

open DM.Model.Enc DM.Lemmas.EncRT DM.Lemmas.C40Gen DM.Lemmas.SpecPure in
/-- No hypothesis on the message: a run
that succeeds has only seen bytes (`to_vals` fails on anything else; in the crate the input is `u8`). -/
theorem run_c40_shape (text : Bool) (list : List Sym) (pre body cw : List Nat) (sym : Sym) (hne : body ≠ [])
    (h : Enc.run list pre body [(body.length, modeOf text), (0, modeOf text)] = .ok (cw, sym)) :
    ∃ V n p un L, PureC40 text pre body cw (dataCw sym) V n p un L := by
  obtain ⟨s3, sE, k, he2, hm2, hsym, hpad⟩ :=
    pure_run_start list pre body cw sym (modeOf text) (latchOf text) hne (by cases text <;> rfl) h
  have henc : c40Encode text (entered list pre body (modeOf text) (latchOf text)) = .ok s3 := by
    cases text <;> exact he2
  obtain ⟨hb, _, hpos2, hnm3, hkey⟩ := DM.Lemmas.SpecC40Enc.c40Loop_bytes text (modeOf text) _
    (entered list pre body (modeOf text) (latchOf text)) [] 0 s3 rfl rfl (Nat.zero_le _) henc
  have hb : ByteList body := fun b hbm => hb b hbm
  obtain ⟨X, p, un, L, ⟨V, n, hVl, hVlt, hvals, rfl⟩, hpos3, hp, hL, hsize, htake, hfull, hpd⟩ :=
    pure_seg_shape
      (DM.Lemmas.MainRT.c40_to_TEndP text
        (fun X b => ∃ V n, V.length = 3 * n ∧ (∀ v ∈ V, v < 40) ∧ (∃ cst, cvals text V {} = .ok (cst, b)) ∧ X = packTriples V)
        (fun n V _ _ hVl hVlt hdec => ⟨V, n, hVl, hVlt, ⟨_, values_bridge_run text hdec⟩, rfl⟩) list body 0 pre s3
        (c40Encode_gen text list body hb 0 pre _ s3 rfl rfl rfl (Nat.zero_le _) rfl rfl rfl
          (planOKE_zero body (modeOf text) _ (by simp [entered])) henc))
      hnm3 (fun hA => (hkey.resolve_left fun q => by rw [q.1] at hA; cases text <;> cases hA).2) hm2 hsym hpad
  rw [hpos3] at hpos2
  rw [packTriples_length n V hVl] at hL
  exact ⟨V, n, p, un, L, hVl, hVlt, hvals, hp, hpos2, hL, hsize, htake, hfull, hpd, hb⟩

theorem spec_run_c40 {text : Bool} {pre cwl body V : List Nat} {cap n p : Nat} {un : Bool} {L : Nat}
    (sh : PureC40 text pre body cwl cap V n p un L) :
    ∃ sF, run cwl.toArray (3 * cwl.length + 4) { i := pre.length } = .ok sF ∧
      sF.out = body.toArray ∧
      sF.trace = Array.replicate p (cmode text) ++ Array.replicate (body.length - p) .ascii ∧
      sF.latches = #[(pre.length, cmode text)] ∧ sF.ecis = #[] ∧
      sF.padAt = (if L = cwl.length then none else some L) := by
  obtain ⟨hVl, hVlt, ⟨cst, hv⟩, hp, _, hL, hsize, htake, hun, hpd, hb⟩ := sh
  subst hsize
  have hpl := packTriples_length n V hVl
  exact DM.Lemmas.SpecPure.spec_run_seg (Q := SpecSegC40 text) (cmode text) (latchOf text) (C40Tail text) (fun _ _ => .unlatch)
    (fun _ _ c hc hsz => .single c hc hsz) (fun _ _ hsz => .exact hsz) (fun hseg => dec_c40 text hseg) hb
    (specSegC40_pack text n V cst (body.take p) hVl hVlt hv) hp (by rw [hpl]; exact hL) htake hun hpd

end DM.Lemmas.SpecC40
