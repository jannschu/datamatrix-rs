import DM.Lemmas.LDTotal
import DM.Lemmas.BPCorrect
import DM.Props.C09
import DM.Lemmas.RSBlockwise
import DM.Lemmas.CorrectParts
import DM.Lemmas.ChienSpec
/-
Soundness of the correction of one block (`correctBlock`, `decodeBlock`): if it answers Ok, all
syndromes of the block it leaves behind vanish.  The Chien search returns roots of the locator;
together with the malfunction test the locator's recurrence holds on every window of the syndromes
(`LD.levinsonDurbin_spec` gives the first `t`); the solver's values satisfy the first `v` power-sum
equations (`BP.bpList_correct`), hence all of them (`recurrence_extend`, `power_sums_of_locator`); each
correction adds its term to every syndrome (`synd_update`), so the corrected block has none left, and
changes one place, one per root of a locator of degree at most ⌊k/2⌋ (`correctBlock_post`).
Namespace: `RSSound`.
-/
namespace DM.Lemmas.RSSound
open DM.Model DM.Model.RS DM.Lemmas DM.Lemmas.RSTotal

abbrev Post {α} (x : R α) (P : α → Prop) : Prop := Safe (fun _ => True) x P

theorem Post_of_ok {α} {x : R α} {P : α → Prop} (h : ∀ a, x = .ok a → P a) : Post x P := by
  cases x with
  | ok a => exact h a rfl
  | error e => cases e <;> trivial

theorem window_snoc (syn w : List Nat) (j : Nat) :
    window syn (w ++ [1]) j
      = ∑ i ∈ Finset.range w.length, gf syn (j + i) * gf w i + gf syn (j + w.length) := by
  unfold window
  rw [List.length_append, List.length_singleton]
  exact LD.H_snoc_one syn w w.length j rfl

/-- a root `r` of the polynomial the Chien search evaluates (`[w, 1]` read from the leading
coefficient down) is the inverse of a root of the locator `Σ_i w_i·X^i + X^v` -/
theorem locator_at_inverse (w : List Nat) (r : GF) (hr : r ≠ 0)
    (h : evalH (toG (w ++ [1])) r = 0) :
    ∑ i ∈ Finset.range w.length, gf w i * r⁻¹ ^ i + r⁻¹ ^ w.length = 0 := by
  rw [evalH_toG_reflect _ w.length List.length_append r hr, mul_eq_zero, Finset.sum_range_succ] at h
  rw [← h.resolve_left (pow_ne_zero _ hr)]
  congr 1
  · exact Finset.sum_congr rfl fun i hi => by
      rw [← gf_append_left (l₂ := [1]) (Finset.mem_range.mp hi)]; rfl
  · rw [show GF.ofNat _ = gf (w ++ [1]) w.length from rfl, gf_snoc_one, one_mul]

/-- two sequences with the same order-`v` recurrence that agree on the first `v` terms agree -/
theorem recurrence_extend (s lam X e : ℕ → GF) (v k : ℕ)
    (hX : ∀ l, l < v → ∑ i ∈ Finset.range v, lam i * X l ^ i + X l ^ v = 0)
    (hwin : ∀ j, j + v < k → ∑ i ∈ Finset.range v, s (j + i) * lam i + s (j + v) = 0)
    (hbp : ∀ j, j < v → ∑ l ∈ Finset.range v, e l * X l ^ (j + 1) = s j) :
    ∀ j, j < k → ∑ l ∈ Finset.range v, e l * X l ^ (j + 1) = s j := by
  intro j
  induction j using Nat.strong_induction_on with
  | _ j ih =>
    intro hj
    by_cases hjv : j < v
    · exact hbp j hjv
    · obtain ⟨j', rfl⟩ : ∃ j', j = j' + v := ⟨j - v, (Nat.sub_add_cancel (Nat.le_of_not_lt hjv)).symm⟩
      -- the power sums obey the recurrence because the `X l` are roots (`Locator.window_eq`); below `j' + v` they are `s`
      have h := Locator.window_eq (Finset.range v) e X lam v j'
      rw [Finset.sum_congr rfl fun i hi => by
        rw [show Locator.synd (Finset.range v) e X (j' + i) = s (j' + i) from
          ih _ (Nat.add_lt_add_left (Finset.mem_range.mp hi) j') (by have := Finset.mem_range.mp hi; omega)],
        GF.eq_of_add_eq_zero (hwin j' hj)] at h
      rw [h]
      refine Finset.sum_congr rfl fun l hl => ?_
      rw [GF.eq_of_add_eq_zero (hX l (Finset.mem_range.mp hl)), mul_assoc, ← pow_add, Nat.add_comm v, Nat.add_right_comm]

theorem evalH_set_mid (pre suf : List Nat) (old err : Nat) (x : GF) :
    evalH (toG ((pre ++ old :: suf).set pre.length (gadd old err))) x
      = evalH (toG (pre ++ old :: suf)) x + GF.ofNat err * x ^ suf.length := by
  have h1 : (pre ++ old :: suf).set pre.length (gadd old err) = pre ++ gadd old err :: suf := by
    rw [List.set_append_right _ _ (Nat.le_refl _), Nat.sub_self]; rfl
  have h2 : ∀ a, toG (pre ++ a :: suf) = toG pre ++ GF.ofNat a :: toG suf := by
    intro a; simp [toG]
  have h3 : (toG suf).length = suf.length := by simp [toG]
  rw [h1, h2, h2, evalH_append, evalH_append, evalH_cons, evalH_cons, GF.ofNat_xor, h3]
  simp only [List.length_cons]
  ring

theorem evalH_set_add (l : List Nat) (pos err : Nat) (hp : pos < l.length) (x : GF) :
    evalH (toG (l.set pos (gadd (l.getD pos 0) err))) x
      = evalH (toG l) x + GF.ofNat err * x ^ (l.length - 1 - pos) := by
  have hl : l = l.take pos ++ l.getD pos 0 :: l.drop (pos + 1) := by
    rw [getD_of_lt _ _ hp, List.getElem_cons_drop, List.take_append_drop]
  have hlen : (l.take pos).length = pos := by rw [List.length_take]; omega
  have := evalH_set_mid (l.take pos) (l.drop (pos + 1)) (l.getD pos 0) err x
  rw [← hl, hlen, List.length_drop] at this
  rw [this, Nat.sub_add_eq, Nat.sub_right_comm]

def synd (l : List Nat) (j : Nat) : GF := evalH (toG l) (α ^ (j + 1))

/-- contribution of the correction `err` at the location `loc` to the `j`-th syndrome -/
def corrTerm (j : Nat) (x : Nat × Nat) : GF := GF.ofNat x.2 * GF.ofNat x.1 ^ (j + 1)

theorem synd_update (l : List Nat) (loc err j : Nat) (hloc : loc ≠ 0) (hlb : loc < 256)
    (hi : glog loc < l.length) :
    synd (l.set (l.length - glog loc - 1) (gadd (l.getD (l.length - glog loc - 1) 0) err)) j
      = synd l j + corrTerm j (loc, err) := by
  unfold synd corrTerm
  rw [evalH_set_add l _ err (by omega)]
  have h1 : l.length - 1 - (l.length - glog loc - 1) = glog loc := by omega
  have h2 : GF.ofNat loc = α ^ glog loc := by
    rw [← ofNat_alog _ (log_lt loc hlb), alog_log loc hlb hloc]
  rw [h1, h2, ← pow_mul, ← pow_mul, Nat.mul_comm]

/-- correctness of the error-value computation: the values returned by `bjorckPereyra` for
pairwise distinct non-zero `roots` solve  Σ_l e_l·X_l^(j+1) = s_j  (j < v)  with X_l = 1/root_l -/
def BPCorrect : Prop :=
  ∀ (roots syn : List Nat), roots ≠ [] → roots.Nodup → (∀ r ∈ roots, r ≠ 0 ∧ r < 256) →
    roots.length ≤ syn.length → Bytes syn →
    Post (bjorckPereyra roots syn) (fun p =>
      p.1 = roots.map (gdivD 1) ∧ Bytes p.2 ∧ p.2.length = syn.length ∧
      ∀ j, j < roots.length →
        ∑ l ∈ Finset.range roots.length, gf p.2 l * gf p.1 l ^ (j + 1) = gf syn j)

theorem bjorckPereyra_correct : BPCorrect :=
  fun roots syn hne hnd hnz hlen hs => by
    rw [bjorckPereyra_eq roots syn hne hnd hnz hlen]
    obtain ⟨hb, hv⟩ := BP.bpList_correct roots syn hnd hnz hs hlen
    exact ⟨rfl, hb, bpList_length roots syn, hv⟩

/-- the locator found for a block: `levinsonDurbin` returned `w ++ [1]` and the recurrence
Σ_{i ≤ v} s_{j+i}·λ_i = 0 holds on ALL windows `j = 0 … k-v-1` -/
def AllWindows (syn : List Nat) : Prop :=
  ∃ w : List Nat, levinsonDurbin syn = .ok (w ++ [1]) ∧ Bytes w ∧ 1 ≤ w.length ∧
    w.length ≤ syn.length / 2 ∧ ∀ j, j + w.length < syn.length → window syn (w ++ [1]) j = 0

theorem power_sums_of_locator (syn w rs vals : List Nat)
    (hall : ∀ j, j + w.length < syn.length → window syn (w ++ [1]) j = 0)
    (hrl : rs.length = w.length) (hnz : ∀ r ∈ rs, r ≠ 0 ∧ r < 256)
    (hroots : ∀ r ∈ rs, evalH (toG (w ++ [1])) (GF.ofNat r) = 0)
    (hbp : ∀ j, j < w.length →
      ∑ l ∈ Finset.range w.length, gf vals l * gf (rs.map (gdivD 1)) l ^ (j + 1) = gf syn j) :
    ∀ j, j < syn.length →
      ∑ l ∈ Finset.range w.length, gf vals l * gf (rs.map (gdivD 1)) l ^ (j + 1) = gf syn j := by
  refine recurrence_extend (gf syn) (gf w) (gf (rs.map (gdivD 1))) (gf vals) w.length syn.length
    (fun l hl => ?_) (fun j hj => ?_) hbp
  · have hl' : l < rs.length := by rw [hrl]; exact hl
    have hr := hnz _ (List.getElem_mem hl')
    have hloc : gf (rs.map (gdivD 1)) l = (GF.ofNat rs[l])⁻¹ := by
      unfold gf
      rw [getD_map_gdivD rs l hl', RSTot.ofNat_gdivD (by omega) hr.2 hr.1, RSTot.ofNat_one, one_div]
    rw [hloc]
    exact locator_at_inverse w _ (LD.ofNat_ne_zero hr.2 hr.1) (hroots _ (List.getElem_mem hl'))
  · have := hall j hj
    rwa [window_snoc] at this

theorem synd_foldl_addAt (n j : Nat) : ∀ (pairs : List (Nat × Nat)) (blk : List Nat),
    blk.length = n → (∀ x ∈ pairs, x.1 ≠ 0 ∧ x.1 < 256 ∧ glog x.1 < n) →
    synd (pairs.foldl (CorrectParts.addAt n) blk) j = synd blk j + (pairs.map (corrTerm j)).sum
  | [], _, _, _ => by simp
  | x :: pairs, blk, hn, h => by
    obtain ⟨h0, hb, hi⟩ := h x List.mem_cons_self
    rw [List.foldl_cons, synd_foldl_addAt n j pairs _ (by rw [CorrectParts.addAt, List.length_set, hn])
      fun y hy => h y (List.mem_cons_of_mem _ hy), List.map_cons, List.sum_cons, ← add_assoc]
    congr 1
    subst hn
    exact synd_update blk x.1 x.2 j h0 hb hi

theorem bytes_foldl_addAt (n : Nat) : ∀ (pairs : List (Nat × Nat)) (blk : List Nat),
    Bytes blk → (∀ x ∈ pairs, x.2 < 256) → Bytes (pairs.foldl (CorrectParts.addAt n) blk)
  | [], _, hb, _ => hb
  | x :: pairs, blk, hb, h => by
    rw [List.foldl_cons]
    exact bytes_foldl_addAt n pairs _
      (hb.set _ (xor_lt_256 (hb.getD _) (h x List.mem_cons_self)))
      fun y hy => h y (List.mem_cons_of_mem _ hy)

open DM.Props.C09 in
/-- each correction changes one place -/
theorem hamming_foldl_addAt (n : Nat) : ∀ (pairs : List (Nat × Nat)) (blk : List Nat),
    hamming (pairs.foldl (CorrectParts.addAt n) blk) blk ≤ pairs.length
  | [], blk => by rw [List.foldl_nil, hamming_self]; exact Nat.le_refl _
  | p :: ps, blk => by
    have hlen : ∀ (qs : List (Nat × Nat)) (l : List Nat), (qs.foldl (CorrectParts.addAt n) l).length = l.length :=
      fun qs l => length_foldl _ (fun _ _ => List.length_set) qs l
    have h1 := hamming_foldl_addAt n ps (CorrectParts.addAt n blk p)
    have h2 : hamming blk (CorrectParts.addAt n blk p) ≤ 1 :=
      hamming_le_one _ _ (n - glog p.1 - 1) fun j hj => by
        unfold CorrectParts.addAt
        rw [getD_set, if_neg fun e => hj e.1.symm]
    have h3 := hamming_triangle ((p :: ps).foldl (CorrectParts.addAt n) blk) blk (CorrectParts.addAt n blk p)
      (by rw [hlen])
    rw [List.foldl_cons] at h3 ⊢
    rw [List.length_cons]
    omega

theorem correctBlock_post (dataB errB : List Nat) (errLen : Nat) (syn : List Nat)
    (hsyn : syn.length = errLen) (hs : Bytes syn) :
    Post (correctBlock dataB errB errLen syn)
      (fun p => p.1.length = dataB.length ∧ p.2.length = errB.length ∧ AllWindows syn ∧
        (Bytes dataB → Bytes errB → Bytes p.1 ∧ Bytes p.2) ∧
        DM.Props.C09.hamming (p.1 ++ p.2) (dataB ++ errB) ≤ errLen / 2 ∧
        ((∀ j, j < errLen → gf syn j = synd (dataB ++ errB) j) →
          ∀ j, j < errLen → synd (p.1 ++ p.2) j = 0)) := by
  subst hsyn
  rcases LD.levinsonDurbin_spec syn hs with hld | ⟨w, hld, hw1, hwt, hwb, hwin⟩
  · rw [correctBlock_of_ld_error dataB errB syn.length syn hld]; trivial
  have hlb : Bytes (w ++ [1]) := hwb.append Bytes.one
  have hws : w.length ≤ syn.length := Nat.le_trans hwt (Nat.div_le_self _ _)
  rw [correctBlock_eq dataB errB syn.length syn w rfl hld hw1 hwt]
  refine Post_of_ok fun p hp => ?_
  obtain ⟨⟨hrl, hhead⟩, hmal, hin, rfl⟩ := correctV_ok_iff.1 hp
  unfold corrPairs at hin ⊢
  obtain ⟨hne, hnd, hnz⟩ := chienRoots_good hw1 (not_or.2 ⟨Decidable.not_not.2 hrl, hhead⟩)
  have hroots := fun r hr => ((ChienSpec.mem_chienRoots_iff (w ++ [1]) hlb (by simp) (by simp) r).mp hr).2.2
  -- the recurrence on all windows: below `t` from the locator search, from `t` on from the test
  have hall : ∀ j, j + w.length < syn.length → window syn (w ++ [1]) j = 0 := by
    intro j hj
    refine (LD.win_eq_zero_iff syn _ j hs hlb
      (by rw [List.length_append, List.length_singleton]; omega)).1 ?_
    by_cases h : j < syn.length / 2
    · exact hwin j h
    · exact hmal j (by omega) (by omega)
  obtain ⟨hvb, hbp⟩ := BP.bpList_correct _ syn hnd hnz hs (hrl ▸ hws)
  have hvl := bpList_length (chienRoots (w ++ [1])) syn
  rw [hrl] at hbp
  have hT := power_sums_of_locator syn w _ _ hall hrl hnz hroots hbp
  have hlocsl : ((chienRoots (w ++ [1])).map (gdivD 1)).length = w.length := by
    rw [List.length_map, hrl]
  have hpairs : ∀ x ∈ ((chienRoots (w ++ [1])).map (gdivD 1)).zip (bpList (chienRoots (w ++ [1])) syn),
      x.1 ≠ 0 ∧ x.1 < 256 ∧ glog x.1 < dataB.length + errB.length := by
    intro x hx
    obtain ⟨r, hr, hx1⟩ := List.mem_map.mp (List.of_mem_zip hx).1
    exact ⟨hx1 ▸ gdivD_ne_zero (by decide) (hnz r hr).1, hx1 ▸ gdivD_lt _ _, hin x hx⟩
  refine ⟨(foldl_corrStep_length _ _ _ _).1, (foldl_corrStep_length _ _ _ _).2,
    ⟨w, hld, hwb, hw1, hwt, hall⟩, fun hd he => ?_, ?_, fun hsv j hj => ?_⟩
  · -- on the two parts together a correction is `addAt`
    have hb := bytes_foldl_addAt (dataB.length + errB.length)
      (((chienRoots (w ++ [1])).map (gdivD 1)).zip (bpList (chienRoots (w ++ [1])) syn)) _
      (hd.append he) fun x hx => hvb x.2 (List.of_mem_zip hx).2
    rw [← CorrectParts.foldl_corrStep_append _ _ _ (dataB, errB) rfl] at hb
    exact ⟨hb.of_subset (List.subset_append_left _ _), hb.of_subset (List.subset_append_right _ _)⟩
  · -- one correction per root of the locator, and its degree is at most `t`
    rw [CorrectParts.foldl_corrStep_append _ _ _ (dataB, errB) rfl]
    refine le_trans (hamming_foldl_addAt _ _ _) (le_trans ?_ hwt)
    rw [List.length_zip, hlocsl]
    exact Nat.min_le_left _ _
  -- the corrections add to every syndrome the power sum, which is that syndrome
  rw [CorrectParts.foldl_corrStep_append _ _ _ (dataB, errB) rfl,
    synd_foldl_addAt _ j _ _ (by rw [List.length_append]) hpairs, List.zip_eq_zipWith,
    List.map_zipWith, sum_zipWith_getD, hlocsl, hvl, Nat.min_eq_left hws]
  have : ∑ i ∈ Finset.range w.length,
      corrTerm j (((chienRoots (w ++ [1])).map (gdivD 1)).getD i 0,
        (bpList (chienRoots (w ++ [1])) syn).getD i 0)
      = ∑ l ∈ Finset.range w.length, gf (bpList (chienRoots (w ++ [1])) syn) l
        * gf ((chienRoots (w ++ [1])).map (gdivD 1)) l ^ (j + 1) := rfl
  rw [this, hT j hj, hsv j hj]
  exact GF.add_self _

/-- **Soundness of `decode_gen` on one block**: whenever it answers Ok, the block it leaves behind
has zero syndromes and differs from the received one in at most ⌊k/2⌋ places. -/
theorem decodeBlock_sound (dB eB : List Nat) (k : Nat) (hdb : Bytes dB) (heb : Bytes eB) (hk1 : 1 ≤ k) (hk254 : k < 254)
    (hnk : k < dB.length + eB.length)
    (d' e' : List Nat) (h : RS.decodeBlock dB eB k = .ok (d', e')) :
    Bytes d' ∧ Bytes e' ∧ d'.length = dB.length ∧ e'.length = eB.length ∧
      DM.Spec.isCodeword (d' ++ e') k = true ∧ DM.Props.C09.hamming (d' ++ e') (dB ++ eB) ≤ k / 2 := by
  rw [decodeBlock_eq dB eB k hk1 hnk] at h
  have hb : Bytes (dB ++ eB) := hdb.append heb
  split at h
  · rename_i hz
    cases h
    exact ⟨hdb, heb, rfl, rfl, (syndromes_all_zero _ hb k hk254).symm.trans hz,
      (DM.Props.C09.hamming_self _).trans_le (Nat.zero_le _)⟩
  · have hp := Safe_val (correctBlock_post dB eB k _ (length_syndromes _ _)
      (bytes_syndromes _ _)) h
    obtain ⟨h1, h2, _, h34, hd, h5⟩ := hp
    obtain ⟨h3, h4⟩ := h34 hdb heb
    exact ⟨h3, h4, h1, h2, (isCodeword_iff _ (h3.append h4) k hk254).mpr
      (h5 (fun j hj => ofNat_syndromes_getD _ hb k j hj)), hd⟩

/-- After Levinson–Durbin, the Chien search and the malfunction test have succeeded (which
they have whenever `correctBlock` answers Ok), the recurrence Σ_{i ≤ v} s_{j+i}·λ_i = 0 holds on
all windows `j = 0 … k-v-1`. -/
theorem recurrence_all_windows (dataB errB syn : List Nat) (hs : Bytes syn)
    (p : List Nat × List Nat) (h : correctBlock dataB errB syn.length syn = .ok p) :
    AllWindows syn :=
  (Safe_val (correctBlock_post dataB errB syn.length syn rfl hs) h).2.2.1

/-- **Soundness of the decoder**, from one block (`decodeBlock_sound`) to the interleaved word (`decode_ok_iff`): a
successful `decode` returns bytes, of the symbol's total length, every interleaved block a codeword. -/
theorem decode_post_of_block (s : Sym) (hs : s < numSizes) (cw out : List Nat)
    (hlen : cw.length = totalCw s) (hbytes : ∀ b ∈ cw, b < 256)
    (h : RS.decode s cw = .ok out) :
    DM.Props.C09.Valid s (out.take (dataCw s)) (out.drop (dataCw s)) ∧ Bytes out ∧
      out.length = totalCw s := by
  have R := rowShape s hs
  obtain ⟨hol, hblk⟩ := (decode_ok_iff s hs cw out hlen).mp h
  have hcwb : Bytes cw := hbytes
  have post := fun b (hb : b < (row s).blocks) =>
    have ⟨h1, hk, _⟩ := block_shape R (length_take_data s cw hlen) (length_drop_data s cw hlen) hb
    decodeBlock_sound _ _ _ (strided_bytes (hcwb.take (dataCw s)) b _) (strided_bytes (hcwb.drop (dataCw s)) b _)
      R.k_pos R.k_lt (by omega) _ _ (hblk b hb)
  refine ⟨fun b hb => (post b hb).2.2.2.2.1, ?_, hol⟩
  rw [← List.take_append_drop (dataCw s) out]
  exact (bytes_of_strided R.blocks_pos fun b hb => (post b hb).1).append (bytes_of_strided R.blocks_pos fun b hb => (post b hb).2.1)

end DM.Lemmas.RSSound
