/-
Strictly sorted lists: insertion with duplicate removal (the iteration order of a
`BTreeSet`) is determined by the set of members.
Namespace: `DM.Lemmas`.
-/
namespace DM.Lemmas

variable {α : Type} (lt : α → α → Bool)

def insertBy (s : α) : List α → List α
  | [] => [s]
  | t :: ts =>
    if lt s t then s :: t :: ts
    else if lt t s then t :: insertBy s ts
    else t :: ts

structure StrictTotalOn (D : α → Prop) : Prop where
  irrefl : ∀ a, D a → lt a a = false
  trans : ∀ a b c, D a → D b → D c → lt a b = true → lt b c = true → lt a c = true
  tri : ∀ a b, D a → D b → lt a b = false → lt b a = false → a = b

variable {lt} {D : α → Prop}

theorem mem_insertBy (h : StrictTotalOn lt D) (s : α) (hs : D s) (l : List α) (hl : ∀ x ∈ l, D x) :
    ∀ x, x ∈ insertBy lt s l ↔ x = s ∨ x ∈ l := by
  induction l with
  | nil => intro x; simp [insertBy]
  | cons t ts ih =>
    intro x
    have hts : ∀ x ∈ ts, D x := fun x hx => hl x (List.mem_cons_of_mem _ hx)
    unfold insertBy
    split
    · simp
    · split
      · rw [List.mem_cons, ih hts, List.mem_cons]
        exact or_left_comm
      · rename_i h1 h2
        have : s = t := h.tri s t hs (hl t (List.mem_cons_self ..)) (by simpa using h1) (by simpa using h2)
        subst this
        simp

theorem pairwise_insertBy (h : StrictTotalOn lt D) (s : α) (hs : D s) (l : List α)
    (hl : ∀ x ∈ l, D x) (hp : l.Pairwise (fun a b => lt a b = true)) :
    (insertBy lt s l).Pairwise (fun a b => lt a b = true) := by
  induction l with
  | nil => simp [insertBy]
  | cons t ts ih =>
    have hts : ∀ x ∈ ts, D x := fun x hx => hl x (List.mem_cons_of_mem _ hx)
    have ht : D t := hl t (List.mem_cons_self ..)
    rw [List.pairwise_cons] at hp
    unfold insertBy
    split
    · rename_i h1
      rw [List.pairwise_cons]
      refine ⟨?_, List.pairwise_cons.mpr hp⟩
      intro x hx
      rcases List.mem_cons.mp hx with rfl | hx
      · exact h1
      · exact h.trans s t x hs ht (hts x hx) h1 (hp.1 x hx)
    · split
      · rename_i h1 h2
        rw [List.pairwise_cons]
        refine ⟨?_, ih hts hp.2⟩
        intro x hx
        rcases (mem_insertBy h s hs ts hts x).mp hx with rfl | hx
        · exact h2
        · exact hp.1 x hx
      · exact List.pairwise_cons.mpr hp

theorem sorted_ext (h : StrictTotalOn lt D) :
    ∀ (l₁ l₂ : List α), (∀ x ∈ l₁, D x) → (∀ x ∈ l₂, D x) →
      l₁.Pairwise (fun a b => lt a b = true) → l₂.Pairwise (fun a b => lt a b = true) →
      (∀ x, x ∈ l₁ ↔ x ∈ l₂) → l₁ = l₂ := by
  intro l₁
  induction l₁ with
  | nil =>
    intro l₂ _ _ _ _ hm
    cases l₂ with
    | nil => rfl
    | cons b l₂ => exact absurd ((hm b).mpr (List.mem_cons_self ..)) (by simp)
  | cons a l₁ ih =>
    intro l₂ hd1 hd2 hp1 hp2 hm
    cases l₂ with
    | nil => exact absurd ((hm a).mp (List.mem_cons_self ..)) (by simp)
    | cons b l₂ =>
      rw [List.pairwise_cons] at hp1 hp2
      have ha : D a := hd1 a (List.mem_cons_self ..)
      have hb : D b := hd2 b (List.mem_cons_self ..)
      have hab : a = b := by
        rcases List.mem_cons.mp ((hm a).mp (List.mem_cons_self ..)) with e | e
        · exact e
        · rcases List.mem_cons.mp ((hm b).mpr (List.mem_cons_self ..)) with e' | e'
          · exact e'.symm
          · have h1 := hp2.1 a e
            have h2 := hp1.1 b e'
            have := h.trans a b a ha hb ha h2 h1
            rw [h.irrefl a ha] at this
            exact absurd this (by simp)
      subst hab
      congr 1
      -- the heads agree and are below everything else, so the tails have the same members
      have tail : ∀ l l' : List α, (∀ y ∈ l, lt a y = true) → (∀ x, x ∈ a :: l ↔ x ∈ a :: l') → ∀ x ∈ l, x ∈ l' := by
        intro l l' hl hm x hx
        rcases List.mem_cons.mp ((hm x).mp (List.mem_cons_of_mem _ hx)) with e | e
        · subst e
          have := hl x hx
          rw [h.irrefl x ha] at this
          exact absurd this (by simp)
        · exact e
      exact ih l₂ (fun x hx => hd1 x (List.mem_cons_of_mem _ hx))
        (fun x hx => hd2 x (List.mem_cons_of_mem _ hx)) hp1.2 hp2.2
        fun x => ⟨tail l₁ l₂ hp1.1 hm x, tail l₂ l₁ hp2.1 (fun x => (hm x).symm) x⟩

theorem foldl_insertBy (h : StrictTotalOn lt D) (wl : List α) (hw : ∀ x ∈ wl, D x) :
    ∀ (acc : List α), (∀ x ∈ acc, D x) → acc.Pairwise (fun a b => lt a b = true) →
      (∀ x ∈ wl.foldl (fun acc s => insertBy lt s acc) acc, D x) ∧
      (wl.foldl (fun acc s => insertBy lt s acc) acc).Pairwise (fun a b => lt a b = true) ∧
      (∀ x, x ∈ wl.foldl (fun acc s => insertBy lt s acc) acc ↔ x ∈ wl ∨ x ∈ acc) := by
  induction wl with
  | nil => intro acc ha hp; simp [hp]; exact ha
  | cons s wl ih =>
    intro acc ha hp
    have hs : D s := hw s (List.mem_cons_self ..)
    have hwl : ∀ x ∈ wl, D x := fun x hx => hw x (List.mem_cons_of_mem _ hx)
    have hm := mem_insertBy h s hs acc ha
    have ha' : ∀ x ∈ insertBy lt s acc, D x := by
      intro x hx
      rcases (hm x).mp hx with rfl | hx
      · exact hs
      · exact ha x hx
    have := ih hwl (insertBy lt s acc) ha' (pairwise_insertBy h s hs acc ha hp)
    simp only [List.foldl_cons]
    refine ⟨this.1, this.2.1, ?_⟩
    intro x
    rw [this.2.2 x, hm x, List.mem_cons, or_assoc]
    exact or_left_comm

theorem nodup_lt_length (ks : List Nat) (n : Nat) (hn : ks.Nodup) (hlt : ∀ k ∈ ks, k < n) : ks.length ≤ n := by
  have := hn.length_le_of_subset (l₂ := List.range n) fun k hk => List.mem_range.mpr (hlt k hk)
  simpa using this

end DM.Lemmas
