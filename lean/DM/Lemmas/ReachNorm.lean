import DM.Lemmas.PlanHist
import DM.Lemmas.C10Norm
/-!
The costs of a live plan modulo 12 (`C10Norm.NormG`) are read off its history: every live plan is a plan created by
`optimize` or `add_switches` and stepped some number of times (`Reach`, `Lemmas/PlanHist.lean`), and per mode the plan after `j` steps
is known exactly (`ascii_fresh`, `CoupleX12.steps_fresh`, `b256_fresh`; for C40, Text and EDIFACT only `extra` counts).
`rounds_normG` hands `NormG` of the live plans and of the candidates to a round lemma of C10, which then need not carry it.
-/
namespace DM.Lemmas.ReachNorm
open DM.Model DM.Model.Plan DM.Model.Enc DM.Lemmas.PlanInv DM.Lemmas.PlanRounds DM.Lemmas.CoupleReach
open DM.Lemmas.CoupleGate DM.Lemmas.C10Norm

theorem reach_normG {body : List Nat} {list : List Sym} {W k : Nat} {g : GPlan} (h : Reach body list W k g) : NormG g := by
  obtain ⟨g0, p, w, m, j, hh, hst, hpj, -⟩ := h
  have hex := (hist_extra switchPlan_all hh).1
  have hp : p ≤ body.length := hist_le hh
  have h0 := hist_plan hh
  obtain ⟨-, hcur, -, hext, -⟩ := stepsTo_core j p g0 g hst (hist_core hh).1
  cases m with
  | ascii =>
    obtain ⟨Pk, a1, a2, -, a3, -, -⟩ := CoupleAscii.ascii_fresh hp h0 hst
    refine ⟨by omega, ?_⟩
    rw [a1]
    show (Pk.cost + 6 * Pk.digitsAhead) % 12 = 0
    omega
  | c40 => exact normG_of_mode (by omega) (.inl (hcur.trans (hist_core hh).2))
  | text => exact normG_of_mode (by omega) (.inr (.inl (hcur.trans (hist_core hh).2)))
  | x12 =>
    obtain ⟨qk, hqk, hcK, hF, hx⟩ := CoupleX12.steps_fresh hp h0 hst
    refine ⟨by omega, ?_⟩
    rw [hqk]
    show NormX qk
    unfold NormX
    cases hae : qk.asciiEnd with
    | none =>
      obtain ⟨n1, n2, -⟩ := hF.nat hae
      simp only []
      omega
    | some f =>
      obtain ⟨j', t, c0, a1, a2, a3, a4, a5, a6, a7, a8, -⟩ := hF.asc f hae
      have hcl : qk.ctx.charsLeft = body.length - (p + j) := charsLeft_eq hcK
      have hf6 : f % 6 = 0 := by
        rcases a3 with rfl | rfl <;> simp only [Nat.reduceDiv] at a6 <;> omega
      have hc0 : c0 = 0 ∨ c0 = 12 := by
        rcases a8 with ⟨_, sym, _, rfl⟩ | ⟨_, rfl⟩
        · split <;> simp
        · exact Or.inr rfl
      simp only []
      refine ⟨a4, ?_, by omega⟩
      obtain ⟨d, hd⟩ : ∃ d, f = 6 * d := ⟨f / 6, by omega⟩
      rw [a7, hd, Nat.mul_assoc]
      omega
  | edifact => exact normG_of_mode (by omega) (.inr (.inr (hcur.trans (hist_core hh).2)))
  | base256 =>
    obtain ⟨h1, h2, -⟩ := CoupleB256.b256_fresh hp h0 hst
    refine ⟨by omega, ?_⟩
    rw [h1]
    show (12 + 12 * j) % 12 = 0
    omega

theorem reach_start (body : List Nat) (list : List Sym) (W : Nat) : Reach body list W 0 (startPlan body list W) :=
  ⟨_, 0, W, .ascii, 0, Hist.start, rfl, rfl, Or.inr ⟨rfl, rfl⟩⟩

theorem rounds_normG {body : List Nat} {list : List Sym} {modes W : Nat} {I : Nat → List GPlan → Prop}
    {Q : Option (List (Nat × EMode)) → Nat → Prop}
    (round : ∀ k plans cands live, (∀ g ∈ plans, NormG g) → (k < body.length → ∀ c ∈ cands, NormG c) → I k plans →
      Round body list modes k plans cands live → RoundGoal body W I Q k live)
    (k : Nat) (plans cands live : List GPlan) (hI : (∀ g ∈ plans, Reach body list W k g) ∧ I k plans)
    (R : Round body list modes k plans cands live) :
    RoundGoal body W (fun k plans => (∀ g ∈ plans, Reach body list W k g) ∧ I k plans) Q k live :=
  have G := round k plans cands live (fun g hg => reach_normG (hI.1 g hg))
    (fun hk c hc => reach_normG (cands_reach hI.1 R hk c hc)) hI.2 R
  { none := G.none
    next := fun hl hk => ⟨fun g hg => cands_reach hI.1 R hk g (R.live_sub g hg), G.next hl hk⟩
    last := G.last }

end DM.Lemmas.ReachNorm
