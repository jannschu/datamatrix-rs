import DM.Model.Placement
import DM.Model.Finder
import DM.Spec.AnnexF
/-
The traversal model and the Annex F transcription are the same program, for every matrix size
(`pLayout_eq_annexF`). That the traversal is a bijection is a per-size fact; the certificate
`placementOK` asks the kernel only for the final `visited` bit set and the number of octets, and
`cover_perm` turns "everything is covered by exactly as many positions as there are cells" into
"no position repeats, none is out of range".
Namespace: `DM.Lemmas`.
-/
namespace DM.Lemmas
open DM.Model DM.Spec

theorem testBit_or_shift (m p q : Nat) : (m ||| (1 <<< p)).testBit q = (m.testBit q || decide (p = q)) := by
  rw [Nat.testBit_or, Nat.one_shiftLeft, Nat.testBit_two_pow]

theorem testBit_setBits (ps : List Nat) (m q : Nat) :
    (setBits m ps).testBit q = (m.testBit q || ps.contains q) := by
  induction ps generalizing m with
  | nil => simp [setBits]
  | cons p ps ih =>
    have : setBits m (p :: ps) = setBits (m ||| (1 <<< p)) ps := rfl
    rw [this, ih, testBit_or_shift, List.contains_cons, Bool.or_assoc]
    congr 1
    by_cases h : p = q
    · subst h; simp
    · have h' : ¬ q = p := fun e => h e.symm
      simp [h, h']

theorem setBits_append (m : Nat) (ps qs : List Nat) : setBits m (ps ++ qs) = setBits (setBits m ps) qs :=
  List.foldl_append ..

theorem cover_perm : ∀ (n : Nat) (l : List Nat), l.length = n → (∀ p, p < n → p ∈ l) →
    l.Nodup ∧ ∀ p ∈ l, p < n
  | 0, l, hl, _ => by simp [List.eq_nil_of_length_eq_zero hl]
  | n + 1, l, hl, hc => by
    have hn := hc n (by omega)
    have hp := List.perm_cons_erase hn
    obtain ⟨hnd, hlt⟩ := cover_perm n (l.erase n) (by rw [List.length_erase_of_mem hn]; omega)
      (fun p h => (List.mem_erase_of_ne (by omega)).mpr (hc p (by omega)))
    refine ⟨hp.nodup_iff.mpr (List.nodup_cons.mpr ⟨fun h => Nat.lt_irrefl _ (hlt n h), hnd⟩), ?_⟩
    intro p h
    rcases List.mem_cons.mp (hp.mem_iff.mp h) with rfl | h
    · omega
    · exact Nat.lt_succ_of_lt (hlt p h)

theorem pIdx_eq_module (h w i j : Int) : pIdx h w i j = AnnexF.module h w i j := by
  unfold pIdx AnnexF.module
  by_cases h1 : i < 0 <;> simp only [h1, ↓reduceIte]
  · by_cases h2 : j + (4 - (h + 4) % 8) < 0 <;> simp only [h2, ↓reduceIte]
  · by_cases h2 : j < 0 <;> simp only [h2, ↓reduceIte]

/-- the character counter `chr` has no counterpart, the traversal numbers the octets by their place in
`acc` -/
def ofSpec (t : AnnexF.St) : PSt := ⟨t.assigned, t.out⟩

theorem ofSpec_ite (c : Prop) [Decidable c] (a b : AnnexF.St) :
    (if c then ofSpec a else ofSpec b) = ofSpec (if c then a else b) := by
  split <;> rfl

theorem visit_ofSpec (t : AnnexF.St) (l : List Nat) : (ofSpec t).visit l = ofSpec (AnnexF.place t l) := rfl

theorem visit_utah (h w i j : Int) (t : AnnexF.St) :
    (ofSpec t).visit (pUtah h w i j) = ofSpec (AnnexF.utah h w t i j) := by
  simp only [pUtah, AnnexF.utah, pIdx_eq_module, visit_ofSpec]

theorem pUp_eq (h w : Int) : ∀ (f : Nat) (i j : Int) (t : AnnexF.St),
    pUp h w f i j (ofSpec t) = ((AnnexF.sweepUp h w f i j t).1, (AnnexF.sweepUp h w f i j t).2.1,
      ofSpec (AnnexF.sweepUp h w f i j t).2.2)
  | 0, _, _, _ => rfl
  | f + 1, i, j, t => by
    simp only [pUp, AnnexF.sweepUp, visit_utah, ofSpec_ite]
    split
    · exact pUp_eq h w f _ _ _
    · rfl

theorem pDown_eq (h w : Int) : ∀ (f : Nat) (i j : Int) (t : AnnexF.St),
    pDown h w f i j (ofSpec t) = ((AnnexF.sweepDown h w f i j t).1, (AnnexF.sweepDown h w f i j t).2.1,
      ofSpec (AnnexF.sweepDown h w f i j t).2.2)
  | 0, _, _, _ => rfl
  | f + 1, i, j, t => by
    simp only [pDown, AnnexF.sweepDown, visit_utah, ofSpec_ite]
    split
    · exact pDown_eq h w f _ _ _
    · rfl

def pCorners (h w i j : Int) (s : PSt) : PSt :=
  let s := if i = h ∧ j = 0 then s.visit (pCorner1 h w) else s
  let s := if i = h - 2 ∧ j = 0 ∧ w % 4 ≠ 0 then s.visit (pCorner2 h w) else s
  let s := if i = h - 2 ∧ j = 0 ∧ w % 8 = 4 then s.visit (pCorner3 h w) else s
  if i = h + 4 ∧ j = 2 ∧ w % 8 = 0 then s.visit (pCorner4 h w) else s

def sCorners (h w i j : Int) (t : AnnexF.St) : AnnexF.St :=
  let t := if i = h ∧ j = 0 then AnnexF.corner1 h w t else t
  let t := if i = h - 2 ∧ j = 0 ∧ w % 4 ≠ 0 then AnnexF.corner2 h w t else t
  let t := if i = h - 2 ∧ j = 0 ∧ w % 8 = 4 then AnnexF.corner3 h w t else t
  if i = h + 4 ∧ j = 2 ∧ w % 8 = 0 then AnnexF.corner4 h w t else t

theorem pCorners_eq (h w i j : Int) (t : AnnexF.St) : pCorners h w i j (ofSpec t) = ofSpec (sCorners h w i j t) := by
  simp only [pCorners, sCorners, pCorner1, pCorner2, pCorner3, pCorner4, AnnexF.corner1, AnnexF.corner2,
    AnnexF.corner3, AnnexF.corner4, pIdx_eq_module, visit_ofSpec, ofSpec_ite]

theorem pOuter_succ (h w : Int) (f : Nat) (i j : Int) (s : PSt) :
    pOuter h w (f + 1) i j s =
      let u := pUp h w (h.toNat + w.toNat) i j (pCorners h w i j s)
      let d := pDown h w (h.toNat + w.toNat) (u.1 + 1) (u.2.1 + 3) u.2.2
      if d.1 + 3 < h ∨ d.2.1 + 1 < w then pOuter h w f (d.1 + 3) (d.2.1 + 1) d.2.2 else d.2.2 := rfl

theorem scan_succ (h w : Int) (f : Nat) (i j : Int) (t : AnnexF.St) :
    AnnexF.scan h w (f + 1) i j t =
      let u := AnnexF.sweepUp h w (h.toNat + w.toNat) i j (sCorners h w i j t)
      let d := AnnexF.sweepDown h w (h.toNat + w.toNat) (u.1 + 1) (u.2.1 + 3) u.2.2
      if d.1 + 3 < h ∨ d.2.1 + 1 < w then AnnexF.scan h w f (d.1 + 3) (d.2.1 + 1) d.2.2 else d.2.2 := rfl

theorem pOuter_eq (h w : Int) : ∀ (f : Nat) (i j : Int) (t : AnnexF.St),
    pOuter h w f i j (ofSpec t) = ofSpec (AnnexF.scan h w f i j t)
  | 0, _, _, _ => rfl
  | f + 1, i, j, t => by
    simp only [pOuter_succ, scan_succ, pCorners_eq, pUp_eq, pDown_eq]
    split
    · exact pOuter_eq h w f _ _ _
    · rfl

/-- the final state of `IndexTraversal::run` -/
def pFinal (h w : Nat) : PSt := pOuter h w (h + w) 4 0 ⟨0, []⟩

theorem pFinal_eq (h w : Nat) : pFinal h w = ofSpec (AnnexF.scan h w (h + w) 4 0 ⟨0, 0, []⟩) :=
  pOuter_eq h w (h + w) 4 0 ⟨0, 0, []⟩

theorem pLayout_eq_annexF (h w : Nat) : pLayout h w = (AnnexF.ecc200 h w).chars :=
  congrArg (fun s => s.acc.reverse) (pFinal_eq h w)

theorem annexF_assigned (h w : Nat) : (AnnexF.ecc200 h w).assigned = (pFinal h w).visited :=
  (congrArg PSt.visited (pFinal_eq h w)).symm

def Octets (s : PSt) : Prop :=
  s.visited = setBits 0 s.acc.reverse.flatten ∧ ∀ o ∈ s.acc, o.length = 8

theorem Octets.visit {s : PSt} (hs : Octets s) {o : List Nat} (ho : o.length = 8) : Octets (s.visit o) := by
  refine ⟨?_, ?_⟩
  · show setBits s.visited o = _
    simp only [PSt.visit, List.reverse_cons, List.flatten_append, List.flatten_cons, List.flatten_nil,
      List.append_nil, setBits_append, ← hs.1]
  · intro o' h
    rcases List.mem_cons.mp h with rfl | h
    · exact ho
    · exact hs.2 _ h

theorem Octets.ite {s : PSt} (hs : Octets s) (c : Prop) [Decidable c] {o : List Nat} (ho : o.length = 8) :
    Octets (if c then s.visit o else s) := by
  split
  · exact hs.visit ho
  · exact hs

theorem pUp_octets (h w : Int) : ∀ (f : Nat) (i j : Int) (s : PSt), Octets s → Octets (pUp h w f i j s).2.2
  | 0, _, _, _, hs => hs
  | f + 1, i, j, s, hs => by
    have := hs.ite (i < h ∧ j ≥ 0 ∧ !(s.seen h w i j)) (o := pUtah h w i j) rfl
    simp only [pUp]
    split
    · exact pUp_octets h w f _ _ _ this
    · exact this

theorem pDown_octets (h w : Int) : ∀ (f : Nat) (i j : Int) (s : PSt), Octets s → Octets (pDown h w f i j s).2.2
  | 0, _, _, _, hs => hs
  | f + 1, i, j, s, hs => by
    have := hs.ite (i ≥ 0 ∧ j < w ∧ !(s.seen h w i j)) (o := pUtah h w i j) rfl
    simp only [pDown]
    split
    · exact pDown_octets h w f _ _ _ this
    · exact this

theorem pCorners_octets (h w i j : Int) {s : PSt} (hs : Octets s) : Octets (pCorners h w i j s) :=
  (((hs.ite _ (o := pCorner1 h w) rfl).ite _ (o := pCorner2 h w) rfl).ite _ (o := pCorner3 h w) rfl).ite _
    (o := pCorner4 h w) rfl

theorem pOuter_octets (h w : Int) : ∀ (f : Nat) (i j : Int) (s : PSt), Octets s → Octets (pOuter h w f i j s)
  | 0, _, _, _, hs => hs
  | f + 1, i, j, s, hs => by
    have hu := pUp_octets h w (h.toNat + w.toNat) i j _ (pCorners_octets h w i j hs)
    have hd := fun a b => pDown_octets h w (h.toNat + w.toNat) a b _ hu
    rw [pOuter_succ]
    dsimp only
    split
    · exact pOuter_octets h w f _ _ _ (hd _ _)
    · exact hd _ _

theorem pFinal_octets (h w : Nat) : Octets (pFinal h w) :=
  pOuter_octets h w _ _ _ _ ⟨rfl, by simp⟩

end DM.Lemmas
