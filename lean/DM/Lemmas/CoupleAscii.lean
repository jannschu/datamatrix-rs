import DM.Lemmas.CoupleSeg
import DM.Lemmas.PlanRunAscii
/-!
# Planner / encoder coupling: ASCII

The ASCII plan (`asciiStep`) decides once per digit run how many digits are paired (`digitsAhead`,
the even part of the run) and pre-accounts `digitsAhead / 2` codewords; the ASCII encoder
(`asciiLoop`) re-decides at every position with `twoDigitsComing`.  Both are greedy from the same
position, so they pair the same digits.  The simulation follows the planner step by step (`ascii_sim_step`);
a step is one iteration of the encoder's loop, or none: a digit pair is one iteration but two steps, so
between the two (`digitsAhead` odd) the encoder is one character ahead (`AsciiSync`).  `unlatch` succeeds only with
`digitsAhead = 0`, so a planned switch is never inside a pair (`ascii_switch_plan`, `Lemmas/PlanRunAscii.lean`).  For the
segment that runs to the end of the data both sides are known in closed form: the plan charges the ASCII size of the
segment (`ascii_end_plan`), and the encoder writes it (`ascii_tail`).
-/
namespace DM.Lemmas.CoupleAscii
open DM.Model DM.Model.Plan DM.Model.Enc DM.Lemmas DM.Lemmas.AsciiRT DM.Lemmas.PlanInv DM.Lemmas.Couple DM.Lemmas.PlanStep
open DM.Lemmas.CoupleSeg (maybeSwitch_fire)

theorem asciiHead_digits {body : List Nat} {q : Nat} (h : 2 ≤ digitsFrom body q) :
    ∃ c, asciiHead (body.drop q) = some (2, [c]) :=
  asciiHead_pair ((twoDigits_iff body q).mpr h)

theorem asciiHead_char {body : List Nat} {q : Nat} (hq : q < body.length) (h : digitsFrom body q < 2) :
    asciiHead (body.drop q) = some (1, enc1 (body.getD q 0)) := by
  obtain ⟨e, h2⟩ := C10Pot.drop_single hq h
  rw [e]
  exact asciiHead_single h2

/-- The encoder, at `pos` with `len` codewords, matches the plan `P` stepped up to position `q`: the `a` pairs
the plan has pre-accounted are still to be written; `b = 1` between the two digits of a pair. -/
def AsciiSync (P : AsciiP) (q pos len : Nat) : Prop :=
  ∃ a b, P.digitsAhead = 2 * a + b ∧ b ≤ 1 ∧ pos = q + b ∧ len + a = P.ctx.written

theorem asciiSync_aligned {P : AsciiP} {q pos len : Nat} (h : AsciiSync P q pos len)
    (h0 : P.digitsAhead = 0) : pos = q ∧ len = P.ctx.written := by
  obtain ⟨a, b, h1, _, h3, h4⟩ := h
  omega

theorem ascii_sim_step {body : List Nat} {list : List Sym} {P P1 : AsciiP} {r : StepResult} {q at_ : Nat} {s : St}
    {m' : EMode} {rest : List (Nat × EMode)}
    (hc : CtxAt body list q P.ctx) (hl : P.digitsAhead ≤ digitsFrom body q) (hs : asciiStep P = .ok (P1, r))
    (he : r.end = false) (hin : s.input = body) (hplan : s.plan = (at_, m') :: rest) (hat : at_ + q < body.length)
    (hsync : AsciiSync P q s.pos s.cw.length) :
    ∃ pos cw j, j ≤ 1 ∧ (∀ f, asciiLoop (f + j) s = asciiLoop f { s with pos := pos, cw := cw }) ∧
      AsciiSync P1 (q + 1) pos cw.length := by
  obtain ⟨a, b, hd, hb, hpos, hcw⟩ := hsync
  obtain ⟨hlt, _, _, hcase⟩ := asciiStep_elim P P1 r hc hl hs he
  have hstay : b = 0 → s.maybeSwitch = .ok (false, s) := fun hb0 =>
    EncStep.maybeSwitch_stay s at_ m' rest hplan (Or.inr (by simp only [St.charsLeft, hin]; omega))
  have hrest : b = 0 → s.rest = body.drop q := fun hb0 => by rw [St.rest, hin, hpos, hb0]; rfl
  -- a digit pair with `n` more still to be written: one iteration, after which the encoder is one character ahead
  have pair : ∀ n, b = 0 ∧ 2 ≤ digitsFrom body q ∧ P1.digitsAhead = 2 * n + 1 ∧ s.cw.length + 1 + n = P1.ctx.written →
      ∃ pos cw j, j ≤ 1 ∧ (∀ f, asciiLoop (f + j) s = asciiLoop f { s with pos := pos, cw := cw }) ∧
        AsciiSync P1 (q + 1) pos cw.length := by
    intro n ⟨hb0, h2, hd1, hw1⟩
    obtain ⟨x, hx⟩ := asciiHead_digits h2
    refine ⟨s.pos + 2, s.cw ++ [x], 1, Nat.le_refl _, fun f => by rw [asciiLoop_stay f (hstay hb0), hrest hb0, hx], n, 1, hd1,
      Nat.le_refl _, by rw [hpos, hb0], ?_⟩
    rw [List.length_append]
    exact hw1
  rcases hcase with ⟨h0, hD, hd1, hw1, -⟩ | ⟨h0, hD, hd1, hw1, -⟩ | ⟨h0, hd1, hw1, -⟩
  · -- a single character
    obtain ⟨rfl, rfl⟩ : a = 0 ∧ b = 0 := by omega
    refine ⟨s.pos + 1, s.cw ++ enc1 (body.getD q 0), 1, Nat.le_refl _,
      fun f => by rw [asciiLoop_stay f (hstay rfl), hrest rfl, asciiHead_char hlt hD], 0, 0, hd1, Nat.zero_le _,
      congrArg (· + 1) hpos, ?_⟩
    rw [List.length_append, enc1_length, hw1, ← hcw]
    rfl
  · -- the first digit of a run: `digitsFrom body q / 2` pairs are accounted for at once
    exact pair (digitsFrom body q / 2 - 1) (by omega)
  · rcases Nat.eq_zero_or_pos b with hb0 | hb1
    · -- the first digit of a later pair of the run
      exact pair (a - 1) (by omega)
    · -- the second digit of a pair: the encoder has written it already
      obtain rfl : b = 1 := Nat.le_antisymm hb hb1
      exact ⟨s.pos, s.cw, 0, Nat.zero_le _, fun _ => rfl, a, 0, by rw [hd1, hd]; rfl, Nat.zero_le _, hpos, hw1 ▸ hcw⟩

theorem encodeMode_ascii (s : St) (hm : s.mode = .ascii) : encodeMode s = asciiLoop (s.charsLeft + 2) s := by
  unfold encodeMode
  rw [hm]

theorem ascii_run {body : List Nat} {list : List Sym} {p w k : Nat} {g0 gk : GPlan}
    (at_ : Nat) (m' : EMode) (rest : List (Nat × EMode)) (s : St)
    (hg0 : g0.plan = newPlan .ascii (ctxAt body list p w)) (hst : StepsTo k g0 gk)
    (hin : s.input = body) (hpos : s.pos = p) (hcw : s.cw.length = w) (hmode : s.mode = .ascii)
    (hplan : s.plan = (at_, m') :: rest) (hat : at_ + p + k = body.length) {Pk : AsciiP} (hpk : gk.plan = .ascii Pk)
    (hdk : Pk.digitsAhead = 0) :
    ∃ cw f, encodeMode s = asciiLoop (f + 1) { s with pos := p + k, cw := cw } ∧ cw.length = Pk.ctx.written := by
  -- `t ≤ k`: up to the planned switch `maybe_switch_mode` does nothing, which is what `ascii_sim_step` asks for
  obtain ⟨hI, -, -⟩ := CoupleSeg.fresh_inv
    (I := fun t pl => t ≤ k → ∃ P pos cw j, pl = .ascii P ∧ j ≤ t ∧
      (∀ f, asciiLoop (f + j) s = asciiLoop f { s with pos := pos, cw := cw }) ∧ AsciiSync P (p + t) pos cw.length)
    (fun t g g1 r hc _ hI hs he htk => by
      obtain ⟨P, pos, cw, j, hP, hj, hloop, hsync⟩ := hI (Nat.le_of_succ_le htk)
      obtain ⟨P1, hs1, hp1, _⟩ := gstep_ascii hP hs
      have hx := hc.1
      have hl := hc.2.2
      rw [hP] at hx hl
      obtain ⟨pos1, cw1, j1, hj1, hloop1, hsync1⟩ :=
        ascii_sim_step (s := { s with pos := pos, cw := cw }) hx hl hs1 he hin hplan (by omega) hsync
      exact ⟨P1, pos1, cw1, j + j1, hp1, by omega,
        fun f => by rw [show f + (j + j1) = f + j1 + j by omega, hloop, hloop1], hsync1⟩)
    (by omega) hg0 (fun _ => ⟨_, s.pos, s.cw, 0, rfl, Nat.le_refl _, fun _ => rfl, 0, 0, rfl, Nat.zero_le _, hpos, hcw⟩) hst
  obtain ⟨Pk', pos, cw, j, a1, a5, a6, a7⟩ := hI (Nat.le_refl _)
  obtain rfl : Pk' = Pk := by rw [hpk] at a1; cases a1; rfl
  obtain ⟨rfl, b2⟩ := asciiSync_aligned a7 hdk
  have hfuel : s.charsLeft + 2 = (at_ + k - j) + 1 + 1 + j := by
    simp only [St.charsLeft, hin, hpos]; omega
  exact ⟨cw, at_ + k - j + 1, by rw [encodeMode_ascii s hmode, hfuel, a6], b2⟩

theorem ascii_switch {body : List Nat} {list : List Sym} {p w k ac : Nat} {g0 gk : GPlan} {ctx' : Ctx} {m' : EMode}
    {rest : List (Nat × EMode)} {s : St} (hk : p + k < body.length) (hg0 : g0.plan = newPlan .ascii (ctxAt body list p w))
    (hst : StepsTo k g0 gk) (hsc : gk.switchCost = some ac) (hunl : gk.unlatch = .ok ctx') (hm' : m' ≠ .ascii)
    (henc : EncAt body list s p w .ascii ((body.length - (p + k), m') :: rest)) :
    ac = g0.extra + 12 * (ctx'.written - w) ∧ w ≤ ctx'.written ∧
      CoupleSeg.Within list ctx'.written (encodeMode s) (CoupleSeg.Sync body list (p + k) ctx'.written m' rest) := by
  obtain ⟨hin, hlist, hpos, hcw, hmode, hplan, hnm⟩ := henc
  obtain ⟨Pk, hpk, hdk, rfl, hac, hle, -⟩ := ascii_switch_plan (by omega) hg0 hst hsc hunl
  obtain ⟨cw, f, hloop, hlen⟩ :=
    ascii_run (body.length - (p + k)) m' rest s hg0 hst hin hpos hcw hmode hplan (by omega) hpk hdk
  refine ⟨hac, hle, Or.inl ?_⟩
  have hfire := maybeSwitch_fire { s with pos := p + k, cw := cw } m' rest
    (by simp only [St.charsLeft, hin]; exact hplan) (by simp only [St.charsLeft, hin]; omega) (by rw [hmode]; exact hm')
    (fun _ => hnm)
  refine ⟨{ s with pos := p + k, cw := cw, mode := m', plan := rest, newMode := m'.latch }, ?_, hin, hlist, rfl, hlen,
    rfl, rfl, rfl⟩
  rw [hloop, asciiLoop_leave _ hfire]

theorem switchSeg_ascii : SwitchSeg .ascii :=
  fun _ _ _ _ _ _ _ _ _ _ _ _ _ hk _ hg0 hst _ hsc hunl hm' henc => ascii_switch hk hg0 hst hsc hunl hm' henc

/-! ### ASCII tails (`set_ascii_until_end`) -/

theorem ascii_tail (s : St) (hm : s.mode = .ascii) (hp : s.plan = [(0, .ascii)]) (hpos : s.pos ≤ s.input.length) :
    ∃ s', encodeMode s = .ok s' ∧ s'.input = s.input ∧ s'.list = s.list ∧ s'.pos = s.input.length ∧
      s'.hasMore = false ∧ s'.cw.length = s.cw.length + asciiSize s.rest ∧ (∃ X, s'.cw = s.cw ++ X) ∧
      s'.mode = .ascii ∧ s'.plan = [(0, .ascii)] ∧ s'.newMode = s.newMode := by
  refine ⟨{ s with pos := s.input.length, cw := s.cw ++ asciiEnc s.rest }, ?_, rfl, rfl, rfl, by simp [St.hasMore],
    ?_, ⟨_, rfl⟩, hm, hp, rfl⟩
  · rw [encodeMode_ascii s hm]
    exact asciiLoop_until_end _ s hp hpos (by omega)
  · simp only [List.length_append]
    rw [DM.Lemmas.EncRT.asciiEnc_size _]

theorem endSegS_ascii : CoupleSeg.EndSegS .ascii 0 := by
  intro body list p w k g0 gk gE r s _ hpk _ hg0 hst hstep _ henc
  obtain ⟨s', e1, e2, e3, e4, e5, e6, -, -, -, e10⟩ :=
    ascii_tail s henc.2.2.2.2.1 henc.2.2.2.2.2.1 (by rw [henc.1, henc.2.2.1]; omega)
  rw [ascii_end_plan hpk hg0 hst hstep, Nat.add_sub_cancel_left, PlanStep.ceil12_mul,
    Nat.mul_div_cancel_left _ (by decide : 0 < 12)]
  have hr : s'.rest = [] := by rw [St.rest, e4, e2]; exact List.drop_eq_nil_of_le (Nat.le_refl _)
  refine ⟨Nat.le_add_right _ _, .ok e1 (CoupleSeg.tail_of_le (e2.trans henc.1) (e3.trans henc.2.1)
    (by rw [e4, henc.1]; exact Nat.le_refl _) (e10.trans henc.2.2.2.2.2.2) (fun h => by rw [e5] at h; cases h)
    (by rw [e6, henc.2.2.2.1]; exact Nat.le_add_right _ _) ?_)⟩
  rw [hr, e6, henc.2.2.2.1, henc.rest]
  exact Nat.le_refl _

theorem endSeg_ascii : EndSeg .ascii := endSegS_ascii.endSeg

/-- `maybe_switch_mode` pops the segment's own entry `(chars_left, ASCII)` without changing the mode -/
theorem encodeMode_pop_own (s : St) (hm : s.mode = .ascii) (at2 : Nat) (m2 : EMode) (rest : List (Nat × EMode))
    (hp : s.plan = (s.charsLeft, .ascii) :: (at2, m2) :: rest) (h : at2 < s.charsLeft) :
    encodeMode s = encodeMode { s with plan := (at2, m2) :: rest } := by
  rw [encodeMode_ascii s hm, encodeMode_ascii { s with plan := (at2, m2) :: rest } hm]
  exact asciiLoop_pop_own _ s hm hp h

/-- Why `switchSeg_ascii_first` asks for `1 ≤ k`: with the segment's own entry still at the head and the
next switch at the same position (`k = 0`), `maybe_switch_mode` pops only the own entry, a character is
encoded in ASCII and the next call finds the switch position passed.  (The optimiser never produces
this shape: a start plan that switches away at once replaces the whole switch list, `as_start`.) -/
example : encodeMode { input := [48], pos := 0, mode := .ascii, plan := [(1, .ascii), (1, .c40), (0, .c40)],
                       newMode := none, cw := [], list := [0] } =
    .error (.panic "expected to call maybe_switch_mode earlier") := by rfl

/-- `SwitchSeg .ascii` for the first segment (`k ≥ 1`): the encoder's plan starts with the segment's own entry -/
theorem switchSeg_ascii_first :
    ∀ (body : List Nat) (list : List Sym) (p w k : Nat) (g0 gk : GPlan) (ac : Nat) (ctx' : Ctx) (m' : EMode)
      (rest : List (Nat × EMode)) (s : St),
      ByteList body → p + k < body.length → 1 ≤ k →
      g0.plan = newPlan .ascii (ctxAt body list p w) →
      StepsTo k g0 gk → SwitchPoint gk → gk.switchCost = some ac → gk.unlatch = .ok ctx' → m' ≠ .ascii →
      EncAt body list s p w .ascii ((body.length - p, .ascii) :: (body.length - (p + k), m') :: rest) →
      ac = g0.extra + 12 * (ctx'.written - w) ∧ w ≤ ctx'.written ∧
      ((∃ s', encodeMode s = .ok s' ∧ s'.input = body ∧ s'.list = list ∧ s'.pos = p + k ∧
          s'.cw.length = ctx'.written ∧ s'.mode = m' ∧ s'.plan = rest ∧ s'.newMode = m'.latch) ∨
       (encodeMode s = .error .tooMuch ∧ firstBigEnough list ctx'.written = none)) := by
  intro body list p w k g0 gk ac ctx' m' rest s hb hk hk1 hg0 hst hsp hsc hunl hm' henc
  obtain ⟨hin, hlist, hpos, hcw, hmode, hplan, hnm⟩ := henc
  have hcl : s.charsLeft = body.length - p := by simp only [St.charsLeft, hin, hpos]
  rw [encodeMode_pop_own s hmode (body.length - (p + k)) m' rest (by rw [hplan, hcl]) (by rw [hcl]; omega)]
  exact switchSeg_ascii body list p w k g0 gk ac ctx' m' rest _ hb hk (Or.inr rfl) hg0 hst hsp hsc hunl hm'
    ⟨hin, hlist, hpos, hcw, hmode, rfl, hnm⟩

/-- `EndSeg .ascii` (with `w ≤ s'.cw.length`) for the first segment (`k ≥ 1`) -/
theorem endSeg_ascii_first :
    ∀ (body : List Nat) (list : List Sym) (p w k : Nat) (g0 gk gE : GPlan) (r : StepResult) (s : St),
      ByteList body → p + k = body.length → 1 ≤ k →
      g0.plan = newPlan .ascii (ctxAt body list p w) →
      StepsTo k g0 gk → gk.step = .ok (some (gE, r)) → r.end = true →
      EncAt body list s p w .ascii [(body.length - p, .ascii), (0, .ascii)] →
      g0.extra ≤ gE.cost ∧
      ((∃ s', encodeMode s = .ok s' ∧ s'.input = body ∧ s'.list = list ∧ s'.pos ≤ body.length ∧ s'.newMode = none ∧
          (s'.hasMore = true → s'.mode = .ascii ∧ s'.plan = [(0, .ascii)]) ∧
          12 * (s'.cw.length + asciiSize s'.rest) ≤ 12 * w + ceil12 (gE.cost - g0.extra) ∧ w ≤ s'.cw.length) ∨
       (encodeMode s = .error .tooMuch ∧ firstBigEnough list (w + ceil12 (gE.cost - g0.extra) / 12) = none)) := by
  intro body list p w k g0 gk gE r s hb hk hk1 hg0 hst hstep hend henc
  obtain ⟨hin, hlist, hpos, hcw, hmode, hplan, hnm⟩ := henc
  have hcl : s.charsLeft = body.length - p := by simp only [St.charsLeft, hin, hpos]
  rw [encodeMode_pop_own s hmode 0 .ascii [] (by rw [hplan, hcl]) (by rw [hcl]; omega)]
  refine (endSegS_ascii body list p w k g0 gk gE r { s with plan := [(0, .ascii)] } hb hk (Or.inr rfl) hg0 hst hstep hend
    ⟨hin, hlist, hpos, hcw, hmode, rfl, hnm⟩).imp id
    (CoupleSeg.Within.imp · fun s' _ ⟨⟨a, b, c, d, e, f, _⟩, hle⟩ => ⟨a, b, c, d, e, ?_, f⟩)
  have := PlanStep.ceil12_mod (gE.cost - g0.extra)
  omega

end DM.Lemmas.CoupleAscii
