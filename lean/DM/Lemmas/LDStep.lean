import DM.Lemmas.LDCore
import DM.Lemmas.LDRegular
import DM.Lemmas.LDSingular
/-
One iteration of the Levinson–Durbin loop preserves the algebraic invariant `LDAlg`: the closed
forms of the stages (`LDEq`) are read in the field, one lemma each, then the two cases
(`regV_alg`, `singV_alg`) and the step (`stepV_alg`).  No statement here mentions the monad.
Namespace: `LD`.
-/
namespace DM.Lemmas.LD
open DM.Model DM.Model.RS DM.Lemmas.RSTotal DM.Lemmas.RSTot

section stages
variable {syn w y : List Nat} {t v : Nat} (hs : Bytes syn) (ht : 2 * t ≤ syn.length)
  (hv1 : 1 ≤ v) (hw : w.length = v) (hy : y.length = v) (hbw : Bytes w) (hby : Bytes y)
  (h3 : Eq3 syn v y) (h4 : Eq4 syn v w)
include hs ht hv1 hw hy hbw hby h3 h4

theorem regV_alg (hvt : v < t) (epsV : Nat) (hepsb : epsV < 256) (hne : epsV ≠ 0)
    (heps : GF.ofNat epsV = H syn v (v + 1) (V (w ++ [1]))) :
    LDAlg syn t (regV syn v w y epsV) := by
  have hbt : Bytes (w ++ [1]) := bytes_snoc hbw (by omega)
  have hb0b := win_lt syn (w ++ [1]) (v + 1)
  have hb0 : GF.ofNat (win syn (w ++ [1]) (v + 1)) = H syn (v + 1) (v + 1) (V (w ++ [1])) :=
    ofNat_win hs hbt (by length_omega) (by omega)
  have hgb := win_lt syn y v
  have hg : GF.ofNat (win syn y v) = H syn v v (V y) := ofNat_win hs hby hy (by omega)
  have hinvb := gdivD_lt 1 epsV
  have hbgb : gadd (gdivD (win syn (w ++ [1]) (v + 1)) epsV) (win syn y v) < 256 :=
    xor_lt_256 (gdivD_lt _ epsV) hgb
  have hE : GF.ofNat epsV ≠ 0 := ofNat_ne_zero hepsb hne
  have hWb := regW_bytes w y v epsV (gadd (gdivD (win syn (w ++ [1]) (v + 1)) epsV) (win syn y v))
    hw hy hbw
  have hYb := regY_bytes w y v (gdivD 1 epsV) hw hy hinvb
  refine ⟨⟨Nat.le_add_left 1 v, hvt, regW_length _ _ _ _ _ hw hy, regY_length _ _ _ _ hw hy⟩,
    hWb, hYb, ?_, ?_⟩
  · -- the singular case with no jump (`n = v`): the rows below `v` vanish by (4)
    apply sing_eq3 syn w _ v v (GF.ofNat (gdivD 1 epsV)) hw (le_refl v)
      (regY_V w y v _ hw hy hbw hinvb) (P_rows syn w v hw h4)
    show H syn v (v + 1) (V (w ++ [1])) * _ = 1
    rw [← heps, ofNat_gdivD (by omega) hepsb hne, ofNat_one]
    exact mul_one_div_cancel hE
  · apply regular_eq4 syn w y _ v (GF.ofNat epsV)
      (GF.ofNat (gdivD (win syn (w ++ [1]) (v + 1)) epsV)) (GF.ofNat (win syn y v))
      hv1 hw hy h3 h4 (fun j => ?_) heps ?_ hg
    · rw [ofNat_gdivD hb0b hepsb hne, hb0]
      exact div_mul_cancel₀ _ hE
    · show V (regW w y v epsV _) j = _
      rw [regW_V w y v _ _ hw hy hbw hby hepsb hbgb, GF.ofNat_xor]

omit ht hv1 hy hby h3 h4 in
theorem ofNat_win_tau (j : Nat) (hj : j + v + 1 ≤ syn.length) :
    GF.ofNat (win syn (w ++ [1]) j) = tau syn w v j :=
  ofNat_win hs (bytes_snoc hbw (by omega)) (by length_omega) (by omega)

variable {m : Nat} (hlen : 2 * (v + m) + 2 ≤ syn.length)
include hlen

omit ht hv1 hy hby h3 h4 in
theorem sigmaV_alg (sigmaM : Nat) (hsMb : sigmaM < 256)
    (hsMv : GF.ofNat sigmaM = tau syn w v (m + v)) :
    Bytes (sigmaV syn (w ++ [1]) v m sigmaM) ∧
      ∀ k, k < m + 1 → V (sigmaV syn (w ++ [1]) v m sigmaM) k = tau syn w v (m + v + k) := by
  unfold sigmaV
  refine ⟨Bytes.cons hsMb fun x hx => ?_, fun k hk => ?_⟩
  · obtain ⟨k, -, rfl⟩ := List.mem_map.1 hx
    exact win_lt _ _ _
  · rcases k with _ | k
    · exact hsMv
    · rw [V_cons_succ, V, List.getD_eq_getElem?_getD, List.getElem?_map,
        List.getElem?_range' (by omega)]
      simp only [Option.map_some, Option.getD_some]
      rw [ofNat_win_tau hs hw hbw _ (by omega)]
      congr 1; omega

omit ht in
theorem tkV_alg : Bytes (tkV syn v w y m) ∧
    ∀ i, i < v → H syn i v (V (tkV syn v w y m)) = V syn (v + (m + 1) + i) := by
  have := foldl_range_inv (tkRound syn v w y)
    (fun k (tk : List Nat) => k ≤ m + 1 → tk.length = v ∧ Bytes tk ∧
      ∀ i, i < v → H syn i v (V tk) = V syn (v + k + i)) w (fun _ => ⟨hw, hbw, h4⟩) (m + 1)
    fun k hk tk hI hk' => by
      obtain ⟨htl, htb, hTK⟩ := hI (by omega)
      have hrb : gadd (syn.getD (2 * v + k) 0) (win syn tk v) < 256 :=
        xor_lt_256 (Bytes.getD hs _) (win_lt _ _ _)
      refine ⟨tkRound_length hv1 htl k, tkNext_bytes w y tk _ _ htb, ?_⟩
      apply tk_step syn w y tk _ v k
        (GF.ofNat (gadd (syn.getD (2 * v + k) 0) (win syn tk v)))
        (GF.ofNat (tk.getD (v - 1) 0)) hv1 h3 h4 hTK ?_ rfl
        (tkNext_V w y tk v _ _ hw hy htl hbw hby hrb (Bytes.getD htb _))
      rw [GF.ofNat_xor, ofNat_win hs htb htl (by omega)]; rfl
  exact (this (Nat.le_refl _)).2

omit ht hv1 hw hy hbw hby h3 h4 in
theorem gam0V_alg (tk : List Nat) (htl : tk.length = v) (htb : Bytes tk) :
    Bytes (gam0V syn v m tk) ∧ ∀ i, i < m + 1 →
      V (gam0V syn v m tk) i = V syn (m + v + v + 1 + i) + H syn (v + i) v (V tk) := by
  unfold gam0V
  refine ⟨fun x hx => ?_, fun i hi => ?_⟩
  · obtain ⟨i, -, rfl⟩ := List.mem_map.1 hx
    exact xor_lt_256 (Bytes.getD hs _) (win_lt _ _ _)
  · rw [V_map_range, if_pos hi, GF.ofNat_xor, ofNat_win hs htb htl (by omega)]; rfl

end stages

theorem gamV_alg (sigma gam0 : List Nat) (m : Nat) (hsb : Bytes sigma) (h0 : sigma.getD 0 0 ≠ 0)
    (hgl : gam0.length = m + 1) (hgb : Bytes gam0) :
    Bytes (gamV sigma m (sigma.getD 0 0) gam0) ∧ ∀ i, i < m + 1 →
      ∑ j ∈ Finset.range (i + 1), V sigma (i - j) * V (gamV sigma m (sigma.getD 0 0) gam0) j
        = V gam0 i := by
  have hsig0b := Bytes.getD hsb 0
  have := foldl_range_inv (gamRound sigma (sigma.getD 0 0))
    (fun i (gam : List Nat) => i ≤ m + 1 → gam.length = m + 1 ∧ Bytes gam ∧
      (∀ i', i' < i → ∑ j ∈ Finset.range (i' + 1), V sigma (i' - j) * V gam j = V gam0 i') ∧
      (∀ i', i ≤ i' → V gam i' = V gam0 i')) gam0
    (fun _ => ⟨hgl, hgb, fun i' hi' => by omega, fun i' _ => rfl⟩) (m + 1)
    fun i hi gam hI _ => by
      obtain ⟨hgl, hgb, hdone, htodo⟩ := hI (by omega)
      -- the inner loop accumulates `γ⁰_i + Σ_{j < i} σ_{i-j} γ_j`
      obtain ⟨hgib, hgiv⟩ := foldl_range_inv
        (fun gi j => gadd gi (gmul (sigma.getD (i - j) 0) (gam.getD j 0)))
        (fun j (gi : Nat) => gi < 256 ∧ GF.ofNat gi = V gam i
          + ∑ j' ∈ Finset.range j, V sigma (i - j') * V gam j') (gam.getD i 0)
        ⟨Bytes.getD hgb i, by rw [Finset.sum_range_zero, add_zero]; rfl⟩ i
        fun j _ gi ⟨hgib, hgiv⟩ => by
          refine ⟨xor_lt_256 hgib (gmul_lt' _ _), ?_⟩
          rw [GF.ofNat_xor, GF.ofNat_gmul (Bytes.getD hsb (i - j)) (Bytes.getD hgb j), hgiv,
            Finset.sum_range_succ, add_assoc]
          rfl
      unfold gamRound
      generalize (List.range i).foldl _ (gam.getD i 0) = gi at hgib hgiv
      have hq : V sigma 0 * GF.ofNat (gdivD gi (sigma.getD 0 0)) = GF.ofNat gi := by
        rw [ofNat_gdivD hgib hsig0b h0, mul_comm]
        exact div_mul_cancel₀ _ (ofNat_ne_zero hsig0b h0)
      have hold : ∀ i', i' ≤ i → ∑ j ∈ Finset.range i',
          V sigma (i' - j) * V (gam.set i (gdivD gi (sigma.getD 0 0))) j
          = ∑ j ∈ Finset.range i', V sigma (i' - j) * V gam j := by
        intro i' hi'
        apply Finset.sum_congr rfl
        intro j hj
        have := Finset.mem_range.mp hj
        rw [V_set, if_neg (by omega)]
      refine ⟨by simp only [List.length_set]; exact hgl, hgb.set _ (gdivD_lt _ _), ?_, ?_⟩
      · intro i' hi'
        by_cases hlt : i' < i
        · rw [← hdone i' hlt, Finset.sum_range_succ, Finset.sum_range_succ, hold i' (by omega),
            V_set, if_neg (by omega)]
        · have : i' = i := by omega
          subst this
          rw [Finset.sum_range_succ, V_set, if_pos ⟨rfl, by omega⟩, Nat.sub_self, hq, hgiv,
            htodo i' (Nat.le_refl _), hold i' (Nat.le_refl _)]
          linear_combination (∑ j ∈ Finset.range i', V sigma (i' - j) * V gam j) * two_eq_zero
      · intro i' h1
        rw [V_set, if_neg (by omega)]
        exact htodo i' (by omega)
  obtain ⟨_, hb, hdone, _⟩ := this (Nat.le_refl _)
  exact ⟨hb, hdone⟩

theorem twV_alg (w tk gam : List Nat) (v m : Nat) (hw : w.length = v) (hbw : Bytes w)
    (htl : tk.length = v) (htb : Bytes tk) (hgb : Bytes gam) :
    Bytes (twV w v m tk gam) ∧
      ∀ q, V (twV w v m tk gam) q
        = V tk q + ∑ i ∈ Finset.range (m + 1), V gam i * Psh w (m - i) q := by
  have := foldl_range_inv (fun tw i => twStep w tw v (m - i) (gam.getD i 0))
    (fun i (tw : List Nat) => i ≤ m + 1 → tw.length = m + v + 1 ∧ Bytes tw ∧
      ∀ q, V tw q = V tk q + ∑ i' ∈ Finset.range i, V gam i' * Psh w (m - i') q)
    (tk ++ List.replicate (m + v + 1 - tk.length) 0)
    (fun _ => by
      refine ⟨by length_omega, Bytes.append htb (Bytes.replicate_zero _), fun q => ?_⟩
      rw [Finset.sum_range_zero, add_zero, V_append]
      split
      · rfl
      · rw [V_replicate_zero, V_of_ge (by omega)]) (m + 1)
    fun i hi tw hI _ => by
      obtain ⟨htwl, htwb, htwv⟩ := hI (by omega)
      have hgib := Bytes.getD hgb i
      refine ⟨(twStep_length w tw v (m - i) (gam.getD i 0)).trans htwl,
        twStep_bytes w tw v (m - i) _ htwb hgib, fun q => ?_⟩
      rw [Finset.sum_range_succ, ← add_assoc, ← htwv q]
      exact twStep_V w tw v (m - i) _ hw hbw hgib (by omega) q
  obtain ⟨_, hb, hv⟩ := this (Nat.le_refl _)
  exact ⟨hb, hv⟩

theorem singV_alg {syn w y : List Nat} {t v m : Nat} (hs : Bytes syn) (ht : 2 * t ≤ syn.length)
    (hv1 : 1 ≤ v) (hw : w.length = v) (hy : y.length = v) (hbw : Bytes w) (hby : Bytes y)
    (h3 : Eq3 syn v y) (h4 : Eq4 syn v w) (hmt : v + m < t) (sigmaM : Nat) (hsMb : sigmaM < 256)
    (hsM : sigmaM ≠ 0) (hsMv : GF.ofNat sigmaM = tau syn w v (m + v))
    (hτ : ∀ i, i < m + v → tau syn w v i = 0) :
    LDAlg syn t (singV syn v w y m sigmaM) := by
  have hlen : 2 * (v + m) + 2 ≤ syn.length := by omega
  obtain ⟨hsb, hsv⟩ := sigmaV_alg hs hw hbw hlen sigmaM hsMb hsMv
  have htl := tkV_length (syn := syn) (y := y) (m := m) hv1 hw
  obtain ⟨htb, hTK⟩ := tkV_alg hs hv1 hw hy hbw hby h3 h4 hlen
  obtain ⟨hg0b, hg0v⟩ := gam0V_alg hs hlen _ htl htb
  have hg0l := gam0V_length syn v m (tkV syn v w y m)
  have hSM : GF.ofNat sigmaM ≠ 0 := ofNat_ne_zero hsMb hsM
  have hsig0 : (sigmaV syn (w ++ [1]) v m sigmaM).getD 0 0 = sigmaM := rfl
  obtain ⟨hgb, hgv⟩ := gamV_alg _ _ m hsb (by rw [hsig0]; exact hsM) hg0l hg0b
  rw [hsig0] at hgb hgv
  obtain ⟨htwb, htwv⟩ := twV_alg w _ _ v m hw hbw htl htb hgb
  have hsInvb := gdivD_lt 1 sigmaM
  refine ⟨⟨Nat.le_add_left 1 _, by show m + v + 1 ≤ t; omega, twV_length _ htl,
    singY_length w (m + v) (gdivD 1 sigmaM)⟩, htwb, singY_bytes w (m + v) _ hsInvb, ?_, ?_⟩
  · apply sing_eq3 syn w _ v (m + v) (GF.ofNat (gdivD 1 sigmaM)) hw (by omega)
      (singY_V w v (m + v) _ hw (by omega) hbw hsInvb) hτ
    rw [← hsMv, ofNat_gdivD (by omega) hsMb hsM, ofNat_one]
    exact mul_one_div_cancel hSM
  · refine sing_eq4 syn w _ _ v m (V _) hw htl hTK hτ (fun i hi => ?_) htwv
    rw [← hg0v i hi, ← hgv i hi]
    apply Finset.sum_congr rfl
    intro j hj
    have := Finset.mem_range.mp hj
    rw [hsv (i - j) (by omega), show m + v + (i - j) = m + v + i - j by omega]

theorem stepV_alg (syn : List Nat) (t : Nat) (st st' : LDSt) (ht : 2 * t ≤ syn.length)
    (hs : Bytes syn) (hinv : LDAlg syn t st) (hvt : st.v < t) (h : stepV syn t st = some st') :
    LDAlg syn t st' := by
  obtain ⟨⟨hv1, _, hw, hy⟩, hbw, hby, h3, h4⟩ := hinv
  have hτ := fun j => ofNat_win_tau (v := st.v) hs hw hbw j
  have hc := stepV_cases syn t st
  rw [h] at hc
  cases hc with
  | reg hne => exact regV_alg hs ht hv1 hw hy hbw hby h3 h4 hvt _ (win_lt _ _ _) hne (hτ _ (by omega))
  | sing m h1 hmt hz hne =>
    refine singV_alg hs ht hv1 hw hy hbw hby h3 h4 hmt _ (win_lt _ _ _) hne
      (by rw [hτ _ (by omega), Nat.add_comm]) fun i hi => ?_
    -- the rows below `v` vanish by (4), those from `v` on because the search passed them
    by_cases hlt : i < st.v
    · exact P_rows syn st.w st.v hw h4 i hlt
    · rw [← hτ i (by omega), hz i (by omega) (by omega)]; rfl

end DM.Lemmas.LD
