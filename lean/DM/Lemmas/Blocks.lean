/-
Numbers below `R * n` as `R` blocks of `n`: `c * n + x` with `x < n` has quotient `c` and remainder `x`, lies
below `R * n` when `c < R`, and every number below `R * n` is of that form.
Namespace: `DM.Lemmas`.
-/
namespace DM.Lemmas

theorem div_mod_block {b x : Nat} (c : Nat) (hx : x < b) : (c * b + x) / b = c ∧ (c * b + x) % b = x := by
  have hb : 0 < b := by omega
  rw [Nat.mul_comm, Nat.mul_add_div hb, Nat.mul_add_mod, Nat.div_eq_of_lt hx, Nat.mod_eq_of_lt hx]
  exact ⟨rfl, rfl⟩

theorem div_mod_block' {b x : Nat} (c : Nat) (hx : x < b) : (b * c + x) / b = c ∧ (b * c + x) % b = x :=
  Nat.mul_comm c b ▸ div_mod_block c hx

theorem block_inj {n x y x' y' : Nat} (hy : y < n) (hy' : y' < n)
    (h : x * n + y = x' * n + y') : x = x' ∧ y = y' := by
  have h1 := div_mod_block x hy
  rw [h] at h1
  exact ⟨h1.1.symm.trans (div_mod_block x' hy').1, h1.2.symm.trans (div_mod_block x' hy').2⟩

theorem block_lt {R n c x : Nat} (hc : c < R) (hx : x < n) : c * n + x < R * n := by
  rwa [← Nat.div_lt_iff_lt_mul (Nat.zero_lt_of_lt hx), (div_mod_block c hx).1]

theorem block_lt_iff {R n c x : Nat} (hx : x < n) : c * n + x < R * n ↔ c < R := by
  rw [← Nat.div_lt_iff_lt_mul (Nat.zero_lt_of_lt hx), (div_mod_block c hx).1]

theorem exists_block {R n x : Nat} (hx : x < R * n) : ∃ c r, c < R ∧ r < n ∧ c * n + r = x :=
  ⟨x / n, x % n, Nat.div_lt_of_lt_mul (by rwa [Nat.mul_comm]),
    Nat.mod_lt _ (Nat.pos_of_mul_pos_left (Nat.zero_lt_of_lt hx)), Nat.div_add_mod' x n⟩

/-- `i` is `j` whole groups of `c` and `t < c` more: read an invariant that counts in groups at `i = c * j + t` and
no quotient or remainder is left in sight -/
theorem exists_groups (c i : Nat) (hc : 0 < c) : ∃ j t, i = c * j + t ∧ t < c :=
  ⟨i / c, i % c, (Nat.div_add_mod i c).symm, Nat.mod_lt _ hc⟩

theorem exists_lt_mul {a b : Nat} {P : Nat → Nat → Prop} :
    (∃ t, t < a ∧ ∃ x, x < b ∧ P t x) ↔ ∃ j, j < a * b ∧ P (j / b) (j % b) := by
  constructor
  · rintro ⟨t, ht, x, hx, h⟩
    obtain ⟨e1, e2⟩ := div_mod_block t hx
    exact ⟨t * b + x, block_lt ht hx, by rwa [e1, e2]⟩
  · rintro ⟨j, hj, h⟩
    exact ⟨j / b, Nat.div_lt_of_lt_mul (by rwa [Nat.mul_comm]), j % b,
      Nat.mod_lt _ (Nat.pos_of_mul_pos_left (Nat.zero_lt_of_lt hj)), h⟩

end DM.Lemmas
