import DM.Lemmas.CoupleSeg
import DM.Lemmas.PlanRunX12
import DM.Lemmas.EncStep
import DM.Lemmas.SymbolList
/-!
# Planner / encoder coupling for X12 (`SwitchSeg .x12`, `EndSegS .x12 1`)

The encoder runs over native triples while no switch is due (`x12Loop_run`).  A segment that ends with a switch is cut into
the planner half (`x12_switch_plan`, `Lemmas/PlanRunX12.lean`) and an encoder half (`x12_switch_enc`) that meet in `X12Seg`,
the segment as data.

`EndSeg .x12` as stated is **false** (`not_endSeg_x12`): when the segment is a whole number of triples and the
symbol still has room, `x12::encode` writes an UNLATCH (254) the planner does not price (it cannot change the
symbol size).  `endSeg_x12_gen` proves the statement with that case spelled out as an alternative, in terms of the
whole number `n` of codewords the plan has charged (`gE.cost = g0.extra + 12 * n`);
`endSeg_x12_noSpare` is `EndSeg .x12` verbatim under the extra decidable hypothesis `NoSpareAtEnd` that excludes the case.
-/
namespace DM.Lemmas.CoupleX12
open DM.Model DM.Model.Plan DM.Model.Enc DM.Lemmas.AsciiRT DM.Lemmas.Couple DM.Lemmas.CoupleSeg DM.Lemmas.PlanStep
open DM.Lemmas.PlanInv (CtxAt Core hasMore_iff rest_eq charsLeft_eq peek_eq)

theorem x12Enc_native (ch : Nat) (h : isNativeX12 ch = true) : ∃ v, x12Enc ch = .ok v := by
  simp only [isNativeX12, isDigit, Bool.or_eq_true, beq_iff_eq, Bool.and_eq_true, decide_eq_true_eq] at h
  unfold x12Enc
  by_cases h1 : ch = 13
  · exact ⟨_, if_pos h1⟩
  rw [if_neg h1]
  by_cases h2 : ch = 42
  · exact ⟨_, if_pos h2⟩
  rw [if_neg h2]
  by_cases h3 : ch = 62
  · exact ⟨_, if_pos h3⟩
  rw [if_neg h3]
  by_cases h4 : ch = 32
  · exact ⟨_, if_pos h4⟩
  rw [if_neg h4]
  by_cases h5 : 48 ≤ ch ∧ ch ≤ 57
  · exact ⟨_, if_pos h5⟩
  rw [if_neg h5]
  exact ⟨_, if_pos (by omega)⟩

theorem rest3 (s : St) (h : s.pos + 3 ≤ s.input.length) :
    s.rest = s.input.getD s.pos 0 :: s.input.getD (s.pos + 1) 0 :: s.input.getD (s.pos + 2) 0 :: s.input.drop (s.pos + 3) := by
  unfold St.rest
  rw [List.drop_eq_getElem_cons (by omega), List.drop_eq_getElem_cons (by omega : s.pos + 1 < _),
    List.drop_eq_getElem_cons (by omega : s.pos + 1 + 1 < _)]
  simp only [List.getD_eq_getElem?_getD]
  rw [List.getElem?_eq_getElem (by omega), List.getElem?_eq_getElem (by omega), List.getElem?_eq_getElem (by omega)]
  rfl

theorem x12Loop_triple {body list plan P W} (s : St) (h : EncAt body list s P W .x12 plan) (h3 : P + 3 ≤ body.length)
    (hn : ∀ x, x < 3 → isNativeX12 (body.getD (P + x) 0) = true) :
    ∃ s1, EncAt body list s1 (P + 3) (W + 2) .x12 plan ∧
      ∀ f, x12Loop (f + 1) s = match s1.maybeSwitch with
        | .error e => .error e
        | .ok (true, s2) => .ok (s2, true)
        | .ok (false, s2) => x12Loop f s2 := by
  obtain ⟨rfl, hl, rfl, hc, hm, hpl, hnm⟩ := h
  obtain ⟨v1, e1⟩ := x12Enc_native _ (hn 0 (by omega))
  obtain ⟨v2, e2⟩ := x12Enc_native _ (hn 1 (by omega))
  obtain ⟨v3, e3⟩ := x12Enc_native _ (hn 2 (by omega))
  refine ⟨writeThree { s with pos := s.pos + 3 } v1 v2 v3, ⟨rfl, hl, rfl, ?_, hm, hpl, hnm⟩, fun f => ?_⟩
  · simp only [writeThree, St.push, List.length_append, List.length_singleton, hc]
  · rw [x12Loop, if_pos (by simp only [St.charsLeft]; omega), rest3 s h3]
    simp only [Nat.add_zero] at e1
    simp only [e1, e2, e3]
    rfl

theorem x12Loop_run {body list at_ m rest} (n : Nat) (s : St) (P W : Nat)
    (h : EncAt body list s P W .x12 ((at_, m) :: rest)) (hle : P + 3 * n ≤ body.length)
    (hat : at_ = 0 ∨ at_ + P + 3 * n < body.length)
    (hnat : ∀ x, x < 3 * n → isNativeX12 (body.getD (P + x) 0) = true) :
    ∃ s', EncAt body list s' (P + 3 * n) (W + 2 * n) .x12 ((at_, m) :: rest) ∧
      ∀ f, x12Loop (f + n) s = x12Loop f s' := by
  refine rounds x12Loop (fun i s => EncAt body list s (P + 3 * i) (W + 2 * i) .x12 ((at_, m) :: rest)) n
    (fun i s0 hi h0 => ?_) n s (Nat.le_refl n) h
  obtain ⟨s1, h1, e1⟩ := x12Loop_triple s0 h0 (by omega)
    (fun x hx => by rw [Nat.add_assoc]; exact hnat (3 * i + x) (by omega))
  exact ⟨s1, h1, fun f => by rw [e1, h1.stay (by omega)]⟩

theorem x12Loop_switch {body list p w m' rest} (s : St) (j : Nat)
    (h : EncAt body list s p w .x12 ((body.length - (p + 3 * (j + 1)), m') :: rest))
    (hlt : p + 3 * (j + 1) < body.length) (hm' : m' ≠ .x12)
    (hnat : ∀ x, x < 3 * (j + 1) → isNativeX12 (body.getD (p + x) 0) = true) :
    ∃ s', x12Loop (s.charsLeft + 2) s = .ok (s', true) ∧ Sync body list (p + 3 * (j + 1)) (w + 2 * (j + 1)) m' rest s' := by
  obtain ⟨f, hf⟩ : ∃ f, s.charsLeft + 2 = f + 1 + j := ⟨s.charsLeft + 1 - j, by rw [h.charsLeft]; omega⟩
  obtain ⟨s1, h1, e1⟩ := x12Loop_run j s p w h (by omega) (Or.inr (by omega)) (fun x hx => hnat x (by omega))
  obtain ⟨s2, h2, e2⟩ := x12Loop_triple s1 h1 (by omega)
    (fun x hx => by rw [Nat.add_assoc]; exact hnat (3 * j + x) (by omega))
  obtain ⟨s3, hgo, hs3, -⟩ := EncAt.go (p := p + 3 * j + 3) (w := w + 2 * j + 2) h2 hlt hm'
  exact ⟨s3, by rw [hf, e1, e2, hgo], hs3⟩

theorem x12Loop_end {body list p w} (s : St) (j t : Nat) (h : EncAt body list s p w .x12 [(0, .x12)])
    (hpk : p + (3 * j + t) = body.length) (ht : t < 3)
    (hnat : ∀ x, x < 3 * j → isNativeX12 (body.getD (p + x) 0) = true) :
    ∃ s', x12Loop (s.charsLeft + 2) s = .ok (s', false) ∧
      EncAt body list s' (p + 3 * j) (w + 2 * j) .x12 [(0, .x12)] ∧ s'.charsLeft = t := by
  obtain ⟨s1, h1, e1⟩ := x12Loop_run j s p w h (by omega) (Or.inl rfl) hnat
  refine ⟨s1, ?_, h1, by rw [h1.charsLeft]; omega⟩
  rw [h.charsLeft, show body.length - p + 2 = (2 * j + t + 1) + 1 + j by omega, e1, x12Loop, if_neg (by rw [h1.charsLeft]; omega)]

theorem x12Encode_tail (s s2 : St) (sw : Bool) (hl : x12Loop (s.charsLeft + 2) s = .ok (s2, sw)) :
    x12Encode s = EncStep.x12Tail s2 sw := by
  rw [EncStep.x12Encode_eq, hl]

theorem x12_switch_enc {body list p w k j} {m' : EMode} {rest : List (Nat × EMode)} {s : St} (hlt : p + k < body.length)
    (hseg : X12Seg body list p w k j) (hm' : m' ≠ .x12)
    (henc : EncAt body list s p w .x12 ((body.length - (p + k), m') :: rest)) :
    Within list (w + (2 * (j + 1) + 1)) (encodeMode s) (Sync body list (p + k) (w + (2 * (j + 1) + 1)) m' rest) := by
  obtain ⟨rfl, n5, hdead⟩ := hseg
  obtain ⟨s2, e0, e1, e2, e3, e4, e5, e6, e7⟩ := x12Loop_switch s j henc hlt hm' n5
  rw [encodeMode, henc.2.2.2.2.1]
  show Within _ _ (x12Encode s) _
  have hcl : s2.charsLeft = body.length - (p + 3 * (j + 1)) := by rw [St.charsLeft, e1, e3]
  by_cases hfew : body.length - (p + 3 * (j + 1)) ≤ 2
  · obtain ⟨f1, f2⟩ := hdead hfew
    refine .inr ⟨?_, f2⟩
    rw [x12Encode_tail s s2 true e0, EncStep.x12Tail, if_pos ⟨hcl ▸ hfew, by rw [St.rest, e1, e3]; exact f1⟩, e2, e4,
      CoupleC40.szLeft_eq_none_iff.mpr f2]
  · rw [x12Encode_tail s s2 true e0, EncStep.x12Tail, if_neg (fun h => hfew (hcl ▸ h.1)),
      if_pos (by rw [St.hasMore, e1, e3, decide_eq_true hlt])]
    exact .ok rfl ⟨e1, e2, e3, (List.length_append).trans (congrArg (· + 1) e4), e5, e6, e7⟩

theorem switchSeg_x12 : SwitchSeg .x12 := by
  intro body list p w k g0 gk ac ctx' m' rest s _ hlt hk hg0 hst hsp hsc hul hm' henc
  obtain ⟨j, h1, h2, h3⟩ := x12_switch_plan hlt (hk.resolve_right (by decide)) hg0 hst hsp hsc hul
  rw [h1]
  exact ⟨by omega, by omega, x12_switch_enc hlt h3 hm' henc⟩

theorem endSeg_x12_gen (body : List Nat) (list : List Sym) (p w k : Nat) (g0 gk gE : GPlan) (r : StepResult) (s : St)
    (hpk : p + k = body.length) (hk : 1 ≤ k ∨ EMode.x12 = .ascii)
    (hg0 : g0.plan = newPlan .x12 (ctxAt body list p w))
    (hst : StepsTo k g0 gk) (hstep : gk.step = .ok (some (gE, r)))
    (henc : EncAt body list s p w .x12 [(0, .x12)]) :
    ∃ n, gE.cost = g0.extra + 12 * n ∧
    ((∃ s', encodeMode s = .ok s' ∧ s'.input = body ∧ s'.list = list ∧ s'.pos ≤ body.length ∧ s'.newMode = none ∧
        (s'.hasMore = true → s'.mode = .ascii ∧ s'.plan = [(0, .ascii)]) ∧ w ≤ s'.cw.length ∧
        (s'.cw.length + asciiSize s'.rest ≤ w + n ∨
         (k % 3 = 0 ∧ n = 2 * (k / 3) ∧ s'.cw.length + asciiSize s'.rest = w + n + 1 ∧
          ∃ sym, firstBigEnough list (w + n) = some sym ∧ w + n + 1 ≤ dataCw sym))) ∨
     (encodeMode s = .error .tooMuch ∧ firstBigEnough list (w + n) = none)) := by
  obtain ⟨j, t, rfl, ht, hnat, hq⟩ := x12_end_plan hpk hg0 hst hstep
  obtain ⟨s2, e0, h2, hcl2⟩ := x12Loop_end s j t henc hpk ht hnat
  have ⟨e1, e2, e3, e4, _, _, e7⟩ := h2
  rw [encodeMode, henc.2.2.2.2.1]
  show ∃ n, _ ∧ ((∃ s', x12Encode s = _ ∧ _) ∨ x12Encode s = _ ∧ _)
  have hrest : s2.rest = body.drop (p + 3 * j) := h2.rest
  have hpos2 : s2.pos ≤ body.length := by omega
  have hw2 : w ≤ s2.cw.length := e4 ▸ Nat.le_add_right w _
  have hlen : (s2.setAscii.push 254).cw.length = w + 2 * j + 1 := by
    simp only [St.push, St.setAscii, List.length_append, List.length_singleton, e4]
  have hwl : w ≤ (s2.setAscii.push 254).cw.length := hlen ▸ Nat.le_succ_of_le (Nat.le_add_right w _)
  rcases hq with ⟨rfl, hc⟩ | ⟨ht0, c0, hc, hE⟩
  · have hr : s2.rest = [] := by rw [hrest]; exact List.drop_eq_nil_of_le (Nat.le_of_eq hpk.symm)
    refine ⟨2 * j, by omega, ?_⟩
    have hm : s2.hasMore = false := by rw [h2.hasMore]; exact decide_eq_false (Nat.lt_irrefl _ |> (hpk ▸ ·))
    rw [x12Encode_tail s s2 false e0, EncStep.x12Tail, if_neg (by rw [hr]; simp [asciiSize]), hm, if_neg (by decide), e2, e4,
      Nat.add_zero]
    cases hf : CoupleC40.szLeft list (w + 2 * j) with
    | none => exact Or.inr ⟨rfl, CoupleC40.szLeft_eq_none_iff.mp hf⟩
    | some r =>
      obtain ⟨sym, hsym, hcap⟩ := CoupleC40.szLeft_eq_some_iff.mp hf
      left
      simp only [Bool.not_false, ↓reduceIte]
      by_cases h0 : r > 0
      · rw [if_pos h0]
        refine ⟨_, rfl, e1, e2, hpos2, e7, fun _ => ⟨rfl, rfl⟩, hwl,
          Or.inr ⟨Nat.mul_mod_right 3 j, (Nat.mul_div_cancel_left j (by decide : 0 < 3)).symm ▸ rfl, ?_, sym, hsym, by omega⟩⟩
        rw [show (s2.setAscii.push 254).rest = s2.rest from rfl, hr, hlen]
        rfl
      · rw [if_neg h0]
        refine ⟨s2, rfl, e1, e2, hpos2, e7, fun h => ?_, hw2, Or.inl ?_⟩
        · rw [hm] at h; cases h
        · rw [hr, e4]
          exact Nat.le_refl _
  · -- the planner decided for an ASCII tail at the last triple boundary; `EndC` is its view of what follows
    have hm2 : s2.hasMore = true := by rw [h2.hasMore, decide_eq_true (by omega)]
    generalize hasz : asciiSize (body.drop (p + 3 * j)) = asz at hc hE
    have hasz2 : asciiSize s2.rest = asz := by rw [hrest]; exact hasz
    rw [x12Encode_tail s s2 false e0, EncStep.x12Tail]
    rcases hE with ⟨rfl, r, hf, hc0⟩ | ⟨h1, rfl⟩
    · rw [if_pos ⟨hcl2 ▸ Nat.le_of_lt_succ ht, hasz2⟩, e2, e4, hf]
      simp only [Bool.not_false, ↓reduceIte]
      by_cases h0 : r = 0
      · rw [if_pos h0] at hc0 ⊢
        refine ⟨2 * j + 1, by omega, Or.inl ⟨_, rfl, e1, e2, hpos2, e7, fun _ => ⟨rfl, rfl⟩, hw2, Or.inl ?_⟩⟩
        rw [show s2.setAscii.rest = s2.rest from rfl, hasz2, show s2.setAscii.cw = s2.cw from rfl, e4]
        exact Nat.le_of_eq (Nat.add_assoc _ _ _)
      · rw [if_neg h0] at hc0 ⊢
        refine ⟨2 * j + 2, by omega, Or.inl ⟨_, rfl, e1, e2, hpos2, e7, fun _ => ⟨rfl, rfl⟩, hwl, Or.inl ?_⟩⟩
        rw [show (s2.setAscii.push 254).rest = s2.rest from rfl, hasz2, hlen]
        exact Nat.le_of_eq (Nat.add_assoc _ _ _)
    · rw [if_neg (fun h => h1 (hasz2 ▸ h.2)), if_pos hm2]
      simp only [Bool.not_false, ↓reduceIte]
      refine ⟨2 * j + 1 + asz, by omega, Or.inl ⟨_, rfl, e1, e2, hpos2, e7, fun _ => ⟨rfl, rfl⟩, hwl, Or.inl ?_⟩⟩
      rw [show (s2.setAscii.push 254).rest = s2.rest from rfl, hasz2, hlen]
      omega

theorem endSegS_x12 : EndSegS .x12 1 := by
  intro body list p w k g0 gk gE r s hb hpk hk hg0 hst hstep hend henc
  obtain ⟨n, hn, b⟩ := endSeg_x12_gen body list p w k g0 gk gE r s hpk hk hg0 hst hstep henc
  rw [hn, Nat.add_sub_cancel_left, ceil12_mul, Nat.mul_div_cancel_left n (by decide : 0 < 12)]
  refine ⟨Nat.le_add_right _ _, Within.imp b fun s' _ ⟨b2, b3, b4, b5, b6, b7, b8⟩ => ⟨⟨b2, b3, b4, b5, b6, b7, fun sym hsym => ?_⟩, ?_⟩⟩
  · rcases b8 with h | ⟨_, _, c3, sym', c4, c5⟩
    · exact CoupleC40.Fits.of_le h sym hsym
    · cases c4.symm.trans hsym
      exact c3 ▸ c5
  · rcases b8 with h | ⟨_, _, c3, _⟩
    · exact Nat.le_succ_of_le h
    · exact Nat.le_of_eq c3

def NoSpareAtEnd (list : List Sym) (w k : Nat) : Prop :=
  k % 3 = 0 → match firstBigEnough list (w + 2 * (k / 3)) with
    | some sym => dataCw sym ≤ w + 2 * (k / 3)
    | none => True

instance (list : List Sym) (w k : Nat) : Decidable (NoSpareAtEnd list w k) := by
  unfold NoSpareAtEnd
  cases firstBigEnough list (w + 2 * (k / 3)) <;> simp only [] <;> infer_instance

theorem endSeg_x12_noSpare (body : List Nat) (list : List Sym) (p w k : Nat) (g0 gk gE : GPlan) (r : StepResult) (s : St)
    (hb : ByteList body) (hpk : p + k = body.length) (hk : 1 ≤ k ∨ EMode.x12 = .ascii)
    (hg0 : g0.plan = newPlan .x12 (ctxAt body list p w))
    (hst : StepsTo k g0 gk) (hstep : gk.step = .ok (some (gE, r))) (hend : r.end = true)
    (henc : EncAt body list s p w .x12 [(0, .x12)]) (hns : NoSpareAtEnd list w k) :
    g0.extra ≤ gE.cost ∧
    ((∃ s', encodeMode s = .ok s' ∧ s'.input = body ∧ s'.list = list ∧ s'.pos ≤ body.length ∧ s'.newMode = none ∧
        (s'.hasMore = true → s'.mode = .ascii ∧ s'.plan = [(0, .ascii)]) ∧
        12 * (s'.cw.length + asciiSize s'.rest) ≤ 12 * w + ceil12 (gE.cost - g0.extra)) ∨
     (encodeMode s = .error .tooMuch ∧ firstBigEnough list (w + ceil12 (gE.cost - g0.extra) / 12) = none)) := by
  obtain ⟨n, hn, b⟩ := endSeg_x12_gen body list p w k g0 gk gE r s hpk hk hg0 hst hstep henc
  rw [hn, Nat.add_sub_cancel_left, ceil12_mul, Nat.mul_div_cancel_left n (by decide : 0 < 12)]
  refine ⟨Nat.le_add_right _ _, ?_⟩
  rcases b with ⟨s', b1, b2, b3, b4, b5, b6, _, b8⟩ | b
  · left
    refine ⟨s', b1, b2, b3, b4, b5, b6, ?_⟩
    rcases b8 with h | ⟨c1, c2, _, sym, c4, c5⟩
    · omega
    · -- the unpriced UNLATCH needs room in the symbol, which `NoSpareAtEnd` excludes
      exfalso
      have := hns c1
      rw [← c2, c4] at this
      exact Nat.not_succ_le_self _ (Nat.le_trans c5 this)
  · right; exact b

/-! ### `EndSeg .x12` as stated in `Couple.lean` is false

`body = "AAA"`, the only symbol is 10×10 (3 data codewords), `p = w = 0`: the plan costs two codewords, the encoder
writes the triple and, as the symbol has room, an UNLATCH: `[89, 191, 254]`. -/

def cexG (i wr : Nat) : GPlan :=
  { extra := 0, switches := [],
    plan := PlanImpl.x12 ⟨{ data := [65, 65, 65], pos := i, written := wr, list := [0] }, i % 3, none, 8 * i⟩ }

def cexS : St :=
  { input := [65, 65, 65], pos := 0, mode := .x12, plan := [(0, .x12)], newMode := none, cw := [], list := [0] }

theorem not_endSeg_x12 : ¬ EndSeg .x12 := by
  intro h
  have hst : StepsTo 3 (cexG 0 0) (cexG 3 2) :=
    ⟨cexG 1 0, ⟨false, false⟩, rfl, rfl, cexG 2 0, ⟨false, false⟩, rfl, rfl, cexG 3 2, ⟨false, false⟩, rfl, rfl, rfl⟩
  have he : encodeMode cexS =
      .ok { input := [65, 65, 65], pos := 3, mode := .ascii, plan := [(0, .ascii)], newMode := none, cw := [89, 191, 254], list := [0] } :=
    rfl
  exact Within.not_of_ok he (by decide)
    (h [65, 65, 65] [0] 0 0 3 (cexG 0 0) (cexG 3 2) (cexG 3 2) { «end» := true, unbeatable := false } cexS
      (by intro b hb; simp at hb; omega) rfl (Or.inl (by decide)) rfl hst rfl rfl ⟨rfl, rfl, rfl, rfl, rfl, rfl, rfl⟩).2

end DM.Lemmas.CoupleX12
