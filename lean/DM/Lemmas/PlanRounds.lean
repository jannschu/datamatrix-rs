import DM.Lemmas.PlanLoop
import DM.Lemmas.PlanSwitch
/-!
The planner's main loop, one round at a time. `Round`: one pass of `iteratePlans` and what pruning leaves of it, in terms
of steps and switch children (`PlanSwitch.Child`). `optLoop_inv`: the one induction over `optLoop`, for an invariant of
the list of live plans that its user shows round by round; that the loop neither panics nor runs out of fuel, does
linear work and keeps at most 36 plans is part of its conclusion. `optimize_inv`: the same for `optimize`. Plan shape
and totality (`Props/Planner`), the cost bounds of C10 and the history of the returned plan (`PlanHist`) are instances.
-/
namespace DM.Lemmas.PlanRounds
open DM.Model DM.Model.Plan DM.Model.Enc DM.Lemmas.PlanInv DM.Lemmas.PlanLoop DM.Lemmas.Couple DM.Lemmas.PlanSwitch
open DM.Lemmas.CoupleReach (finPlan startPlan)

def pushed (rc : Nat) (as : Bool) (modes : Nat) (g : GPlan) : List GPlan :=
  match g.addSwitches rc as modes with
  | .ok (l, _) => l
  | .error _ => []

def passOf (rc : Nat) (as : Bool) (modes : Nat) (g : GPlan) : List GPlan :=
  match g.step with
  | .ok none => pushed rc as modes g
  | .ok (some (g', r)) => g' :: (if (!r.unbeatable) = true ∧ (!r.end) = true then pushed rc as modes g else [])
  | .error _ => []

theorem iterate_cons {data list modes k} (plan : GPlan) (rest acc : List GPlan) (steps : Nat) (atEnd : Bool)
    (hlive : Live data list modes k plan) (hst1 : (k == 0) = true → plan.switches.length = 1)
    (hat : atEnd = true → ¬ k < data.length) :
    ∃ n e, iteratePlans (data.length - k) (k == 0) modes (plan :: rest) acc steps atEnd =
        iteratePlans (data.length - k) (k == 0) modes rest (acc ++ passOf (data.length - k) (k == 0) modes plan)
          (steps + 1 + n) (atEnd || e) ∧
      n ≤ 5 ∧ (∀ c ∈ passOf (data.length - k) (k == 0) modes plan, Live data list modes (nxt data k) c) ∧
      (e = true → ¬ k < data.length) ∧ (¬ k < data.length → e = true) := by
  have hsw : (k == 0) = false → SwOK modes data.length k plan := fun _ => hlive.2
  rw [iteratePlans]
  rcases step_spec plan hlive.1 with ⟨h1, hlt, hal⟩ | ⟨g', r, h1, h2, _, h4, h5, h6, h7⟩
  · obtain ⟨l, n, e1, e2, _, e3⟩ := addSwitches_spec plan hlive.1 hal (data.length - k) (k == 0) modes hst1
    have hp : passOf (data.length - k) (k == 0) modes plan = l := by simp only [passOf, pushed, h1, e1]
    rw [h1, hp]
    simp only [e1]
    exact ⟨n, false, by rw [Bool.or_false], e2, fun c hc => newOK_live (e3 c hc) hsw, fun h => Bool.noConfusion h,
      fun hnl => absurd hlt hnl⟩
  · have hg'live : Live data list modes (nxt data k) g' := ⟨h5, swOK_mono hlive.2 (nxt_ge data k) h2 h4⟩
    -- `add_switches` is only called on a plan that is not unbeatable, hence allowed
    obtain ⟨l, n, e1, e2, e3, e4⟩ : ∃ l n, (if (!r.unbeatable) = true ∧ (!r.end) = true
          then plan.addSwitches (data.length - k) (k == 0) modes else .ok ([], 0)) = .ok (l, n) ∧ n ≤ 5 ∧
        (∀ g ∈ l, Live data list modes (nxt data k) g) ∧
        (if (!r.unbeatable) = true ∧ (!r.end) = true then pushed (data.length - k) (k == 0) modes plan else []) = l := by
      split
      · rename_i hcond
        have hal : Allowed plan.plan := Classical.byContradiction fun hal => by simp [h7 hal] at hcond
        obtain ⟨l, n, e1, e2, _, e3⟩ := addSwitches_spec plan hlive.1 hal (data.length - k) (k == 0) modes hst1
        exact ⟨l, n, e1, e2, fun g hg => newOK_live (e3 g hg) hsw, by simp only [pushed, e1]⟩
      · exact ⟨[], 0, rfl, Nat.zero_le _, fun _ hg => absurd hg List.not_mem_nil, rfl⟩
    have hp : passOf (data.length - k) (k == 0) modes plan = g' :: l := by simp only [passOf, h1, e4]
    -- the assertion: all plans reach the end of the data in the same iteration
    have hne : ¬ (r.end ≠ (atEnd || r.end)) := by
      cases hA : atEnd with
      | true => simp [h6, hat hA]
      | false => simp
    rw [h1, hp]
    simp only [e1, if_neg hne, List.append_assoc, List.singleton_append]
    refine ⟨n, r.end, rfl, e2, ?_, fun h => by rw [h6] at h; simpa using h, fun hnl => by rw [h6]; simpa using hnl⟩
    intro c hc
    rcases List.mem_cons.mp hc with rfl | hc
    · exact hg'live
    · exact e3 c hc

theorem iterate_spec {data list modes k} :
    ∀ (plans acc : List GPlan) (steps : Nat) (atEnd : Bool),
      (∀ g ∈ plans, Live data list modes k g) → ((k == 0) = true → ∀ g ∈ plans, g.switches.length = 1) →
      (atEnd = true → ¬ k < data.length) →
      ∃ steps' atEnd',
        iteratePlans (data.length - k) (k == 0) modes plans acc steps atEnd =
          .ok (acc ++ plans.flatMap (passOf (data.length - k) (k == 0) modes), steps', atEnd') ∧
        (∀ g ∈ plans, ∀ c ∈ passOf (data.length - k) (k == 0) modes g, Live data list modes (nxt data k) c) ∧
        steps' ≤ steps + 6 * plans.length ∧ (atEnd' = true → ¬ k < data.length) ∧
        ((plans ≠ [] ∨ atEnd = true) → ¬ k < data.length → atEnd' = true) := by
  intro plans
  induction plans with
  | nil =>
    intro acc steps atEnd _ _ hat
    exact ⟨steps, atEnd, by simp [iteratePlans], nofun, by simp, hat, fun h _ => by simpa using h⟩
  | cons plan rest ih =>
    intro acc steps atEnd hpl hst hat
    obtain ⟨n, e, h1, h2, h3, h4, h5⟩ := iterate_cons plan rest acc steps atEnd (hpl plan (List.mem_cons_self ..))
      (fun h0 => hst h0 plan (List.mem_cons_self ..)) hat
    obtain ⟨steps', atEnd', f1, f0, f2, f3, f4⟩ := ih (acc ++ passOf (data.length - k) (k == 0) modes plan) (steps + 1 + n)
      (atEnd || e) (fun g hg => hpl g (List.mem_cons_of_mem _ hg)) (fun h0 g hg => hst h0 g (List.mem_cons_of_mem _ hg))
      (fun hA => (Bool.or_eq_true _ _ ▸ hA).elim hat h4)
    refine ⟨steps', atEnd', by rw [h1, f1, List.flatMap_cons, List.append_assoc],
      fun g hg => (List.mem_cons.mp hg).elim (fun h => h ▸ h3) (f0 g), by simp only [List.length_cons]; omega, f3, fun _ hnl => f4 (Or.inr (by rw [h5 hnl, Bool.or_true])) hnl⟩

theorem pushed_mem {rc : Nat} {as : Bool} {modes : Nat} {g c : GPlan} (h : c ∈ pushed rc as modes g) :
    ∃ sw n, g.addSwitches rc as modes = .ok (sw, n) ∧ c ∈ sw := by
  unfold pushed at h
  split at h
  · rename_i l n e; exact ⟨l, n, e, h⟩
  · cases h

theorem passOf_origin {rc : Nat} {as : Bool} {modes : Nat} {g c : GPlan} (h : c ∈ passOf rc as modes g) :
    (∃ r, g.step = .ok (some (c, r))) ∨
    (SwitchPoint g ∧ ∃ sw n, g.addSwitches rc as modes = .ok (sw, n) ∧ c ∈ sw) := by
  unfold passOf at h
  split at h
  · rename_i hs; exact .inr ⟨.inl hs, pushed_mem h⟩
  · rename_i g' r hs
    rcases List.mem_cons.mp h with rfl | h
    · exact .inl ⟨r, hs⟩
    · split at h
      · rename_i hc
        exact .inr ⟨.inr ⟨g', r, hs, by simpa using hc.1, by simpa using hc.2⟩, pushed_mem h⟩
      · cases h
  · cases h

theorem passOf_step {rc : Nat} {as : Bool} {modes : Nat} {g g' : GPlan} {r : StepResult}
    (h : g.step = .ok (some (g', r))) : g' ∈ passOf rc as modes g := by
  simp only [passOf, h, List.mem_cons, true_or]

theorem passOf_pushed {rc : Nat} {as : Bool} {modes : Nat} {g c : GPlan} (hsp : SwitchPoint g)
    (h : c ∈ pushed rc as modes g) : c ∈ passOf rc as modes g := by
  rcases hsp with hs | ⟨g', r, hs, hu, he⟩
  · simpa only [passOf, hs] using h
  · simp only [passOf, hs, hu, he, Bool.not_false, and_self, ↓reduceIte, List.mem_cons]
    exact .inr h

structure Round (data : List Nat) (list : List Sym) (modes k : Nat) (plans cands live : List GPlan) : Prop where
  le : k ≤ data.length
  plans_live : ∀ g ∈ plans, Live data list modes k g
  cands_live : ∀ c ∈ cands, Live data list modes (nxt data k) c
  origin : ∀ c ∈ cands, ∃ g ∈ plans, (∃ r, g.step = .ok (some (c, r))) ∨
    (SwitchPoint g ∧ ∃ s ctx m, Child data list modes k g s ctx m c)
  stepped : ∀ g ∈ plans, ∀ g' r, g.step = .ok (some (g', r)) → g' ∈ cands
  ascii_child : enabledMode modes .ascii = true → ∀ g ∈ plans, SwitchPoint g → g.current ≠ .ascii →
    ∀ s, g.switchCost = some s → ∃ ctx, ∃ c ∈ cands, Child data list modes k g s ctx .ascii c
  pruned : ∃ perm, removeHopelessPlans cands perm = .ok live
  live_sub : ∀ g ∈ live, g ∈ cands

theorem Round.each {data list modes k plans cands live} (R : Round data list modes k plans cands live)
    {P P' : GPlan → Prop} (hP : ∀ g ∈ plans, P g)
    (step : ∀ g g' r, P g → Live data list modes k g → g.step = .ok (some (g', r)) → P' g')
    (child : ∀ g s ctx m c, P g → Live data list modes k g → SwitchPoint g → Child data list modes k g s ctx m c → P' c) :
    ∀ c ∈ cands, P' c := by
  intro c hc
  obtain ⟨g, hg, ⟨r, hs⟩ | ⟨hsp, s, ctx, m, hch⟩⟩ := R.origin c hc
  · exact step g c r (hP g hg) (R.plans_live g hg) hs
  · exact child g s ctx m c (hP g hg) (R.plans_live g hg) hsp hch

/-- What a live plan that can be left certainly leaves among the candidates (ASCII enabled): its ASCII child — it
cannot continue, or its step was neither unbeatable nor the last — or itself one step further. -/
theorem Round.leaves {data list modes k plans cands live} (R : Round data list modes k plans cands live)
    (hasc : enabledMode modes .ascii = true) {g : GPlan} (hg : g ∈ plans) {s : Nat} (hs : g.switchCost = some s) :
    (k < data.length ∧ g.current ≠ .ascii ∧ ∃ ctx, ∃ c ∈ cands, Child data list modes k g s ctx .ascii c) ∨
    (∃ g' r, g.step = .ok (some (g', r)) ∧ g' ∈ cands ∧ g'.current = g.current ∧ r.end = decide (¬ k < data.length) ∧
      (k < data.length → g.current = .ascii ∨ r.unbeatable = true)) := by
  rcases step_spec g (R.plans_live g hg).1 with ⟨hst, hlt, _⟩ | ⟨g', r, hst, _, _, h4, _, h6, _⟩
  · exact .inl ⟨hlt, step_none_not_ascii hst, R.ascii_child hasc g hg (.inl hst) (step_none_not_ascii hst) s hs⟩
  · by_cases hlt : k < data.length
    · have he : r.end = false := by rw [h6]; simpa using hlt
      by_cases ha : g.current = .ascii
      · exact .inr ⟨g', r, hst, R.stepped g hg g' r hst, h4, h6, fun _ => .inl ha⟩
      · cases hu : r.unbeatable with
        | true => exact .inr ⟨g', r, hst, R.stepped g hg g' r hst, h4, h6, fun _ => .inr hu⟩
        | false => exact .inl ⟨hlt, ha, R.ascii_child hasc g hg (.inr ⟨g', r, hst, hu, he⟩) ha s hs⟩
    · exact .inr ⟨g', r, hst, R.stepped g hg g' r hst, h4, h6, fun h => absurd h hlt⟩

/-- What a round owes the induction, for an invariant `I` of the list of live plans and a property `Q` of the
answer (plan, cost). -/
structure RoundGoal (data : List Nat) (written : Nat) (I : Nat → List GPlan → Prop)
    (Q : Option (List (Nat × EMode)) → Nat → Prop) (k : Nat) (live : List GPlan) : Prop where
  none : live = [] → Q none 0
  next : live ≠ [] → k < data.length → I (k + 1) live
  last : ¬ k < data.length → ∀ best, pickBest live = some best →
    Q (some (finPlan written data.length (best.switches ++ [(0, best.current)]))) (ceil12 best.cost)

/-- the outcome: no panic, no fuel exhaustion; linear work, at most 36 live plans, and `Q` of the answer -/
def Post (Q : Option (List (Nat × EMode)) → Nat → Prop) (bound : Nat) : Plan.R Outcome → Prop
  | .error .badPerm => True
  | .error _ => False
  | .ok o => o.steps ≤ bound ∧ o.maxLive ≤ 36 ∧ Q o.plan o.cost12

theorem Post.mono {Q b b'} {r : Plan.R Outcome} (h : Post Q b r) (hb : b ≤ b') : Post Q b' r := by
  cases r with
  | error e => cases e <;> exact h
  | ok o => exact ⟨Nat.le_trans h.1 hb, h.2⟩

theorem Post.ok {Q b o} {r : Plan.R Outcome} (h : Post Q b r) (hr : r = .ok o) :
    o.steps ≤ b ∧ o.maxLive ≤ 36 ∧ Q o.plan o.cost12 := by
  subst hr; exact h

theorem bound_last {m s s' n : Nat} (hs : s' ≤ s + 6 * n) (hn : n ≤ 36) : s' ≤ s + 216 * (m + 1) := by omega

/-- one iteration's share of the bound: at most 36 live plans, six calls of `step()` for each -/
theorem bound_succ {len k s s' n : Nat} (hk : k < len) (hs : s' ≤ s + 6 * n) (hn : n ≤ 36) :
    s' + 216 * (len - (k + 1) + 1) ≤ s + 216 * (len - k + 1) := by omega

theorem optLoop_inv {data : List Nat} {list : List Sym} {modes : Nat} (written : Nat)
    {I : Nat → List GPlan → Prop} {Q : Option (List (Nat × EMode)) → Nat → Prop}
    (round : ∀ k plans cands live, I k plans → Round data list modes k plans cands live →
      RoundGoal data written I Q k live) :
    ∀ (f k : Nat) (plans : List GPlan) (perms : List (List Nat)) (steps maxLive : Nat),
      k ≤ data.length → data.length - k + 1 ≤ f → (∀ g ∈ plans, Live data list modes k g) →
      (k = 0 → ∀ g ∈ plans, g.switches.length = 1) → plans.length ≤ 36 → maxLive ≤ 36 → I k plans →
      Post Q (steps + 216 * (data.length - k + 1)) (optLoop data written modes f k plans perms steps maxLive) := by
  intro f
  induction f with
  | zero => intro k plans perms steps maxLive _ hf; omega
  | succ f ih =>
    intro k plans perms steps maxLive hk hf hlive hst hlen hml hI
    unfold optLoop
    rw [if_neg (by omega)]
    simp only []
    obtain ⟨steps', atEnd, e1, e0, e3, e4, e5⟩ :=
      iterate_spec (data := data) (list := list) (modes := modes) plans [] steps false hlive
        (by intro h0 g hg; exact hst (by simpa using h0) g hg) (by simp)
    rw [List.nil_append] at e1
    generalize hcands : plans.flatMap (passOf (data.length - k) (k == 0) modes) = cands at e1
    have hmemc : ∀ c, c ∈ cands ↔ ∃ g ∈ plans, c ∈ passOf (data.length - k) (k == 0) modes g :=
      fun c => by rw [← hcands, List.mem_flatMap]
    have e2 : ∀ c ∈ cands, Live data list modes (nxt data k) c := fun c hc =>
      let ⟨g, hg, hcg⟩ := (hmemc c).mp hc
      e0 g hg c hcg
    rw [e1]
    simp only []
    cases perms with
    | nil => trivial
    | cons perm perms =>
      simp only []
      rcases removeHopelessPlans_cases cands perm with hr | ⟨live, hr, hl36, hmem⟩
      · rw [hr]; trivial
      · rw [hr]
        simp only []
        obtain ⟨r1, r2, r3⟩ := round k plans cands live hI
          { le := hk, plans_live := hlive, cands_live := e2
            origin := fun c hc => by
              obtain ⟨g, hg, hcg⟩ := (hmemc c).mp hc
              rcases passOf_origin hcg with h | ⟨hsp, sw, n, hsw, hcs⟩
              · exact ⟨g, hg, .inl h⟩
              · exact ⟨g, hg, .inr ⟨hsp, child_of_mem (hlive g hg).1 (switchPoint_allowed (hlive g hg).1 hsp).2 hsw hcs⟩⟩
            stepped := fun g hg g' r hs => (hmemc g').mpr ⟨g, hg, passOf_step hs⟩
            ascii_child := fun hasc g hg hsp hcur s hs => by
              obtain ⟨hal, hlt⟩ := switchPoint_allowed (hlive g hg).1 hsp
              obtain ⟨sw, n, hsw, _⟩ := addSwitches_spec g (hlive g hg).1 hal (data.length - k) (k == 0) modes
                (fun h0 => hst (by simpa using h0) g hg)
              obtain ⟨ctx, c, hc, hch⟩ := ascii_child_of_mem hasc (hlive g hg).1 hlt hcur hs hsw
              exact ⟨ctx, c, (hmemc c).mpr ⟨g, hg, passOf_pushed hsp (by simpa only [pushed, hsw] using hc)⟩, hch⟩
            pruned := ⟨perm, hr⟩, live_sub := hmem }
        have hmax : max maxLive live.length ≤ 36 := by omega
        by_cases hempty : live.isEmpty = true
        · rw [if_pos hempty]
          exact ⟨bound_last e3 hlen, hmax, r1 (by simpa using hempty)⟩
        · rw [if_neg hempty]
          have hlne : live ≠ [] := by simpa using hempty
          by_cases hat : atEnd = true
          · rw [if_pos hat]
            cases hb : pickBest live with
            | none => have := pickBest_spec live; rw [hb] at this; exact absurd this hlne
            | some best => exact ⟨bound_last e3 hlen, hmax, r3 (e4 hat) best hb⟩
          · rw [if_neg hat]
            -- something is live, so some plan was stepped; the pass did not report the end of the data
            have hpl : plans ≠ [] := by
              cases live with
              | nil => exact absurd rfl hlne
              | cons a l =>
                obtain ⟨g, hg, _⟩ := (hmemc a).mp (hmem a (List.mem_cons_self ..))
                exact List.ne_nil_of_mem hg
            have hlt : k < data.length := Decidable.byContradiction fun hlt => hat (e5 (Or.inl hpl) hlt)
            have hn : nxt data k = k + 1 := nxt_lt hlt
            rw [hn] at e2
            exact (ih (k + 1) live perms steps' (max maxLive live.length) hlt (by omega)
              (fun g hg => e2 g (hmem g hg)) (by intro h0; cases h0) hl36 hmax (r2 hlne hlt)).mono
              (bound_succ hlt e3 hlen)

theorem startPlan_live {data written list modes} (hen : enabledMode modes .ascii = true) :
    Live data list modes 0 (startPlan data list written) := by
  refine ⟨(newPlan_core .ascii _ ⟨rfl, rfl, rfl⟩ (Nat.zero_le _)).1, hen, ?_, by simp [startPlan], by simp [startPlan]⟩
  intro e he
  simp only [startPlan, List.mem_singleton] at he
  subst he
  exact ⟨hen, by simp, by simp⟩

/-- the loop starts from the start plan if ASCII is enabled, else from what `add_switches` makes of it -/
theorem optimize_inv {data : List Nat} {written : Nat} {list : List Sym} {modes : Nat} (perms : List (List Nat))
    {I : Nat → List GPlan → Prop} {Q : Option (List (Nat × EMode)) → Nat → Prop}
    (round : ∀ k plans cands live, I k plans → Round data list modes k plans cands live →
      RoundGoal data written I Q k live)
    (h0 : enabledMode modes .ascii = true → I 0 [startPlan data list written])
    (h1 : ¬ enabledMode modes .ascii = true → ∀ sw n,
      (startPlan data list written).addSwitches data.length true modes = .ok (sw, n) →
      (∀ g ∈ sw, Live data list modes (nxt data 0) g) → I (nxt data 0) sw) :
    Post Q (216 * (data.length + 1) + 5) (optimize data written list modes perms) := by
  unfold optimize
  simp only []
  split
  · rename_i hen
    refine (optLoop_inv written round (data.length + 3) 0 [startPlan data list written] perms 0 0
      (Nat.zero_le _) (by omega) ?_
      (by intro _ g hg; simp only [List.mem_singleton] at hg; subst hg; rfl)
      (by simp) (by omega) (h0 hen)).mono (by omega)
    intro g hg
    simp only [List.mem_singleton] at hg
    subst hg
    exact startPlan_live hen
  · rename_i hen
    obtain ⟨l, n, e1, e2, e4, e3⟩ := addSwitches_spec (data := data) (list := list) (k := 0)
      (startPlan data list written) (newPlan_core .ascii _ ⟨rfl, rfl, rfl⟩ (Nat.zero_le _)).1 rfl data.length true modes
      (fun _ => rfl)
    simp only [startPlan, ctxAt] at e1
    rw [e1]
    simp only []
    have hit : (if data.isEmpty = true then 0 else 1) = nxt data 0 := by
      unfold nxt
      cases data <;> simp
    rw [hit]
    have hlive : ∀ g ∈ l, Live data list modes (nxt data 0) g := fun g hg =>
      newOK_live (asStart := true) (by simpa using e3 g hg) (by simp)
    have hone : ∀ g ∈ l, g.switches.length = 1 := by
      intro g hg
      have := (e3 g hg).2.2
      simp only [↓reduceIte] at this
      rw [this]; rfl
    exact (optLoop_inv written round (data.length + 3) (nxt data 0) l perms n 0 (nxt_le (Nat.zero_le _)) (by omega)
      hlive (fun _ => hone) (by omega) (by omega) (h1 hen l n e1 hlive)).mono (by omega)

theorem optimize_rounds {body : List Nat} {w : Nat} {list : List Sym} {modes : Nat} {perms : List (List Nat)}
    {o : Outcome} {I : Nat → List GPlan → Prop} {Q : Option (List (Nat × EMode)) → Nat → Prop}
    (hasc : enabledMode modes .ascii = true)
    (round : ∀ k plans cands live, I k plans → Round body list modes k plans cands live →
      RoundGoal body w I Q k live)
    (h0 : I 0 [startPlan body list w]) (h : optimize body w list modes perms = .ok o) : Q o.plan o.cost12 :=
  ((optimize_inv perms round (fun _ => h0) (fun hen => absurd hasc hen)).ok h).2.2

end DM.Lemmas.PlanRounds
