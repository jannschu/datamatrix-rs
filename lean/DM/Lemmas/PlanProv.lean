import DM.Lemmas.EncPass
/-
The control part of the encoder state — `(planned_switches, encodation, new_mode)` — is only ever
changed by `maybe_switch_mode`, by `set_ascii_until_end` and by the main loop taking the pending
latch, and `set_ascii_until_end` is only called with at most four characters left.
A predicate on the control part that these three operations preserve (`Closed`) holds along the whole
run: it is an instance of the walk through the mode encoders in `EncPass` (`Pass`).  Used for plan provenance (`PV`: a
latch codeword written by the main loop is the latch of a mode the plan names; C13 / C18) and, with the trivial
predicate, for "no function below `run` answers `SymbolListEmpty`" (C11).
-/
namespace DM.Lemmas.PlanProv
open DM.Model DM.Model.Enc DM.Gen DM.Lemmas.EncStep

abbrev Key := List (Nat × EMode) × EMode × Option Nat

def key (s : St) : Key := (s.plan, s.mode, s.newMode)

def asciiKey (k : Key) : Key := ([(0, .ascii)], .ascii, k.2.2)

structure Closed (Q : Key → Prop) : Prop where
  ascii : ∀ k, Q k → Q (asciiKey k)
  switch : ∀ (s s1 : St) (b : Bool), s.maybeSwitch = .ok (b, s1) → Q (key s) → Q (key s1)
  clear : ∀ k, Q k → Q (k.1, k.2.1, none)

@[simp] theorem key_push (s : St) (c : Nat) : key (s.push c) = key s := rfl
@[simp] theorem key_setAscii (s : St) : key s.setAscii = asciiKey (key s) := rfl
@[simp] theorem key_writeThree (s : St) (a b c : Nat) : key (writeThree s a b c) = key s := rfl
@[simp] theorem key_pos (s : St) (p : Nat) : key { s with pos := p } = key s := rfl
@[simp] theorem key_cw (s : St) (c : List Nat) : key { s with cw := c } = key s := rfl

variable {Q : Key → Prop}

theorem Closed.pass (hQ : Closed Q) (n : Nat) :
    Pass n (fun _ s => Q (key s)) (fun _ s => Q (key s)) (fun _ s => Q (key s)) (fun s => Q (key s)) where
  eat _ _ _ h := h
  wrote _ _ _ _ h _ := h
  stay _ s s1 h hq := hQ.switch s s1 false h hq
  leave _ s s1 h hq := hQ.switch s s1 true h hq
  fin _ _ h _ := h
  tail _ _ _ _ h _ _ _ := hQ.ascii _ h
  handler _ _ _ h he := by
    cases he with
    | wrote => exact h
    | ascii => exact hQ.ascii _ h

theorem q_encodeMode (hQ : Closed Q) (s s' : St) (h : encodeMode s = .ok s') (hq : Q (key s)) : Q (key s') :=
  (encodeMode_res (hQ.pass 4) s (fun _ => by decide) (fun _ => Nat.le_refl _) fun _ => hq).ok h

theorem q_latched (hQ : Closed Q) (s : St) (hq : Q (key s)) :
    Q (key (match s.newMode with | some nm => { s with newMode := none }.push nm | none => s)) := by
  split
  · exact hQ.clear _ hq
  · exact hq

theorem mainLoop_res (hQ : Closed Q) : ∀ (f : Nat) (s : St) (k : Nat), Q (key s) →
    Res (fun sE => Q (key sE)) (Enc.mainLoop f s k) := by
  intro f
  induction f with
  | zero => intro s k _; exact res_fuel
  | succ f ih =>
    intro s k hq
    unfold Enc.mainLoop
    refine res_ite hq ?_
    dsimp only
    have he := encodeMode_res (hQ.pass 4) _ (fun _ => by decide) (fun _ => Nat.le_refl _) fun _ => q_latched hQ s hq
    split
    · exact he.err ‹_›
    · have hq' := he.ok ‹_›
      exact res_ite res_panic (res_ite (res_ite res_panic (ih _ _ hq')) (ih _ _ hq'))

theorem q_mainLoop (hQ : Closed Q) : ∀ (f : Nat) (s : St) (k : Nat) (sE : St),
    Enc.mainLoop f s k = .ok sE → Q (key s) → Q (key sE) :=
  fun f s k _ h hq => (mainLoop_res hQ f s k hq).ok h

theorem Closed.of_iff {Q Q' : Key → Prop} (hc : Closed Q) (h : ∀ k, Q' k ↔ Q k) : Closed Q' :=
  ⟨fun k hk => (h _).mpr (hc.ascii k ((h k).mp hk)), fun s s1 b hs hk => (h _).mpr (hc.switch s s1 b hs ((h _).mp hk)),
    fun k hk => (h _).mpr (hc.clear k ((h k).mp hk))⟩

theorem Closed.and {Q1 Q2 : Key → Prop} (h1 : Closed Q1) (h2 : Closed Q2) : Closed (fun k => Q1 k ∧ Q2 k) :=
  ⟨fun k hk => ⟨h1.ascii k hk.1, h2.ascii k hk.2⟩, fun s s1 b h hk => ⟨h1.switch s s1 b h hk.1, h2.switch s s1 b h hk.2⟩,
    fun k hk => ⟨h1.clear k hk.1, h2.clear k hk.2⟩⟩

/-- the one way a predicate on the control part is `Closed`: every entry still planned satisfies `R` (as the
`set_ascii_until_end` marker does), the mode and the pending latch are what an entry with `R` makes them when it
is taken from the plan -/
theorem entries_closed (R : Nat × EMode → Prop) (M : EMode → Prop) (N : Option Nat → Prop)
    (h0 : R (0, .ascii)) (hM : ∀ x, R x → M x.2)
    (hN : ∀ x o, R x → N o → N (match x.2.latch with | some l => some l | none => o)) (hn : ∀ o, N o → N none) :
    Closed fun k => (∀ x ∈ k.1, R x) ∧ M k.2.1 ∧ N k.2.2 := by
  refine ⟨fun k hk => ⟨fun x hx => ?_, hM _ h0, hk.2.2⟩, ?_, fun k hk => ⟨hk.1, hk.2.1, hn _ hk.2.2⟩⟩
  · rw [List.mem_singleton.mp hx]; exact h0
  · intro s s1 b h ⟨h1, h2, h3⟩
    obtain ⟨at_, m, rest, hp, _, hc⟩ := maybeSwitch_cases h
    simp only [key, hp] at h1
    have hrest : ∀ x ∈ rest, R x := fun x hx => h1 x (List.mem_cons_of_mem _ hx)
    have hm : R (at_, m) := h1 _ (List.mem_cons_self ..)
    rcases hc with ⟨_, _, rfl⟩ | ⟨_, _, _, rfl⟩ | ⟨_, _, _, rfl⟩
    · exact ⟨by simpa only [key, hp] using h1, h2, h3⟩
    · exact ⟨hrest, h2, h3⟩
    · exact ⟨hrest, hM _ hm, hN _ _ hm h3⟩

theorem modesIn_closed (S : EMode → Prop) (h : S .ascii) : Closed fun k => (∀ x ∈ k.1, S x.2) ∧ S k.2.1 :=
  (entries_closed (fun x => S x.2) S (fun _ => True) h (fun _ hx => hx) (fun _ _ _ _ => trivial)
    (fun _ _ => trivial)).of_iff fun _ => ⟨fun hk => ⟨hk.1, hk.2, trivial⟩, fun hk => ⟨hk.1, hk.2.1⟩⟩

/-- every entry still planned comes from the original plan (or is the `set_ascii_until_end`
marker), and a pending latch is the latch of a mode the original plan names -/
def PV (plan0 : List (Nat × EMode)) : Key → Prop := fun k =>
  (∀ e ∈ k.1, e ∈ plan0 ∨ e = (0, EMode.ascii)) ∧
  (∀ l, k.2.2 = some l → ∃ p m, (p, m) ∈ plan0 ∧ m.latch = some l)

theorem pv_closed (plan0 : List (Nat × EMode)) : Closed (PV plan0) :=
  (entries_closed (fun e => e ∈ plan0 ∨ e = (0, EMode.ascii)) (fun _ => True)
    (fun o => ∀ l, o = some l → ∃ p m, (p, m) ∈ plan0 ∧ m.latch = some l)
    (Or.inr rfl) (fun _ _ => trivial)
    (fun x o hx ho l hl => by
      split at hl
      · rename_i l' hlat
        cases hl
        rcases hx with hx | hx
        · exact ⟨x.1, x.2, hx, hlat⟩
        · rw [hx] at hlat; cases hlat
      · exact ho l hl)
    (fun _ _ => nofun)).of_iff fun _ => ⟨fun hk => ⟨hk.1, trivial, hk.2⟩, fun hk => ⟨hk.1, hk.2.2⟩⟩

theorem pv_init (plan0 : List (Nat × EMode)) (m : EMode) : PV plan0 (plan0, m, none) :=
  ⟨fun e he => Or.inl he, by intro l hl; cases hl⟩

end DM.Lemmas.PlanProv
