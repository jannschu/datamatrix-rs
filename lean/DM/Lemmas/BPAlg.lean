import DM.Lemmas.BPDefs
import Mathlib.LinearAlgebra.Vandermonde
import Mathlib.Tactic.Ring
/-
Correctness of the Björck–Pereyra algorithm of `BPDefs.lean` (dual Vandermonde system).
Namespace: `BP`.
-/
namespace DM.Lemmas.BP

open Finset

variable {F : Type} [Field F]

theorem s1Step_pos {e k j : ℕ} (x b : ℕ → F) (h : k + 1 ≤ j ∧ j < e) :
    s1Step e x k b j = b j - x k * b (j - 1) := if_pos h
theorem s1Step_neg {e k j : ℕ} (x b : ℕ → F) (h : ¬(k + 1 ≤ j ∧ j < e)) :
    s1Step e x k b j = b j := if_neg h
theorem s2Div_pos {e k j : ℕ} (x b : ℕ → F) (h : k + 1 ≤ j ∧ j < e) :
    s2Div e x k b j = b j / (x j - x (j - k - 1)) := if_pos h
theorem s2Div_neg {e k j : ℕ} (x b : ℕ → F) (h : ¬(k + 1 ≤ j ∧ j < e)) :
    s2Div e x k b j = b j := if_neg h
theorem s2Sub_pos {e k j : ℕ} (b : ℕ → F) (h : k ≤ j ∧ j + 1 < e) :
    s2Sub e k b j = b j - b (j + 1) := if_pos h
theorem s2Sub_neg {e k j : ℕ} (b : ℕ → F) (h : ¬(k ≤ j ∧ j + 1 < e)) :
    s2Sub e k b j = b j := if_neg h

def newton (x : ℕ → F) (j : ℕ) (t : F) : F := ∏ i ∈ range j, (t - x i)

theorem newton_zero (x : ℕ → F) (t : F) : newton x 0 t = 1 := by simp [newton]

theorem newton_succ (x : ℕ → F) (j : ℕ) (t : F) :
    newton x (j + 1) t = newton x j t * (t - x j) := prod_range_succ _ _

theorem newton_eq_zero (x : ℕ → F) {l j : ℕ} (h : l < j) : newton x j (x l) = 0 :=
  prod_eq_zero (mem_range.2 h) (sub_self _)

theorem exists_sol (e : ℕ) (x : ℕ → F)
    (hinj : ∀ i, i < e → ∀ j, j < e → x i = x j → i = j) (b : ℕ → F) :
    ∃ y : ℕ → F, ∀ i, i < e → ∑ l ∈ range e, y l * x l ^ i = b i := by
  classical
  let v : Fin e → F := fun i => x i
  have hv : Function.Injective v := fun i j h => Fin.ext (hinj i i.2 j j.2 h)
  have hdet : (Matrix.vandermonde v).det ≠ 0 := Matrix.det_vandermonde_ne_zero_iff.2 hv
  let bb : Fin e → F := fun i => b i
  let y := Matrix.vecMul bb (Matrix.vandermonde v)⁻¹
  have hy : Matrix.vecMul y (Matrix.vandermonde v) = bb := by
    rw [Matrix.vecMul_vecMul, Matrix.nonsing_inv_mul _ (isUnit_iff_ne_zero.2 hdet),
      Matrix.vecMul_one]
  refine ⟨fun l => if h : l < e then y ⟨l, h⟩ else 0, fun i hi => ?_⟩
  have := congrFun hy ⟨i, hi⟩
  simp only [Matrix.vecMul, dotProduct, Matrix.vandermonde_apply] at this
  rw [Finset.sum_range]
  refine (Finset.sum_congr rfl fun l _ => ?_).trans this
  show (if h : (l : ℕ) < e then y ⟨l, h⟩ else 0) * x l ^ i = _
  rw [dif_pos l.2]

/-- the polynomial carried by position `j` after `n` steps of stage 1 -/
def P (x : ℕ → F) (n j : ℕ) (t : F) : F :=
  if n ≤ j then t ^ (j - n) * newton x n t else newton x j t

theorem P_of_ge (x : ℕ → F) {n j : ℕ} (h : n ≤ j) (t : F) :
    P x n j t = t ^ (j - n) * newton x n t := if_pos h

theorem P_of_le (x : ℕ → F) {n j : ℕ} (h : j ≤ n) (t : F) : P x n j t = newton x j t := by
  unfold P
  split_ifs with h'
  · obtain rfl := Nat.le_antisymm h h'
    rw [Nat.sub_self, pow_zero, one_mul]
  · rfl

theorem stage1_track (e : ℕ) (x : ℕ → F) (y' b : ℕ → F)
    (hb : ∀ i, i < e → b i = ∑ l ∈ range e, y' l * x l ^ i) :
    ∀ n j, j < e → stage1 e x n b j = ∑ l ∈ range e, y' l * P x n j (x l)
  | 0, j, hj => by
    rw [show stage1 e x 0 b j = b j from rfl, hb j hj]
    refine sum_congr rfl fun l _ => ?_
    rw [P_of_ge x (Nat.zero_le j), newton_zero, mul_one, Nat.sub_zero]
  | n + 1, j, hj => by
    rw [show stage1 e x (n + 1) b j = s1Step e x n (stage1 e x n b) j from rfl]
    by_cases h : n + 1 ≤ j ∧ j < e
    · rw [s1Step_pos _ _ h, stage1_track e x y' b hb n j hj,
        stage1_track e x y' b hb n (j - 1) (lt_of_le_of_lt (Nat.sub_le j 1) hj),
        mul_sum, ← sum_sub_distrib]
      refine sum_congr rfl fun l _ => ?_
      obtain ⟨t, rfl⟩ := Nat.exists_eq_add_of_le h.1
      have e1 : n + 1 + t - n = t + 1 := by
        rw [Nat.add_assoc, Nat.add_sub_cancel_left, Nat.add_comm]
      have e2 : n + 1 + t - 1 - n = t := by
        rw [Nat.add_right_comm, Nat.add_sub_cancel, Nat.add_sub_cancel_left]
      rw [P_of_ge x (Nat.le_of_succ_le h.1), P_of_ge x (Nat.le_sub_one_of_lt h.1), P_of_ge x h.1,
        newton_succ, e1, e2, Nat.add_sub_cancel_left, pow_succ]
      ring
    · rw [s1Step_neg _ _ h, stage1_track e x y' b hb n j hj]
      refine sum_congr rfl fun l _ => ?_
      have h1 : j ≤ n := Nat.le_of_lt_succ (Nat.lt_of_not_le fun h' => h ⟨h', hj⟩)
      rw [P_of_le x h1, P_of_le x (Nat.le_succ_of_le h1)]

/-! ### stage 2 is the transpose of the divided-difference table -/

def Estep (x : ℕ → F) (k : ℕ) (h : ℕ → F) : ℕ → F :=
  fun j => if k + 1 ≤ j then (h j - h (j - 1)) / (x j - x (j - k - 1)) else h j

/-- the divided-difference table: `D x g m j = g[x_{j-m}, …, x_j]` for `m ≤ j`,
and `g[x_0, …, x_j]` for `m ≥ j` -/
def D (x : ℕ → F) (g : ℕ → F) : ℕ → ℕ → F
  | 0 => g
  | m + 1 => Estep x m (D x g m)

theorem sum_shift (e k : ℕ) (f : ℕ → ℕ → F) :
    ∑ j ∈ range e, (if k ≤ j ∧ j + 1 < e then f (j + 1) j else 0)
      = ∑ j ∈ range e, (if k + 1 ≤ j then f j (j - 1) else 0) := by
  cases e with
  | zero => simp
  | succ e =>
    rw [sum_range_succ, sum_range_succ']
    simp only [Nat.add_lt_add_iff_right, lt_irrefl, and_false, if_false, add_zero,
      Nat.add_le_add_iff_right, Nat.add_sub_cancel, Nat.le_zero, Nat.add_one_ne_zero]
    refine sum_congr rfl fun j hj => ?_
    have := mem_range.1 hj
    simp [this]

theorem step_dual (e : ℕ) (x : ℕ → F) (k : ℕ) (b h : ℕ → F) :
    ∑ j ∈ range e, s2Sub e k (s2Div e x k b) j * h j
      = ∑ j ∈ range e, b j * Estep x k h j := by
  have hL : ∑ j ∈ range e, s2Sub e k (s2Div e x k b) j * h j
      = ∑ j ∈ range e, s2Div e x k b j * h j
        - ∑ j ∈ range e, (if k ≤ j ∧ j + 1 < e then s2Div e x k b (j + 1) * h j else 0) := by
    rw [← sum_sub_distrib]
    refine sum_congr rfl fun j _ => ?_
    by_cases hc : k ≤ j ∧ j + 1 < e
    · rw [s2Sub_pos _ hc, if_pos hc, sub_mul]
    · rw [s2Sub_neg _ hc, if_neg hc, sub_zero]
  have hR : ∑ j ∈ range e, b j * Estep x k h j
      = ∑ j ∈ range e, s2Div e x k b j * h j
        - ∑ j ∈ range e, (if k + 1 ≤ j then s2Div e x k b j * h (j - 1) else 0) := by
    rw [← sum_sub_distrib]
    refine sum_congr rfl fun j hj => ?_
    have hj' := mem_range.1 hj
    unfold Estep
    by_cases hc : k + 1 ≤ j
    · rw [s2Div_pos _ _ ⟨hc, hj'⟩, if_pos hc, if_pos hc]
      ring
    · rw [s2Div_neg _ _ (fun h' => hc h'.1), if_neg hc, if_neg hc, sub_zero]
  rw [hL, hR, sum_shift e k (fun a c => s2Div e x k b a * h c)]

theorem stage2_dual (e : ℕ) (x : ℕ → F) :
    ∀ (n : ℕ) (c g : ℕ → F),
      ∑ j ∈ range e, stage2 e x n c j * g j = ∑ j ∈ range e, c j * D x g n j
  | 0, c, g => rfl
  | n + 1, c, g => by
    simp only [stage2, D]
    rw [stage2_dual e x n, step_dual]

theorem D_stable (x : ℕ → F) (g : ℕ → F) (j : ℕ) : ∀ m, j ≤ m → D x g m j = D x g j j := by
  intro m hm
  induction m with
  | zero =>
    obtain rfl := Nat.le_zero.mp hm
    rfl
  | succ m ih =>
    rcases Nat.eq_or_lt_of_le hm with h | h
    · subst h; rfl
    · have h' : j ≤ m := Nat.le_of_lt_succ h
      rw [← ih h']
      simp only [D, Estep]
      rw [if_neg (Nat.not_le.2 (Nat.lt_succ_of_le h'))]

theorem D_table (e : ℕ) (x : ℕ → F)
    (hinj : ∀ i, i < e → ∀ j, j < e → x i = x j → i = j) (g : ℕ → F) (a i : ℕ)
    (h : a + 1 + i < e) :
    D x g i (a + 1 + i) = D x g i (a + i) + D x g (i + 1) (a + 1 + i) * (x (a + 1 + i) - x a) := by
  have hne : x (a + 1 + i) - x a ≠ 0 := by
    intro h0
    have := hinj (a + 1 + i) h a (by omega) (sub_eq_zero.1 h0)
    omega
  have e1 : a + 1 + i - 1 = a + i := by rw [Nat.add_right_comm, Nat.add_sub_cancel]
  have e2 : a + 1 + i - i - 1 = a := by rw [Nat.add_sub_cancel, Nat.add_sub_cancel]
  simp only [D, Estep]
  rw [if_pos (Nat.add_right_comm a 1 i ▸ Nat.succ_le_succ (Nat.le_add_left i a)), e1, e2]
  rw [div_mul_cancel₀ _ hne, add_sub_cancel]

theorem newton_interp_gen (e : ℕ) (x : ℕ → F)
    (hinj : ∀ i, i < e → ∀ j, j < e → x i = x j → i = j) (g : ℕ → F) :
    ∀ n a, a + n < e →
      g (a + n) = ∑ i ∈ range (n + 1), D x g i (a + i) * ∏ r ∈ range i, (x (a + n) - x (a + r))
  | 0, a, _ => by
    rw [sum_range_one, prod_range_zero, mul_one]
    rfl
  | n + 1, a, h => by
    have ih := newton_interp_gen e x hinj g n (a + 1)
      (by rw [Nat.add_assoc, Nat.add_comm 1]; exact h)
    have e0 : a + 1 + n = a + (n + 1) := by rw [Nat.add_assoc, Nat.add_comm 1]
    rw [e0] at ih
    rw [ih, sum_range_succ' _ (n + 1), prod_range_zero, mul_one]
    -- `f i = g[x_a … x_{a+i}] · Π_{r<i} (L − x_{a+1+r})` telescopes; its last value is zero
    have tele := sum_range_sub' (fun i => D x g i (a + i) * ∏ r ∈ range i,
      (x (a + (n + 1)) - x (a + 1 + r))) (n + 1)
    rw [prod_range_zero, mul_one, prod_range_succ (n := n), e0, sub_self,
      mul_zero, mul_zero, sub_zero] at tele
    rw [← tele, ← sum_add_distrib]
    refine sum_congr rfl fun i hi => ?_
    have hi' := mem_range.1 hi
    rw [D_table e x hinj g a i (by omega), prod_range_succ', prod_range_succ,
      Nat.add_assoc a 1 i, Nat.add_comm 1 i]
    have hp : ∏ r ∈ range i, (x (a + (n + 1)) - x (a + (r + 1)))
        = ∏ r ∈ range i, (x (a + (n + 1)) - x (a + 1 + r)) :=
      prod_congr rfl fun r _ => by rw [Nat.add_assoc a 1 r, Nat.add_comm 1 r]
    rw [hp, add_zero]
    ring

theorem newton_interp (e : ℕ) (x : ℕ → F)
    (hinj : ∀ i, i < e → ∀ j, j < e → x i = x j → i = j) (g : ℕ → F) (l : ℕ) (hl : l < e) :
    g l = ∑ j ∈ range e, D x g j j * newton x j (x l) := by
  have h := newton_interp_gen e x hinj g l 0 (by rw [Nat.zero_add]; exact hl)
  simp only [zero_add] at h
  rw [h]
  have hle : l + 1 ≤ e := hl
  refine sum_subset (range_subset_range.2 hle) fun j _ hj => ?_
  have : l < j := by
    have := mt mem_range.2 hj
    omega
  show D x g j j * newton x j (x l) = 0
  rw [newton_eq_zero x this, mul_zero]

theorem bp_pairing (e : ℕ) (x : ℕ → F)
    (hinj : ∀ i, i < e → ∀ j, j < e → x i = x j → i = j) (y' b : ℕ → F)
    (hb : ∀ i, i < e → b i = ∑ l ∈ range e, y' l * x l ^ i) (g : ℕ → F) :
    ∑ l ∈ range e, stage2 e x (e - 1) (stage1 e x (e - 1) b) l * g l
      = ∑ l ∈ range e, y' l * g l := by
  rw [stage2_dual]
  have h1 : ∑ j ∈ range e, stage1 e x (e - 1) b j * D x g (e - 1) j
      = ∑ j ∈ range e, ∑ l ∈ range e, y' l * (D x g j j * newton x j (x l)) := by
    refine sum_congr rfl fun j hj => ?_
    have hj' := mem_range.1 hj
    have hje := Nat.le_sub_one_of_lt hj'
    rw [stage1_track e x y' b hb (e - 1) j hj', D_stable x g j (e - 1) hje, sum_mul]
    refine sum_congr rfl fun l _ => ?_
    rw [P_of_le x hje]
    ring
  rw [h1, sum_comm]
  refine sum_congr rfl fun l hl => ?_
  rw [← mul_sum, ← newton_interp e x hinj g l (mem_range.1 hl)]

theorem bp_solves (e : ℕ) (x : ℕ → F)
    (hinj : ∀ i, i < e → ∀ j, j < e → x i = x j → i = j) (b : ℕ → F) :
    ∀ i, i < e →
      ∑ l ∈ Finset.range e, stage2 e x (e - 1) (stage1 e x (e - 1) b) l * x l ^ i = b i := by
  intro i hi
  obtain ⟨y', hy'⟩ := exists_sol e x hinj b
  rw [bp_pairing e x hinj y' b (fun i hi => (hy' i hi).symm) (fun l => x l ^ i)]
  exact hy' i hi

theorem bp_correct (e : ℕ) (x : ℕ → F)
    (hinj : ∀ i, i < e → ∀ j, j < e → x i = x j → i = j) (hx0 : ∀ i, i < e → x i ≠ 0)
    (b : ℕ → F) :
    ∀ i, i < e → ∑ l ∈ Finset.range e, bp e x b l * x l ^ (i + 1) = b i := by
  intro i hi
  rw [← bp_solves e x hinj b i hi]
  refine sum_congr rfl fun l hl => ?_
  have := hx0 l (mem_range.1 hl)
  show _ / x l * x l ^ (i + 1) = _
  rw [pow_succ, mul_comm (x l ^ i), ← mul_assoc, div_mul_cancel₀ _ this]

end DM.Lemmas.BP
