import DM.Lemmas.RSTot
import DM.Lemmas.LDStages
/-
`ldStep` never answers with one of the non-panic errors, whatever its arguments are: `NoErr x`
says that `x` returns a value or panics, and composes along the text of a program that has no
non-panic `throw` (panics are allowed at any site, `AnySite`).
Namespaces: `RSTot`, `RSTot.NoErr`.
-/
namespace DM.Lemmas.RSTot
open DM.Model DM.Model.RS DM.Lemmas DM.Lemmas.RSTotal

def AnySite : String → Prop := fun _ => True

def NoErr {α} (x : R α) : Prop := Tot AnySite x (fun _ => True)

namespace NoErr
variable {α β : Type} {site : String}

theorem pure {a : α} : NoErr (Pure.pure a : R α) := trivial

theorem bind {x : R α} {f : α → R β} (hx : NoErr x) (hf : ∀ a, NoErr (f a)) : NoErr (x >>= f) :=
  Tot_bind (Tot_mono hx fun a _ => hf a)

theorem panic {f : α → R β} : NoErr (throw (RErr.panic site) >>= f) := trivial

theorem ite {c : Prop} [Decidable c] {t e : R α} (ht : NoErr t) (he : NoErr e) :
    NoErr (if c then t else e) := Tot_ite (fun _ => ht) (fun _ => he)

theorem forIn {l : List α} {init : β} {f : α → β → R (ForInStep β)} (h : ∀ a b, NoErr (f a b)) :
    NoErr (forIn l init f) :=
  Tot_forIn_inv l init f (fun _ => True) trivial fun a _ b _ => Tot_mono (h a b) fun _ _ => trivial

theorem at' {l : List Nat} {i : Nat} : NoErr (at' site l i) := by
  unfold RS.at'; cases l[i]? <;> trivial
theorem div' {a b : Nat} : NoErr (div' site a b) := by
  unfold RS.div'; cases gdiv a b <;> trivial
theorem sub' {a b : Nat} : NoErr (sub' site a b) := by
  unfold RS.sub'; split <;> trivial

theorem sliceDot {syn l : List Nat} {a b : Nat} {f : Nat → R β} (h : ∀ x, NoErr (f x)) :
    NoErr (slice site syn a b >>= fun s => dot s l >>= f) := by
  refine NoErr.bind ?_ fun s => NoErr.bind ?_ h
  · unfold slice; split <;> trivial
  · unfold dot; split <;> trivial

end NoErr

theorem TotAny_ldCheck (syn w y : List Nat) (v : Nat) :
    Tot AnySite (ldCheck syn w y v) (fun _ => True) := by
  unfold ldCheck
  refine NoErr.ite .panic (.ite .panic ?_)
  refine .bind (.forIn fun _ _ => .bind (.forIn fun _ _ => .bind .at' fun _ => .pure) fun _ =>
    .ite .panic .pure) fun _ => ?_
  exact .bind (.forIn fun _ _ => .bind (.forIn fun _ _ => .bind .at' fun _ => .pure) fun _ =>
    .bind .at' fun _ => .ite .panic .pure) fun _ => .pure

open DM.Lemmas.LD

theorem regStep_tot (syn : List Nat) (v : Nat) (w y : List Nat) (epsV : Nat) :
    NoErr (regStep syn v w y epsV) :=
  .sliceDot fun _ => .bind .div' fun _ => .sliceDot fun _ => .bind .div' fun _ =>
    .bind (TotAny_ldCheck ..) fun _ => .pure

theorem findSigma_tot (syn tmp : List Nat) (t v : Nat) : NoErr (findSigma syn tmp t v) :=
  .forIn fun _ _ => .ite (.sliceDot fun _ => .ite .pure .pure) .pure

theorem sigmaLoop_tot (syn tmp : List Nat) (v m sigmaM : Nat) :
    NoErr (sigmaLoop syn tmp v m sigmaM) :=
  .forIn fun _ _ => .sliceDot fun _ => .pure

theorem tkLoop_tot (syn : List Nat) (v : Nat) (w y : List Nat) (m : Nat) :
    NoErr (tkLoop syn v w y m) :=
  .forIn fun _ _ => .bind .at' fun _ => .sliceDot fun _ => .bind .at' fun _ => .pure

theorem gamInit_tot (syn : List Nat) (v m : Nat) (tk : List Nat) : NoErr (gamInit syn v m tk) :=
  .forIn fun _ _ => .bind .at' fun _ => .sliceDot fun _ => .pure

theorem gamSolve_tot (sigma : List Nat) (m sigma0 : Nat) (gam0 : List Nat) :
    NoErr (gamSolve sigma m sigma0 gam0) :=
  .forIn fun _ _ => .bind .at' fun _ =>
    .bind (.forIn fun _ _ => .bind .at' fun _ => .pure) fun _ => .bind .div' fun _ => .pure

theorem twLoop_tot (w : List Nat) (v m : Nat) (tk gam : List Nat) : NoErr (twLoop w v m tk gam) :=
  .forIn fun _ _ => .bind .sub' fun _ => .ite .panic (.ite .panic .pure)

theorem singStep_tot (syn : List Nat) (v : Nat) (w y : List Nat) (m sigmaM : Nat) :
    NoErr (singStep syn v w y m sigmaM) :=
  .bind (sigmaLoop_tot ..) fun _ => .ite .panic <| .bind (tkLoop_tot ..) fun _ =>
    .bind .div' fun _ => .ite .panic <| .bind (gamInit_tot ..) fun _ => .bind .at' fun _ =>
    .bind (gamSolve_tot ..) fun _ => .bind (twLoop_tot ..) fun _ =>
    .bind (TotAny_ldCheck ..) fun _ => .pure

theorem ldStep_tot (syn : List Nat) (t : Nat) (st : LDSt) :
    Tot AnySite (ldStep syn t st) (fun _ => True) := by
  rw [ldStep_eq]
  refine NoErr.sliceDot fun _ => .ite (regStep_tot ..) (.bind (findSigma_tot ..) fun found => ?_)
  rcases found with _ | ⟨m, sigmaM⟩
  · exact .pure
  · exact singStep_tot ..

end DM.Lemmas.RSTot
