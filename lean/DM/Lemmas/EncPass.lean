import DM.Lemmas.EncStep
/-
The walk through the six mode encoders of the encoder model, once, for their errors and their results together (`Res`):
`Pass` bundles predicates that reading characters, writing codewords, `maybe_switch_mode` and the end-of-data handlers
(`Ended`) respect; `encodeMode_res` carries them from the start of a mode encoder to its return.  Instances:
`PlanProv.Closed.pass`, `C40Gen.pend_pass`, `C40Gen.more_pass`, `LatchSeq.ctl_pass`, `C13Tail.tail_pass`.
Namespace: `EncStep`.
-/
namespace DM.Lemmas.EncStep
open DM.Model.Enc

/-- What a mode encoder carries from its start to its end.  `I k s`: at the head of a loop iteration, `k`
characters read and not yet written; `J k s`: the same up to the next `maybe_switch_mode`; `P k s`: the mode
encoder has decided to stop; `O`: what it returns.  The codewords never matter. -/
structure Pass (n : Nat) (I J P : Nat → St → Prop) (O : St → Prop) : Prop where
  eat : ∀ k s d, I k s → J (k + d) { s with pos := s.pos + d }
  wrote : ∀ k k' s cw, J k s → k' ≤ k → J k' { s with cw := cw }
  stay : ∀ k s s1, s.maybeSwitch = .ok (false, s1) → J k s → I k s1
  leave : ∀ k s s1, s.maybeSwitch = .ok (true, s1) → J k s → P k s1
  fin : ∀ k s, I k s → s.hasMore = false → P k s
  /-- `set_ascii_until_end` from inside the loop, with the read position at most `k` characters back (or on) -/
  tail : ∀ k s cw p', I k s → s.pos ≤ p' + k → s.input.length - p' ≤ n → s.charsLeft ≤ 4 →
    O ({ s with cw := cw, pos := p' } : St).setAscii
  handler : ∀ k s s', P k s → Ended n k s s' → O s'

theorem Pass.mid {n : Nat} {I J P : Nat → St → Prop} {O : St → Prop} (hp : Pass n I J P O) {k : Nat} {s : St}
    (h : I k s) : J k s := hp.eat k s 0 h

section loops
variable {n : Nat} {I J P : Nat → St → Prop} {O : St → Prop}

theorem edifactLoop_res (hp : Pass n I J P O) (h4 : 4 ≤ n) : ∀ (f : Nat) (s : St) (sym : List Nat), I sym.length s →
    Res O (edifactLoop f s sym) := by
  intro f
  induction f with
  | zero => intro s sym _; exact res_fuel
  | succ f ih =>
    intro s sym hi
    have hend : ∀ {t : St} {sy : List Nat}, P sy.length t → Res O (edifactHandleEnd t sy) := fun ht =>
      (EncStep.edifactHandleEnd_res _ _).mono fun _ h => hp.handler _ _ _ ht (h.mono h4 (Nat.le_refl _))
    rw [edifactLoop_eq]
    refine res_if (fun hok => ?_) fun _ => ?_
    · -- the ASCII end game at the head of a round: nothing is buffered
      obtain ⟨rfl, -, h4, -⟩ := hok
      rw [rest_length] at h4
      exact hp.tail _ s s.cw s.pos hi (Nat.le_add_right _ _) (by unfold St.charsLeft at h4; omega) h4
    · split
      · exact hend (hp.fin _ _ hi (rest_eq_nil ‹_›).2)
      · rename_i ch _ _
        have hj := hp.eat _ _ 1 hi
        refine res_if (fun _ => ?_) fun _ => ?_
        · have hj0 := hp.wrote _ 0 _ (write4 { s with pos := s.pos + 1 } (sym ++ [ch])).cw hj (Nat.zero_le _)
          rw [← write4_eq] at hj0
          exact onSwitch_res (fun _ hm => hend (sy := []) (hp.leave _ _ _ hm hj0)) fun _ hm => ih _ [] (hp.stay _ _ _ hm hj0)
        · have hj1 : J (sym ++ [ch]).length { s with pos := s.pos + 1 } :=
            hp.wrote _ _ _ s.cw hj (Nat.le_of_eq List.length_append)
          exact onSwitch_res (fun _ hm => hend (hp.leave _ _ _ hm hj1)) fun _ hm => ih _ _ (hp.stay _ _ _ hm hj1)

theorem c40Loop_res (hp : Pass n I J P O) (h2 : 2 ≤ n) (text : Bool) : ∀ (f : Nat) (s : St) (buf : List Nat) (lastCh : Nat),
    I (min buf.length 1) s → Res O (c40Loop text f s buf lastCh) := by
  intro f
  induction f with
  | zero => intro s buf lastCh _; exact res_fuel
  | succ f ih =>
    intro s buf lastCh hi
    have hend : ∀ {t : St} {b : List Nat}, P (min b.length 1) t → ∀ lc, Res O (c40HandleEnd t lc b) := fun ht lc =>
      (EncStep.c40HandleEnd_res _ lc _).mono fun _ h =>
        hp.handler _ _ _ ht (h.1.mono h2 (by split; exact Nat.zero_le _; exact Nat.le_refl _))
    rw [c40Loop_eq]
    split
    · exact hend (hp.fin _ _ hi (rest_eq_nil ‹_›).2) _
    · refine res_if (fun hc => ?_) fun _ => ?_
      · -- two final digits: `handle_end` sets ASCII until the end
        have h2d := hc.2
        refine (EncStep.c40HandleEnd_res s lastCh buf).mono fun s' h => ?_
        have h0 := h.1
        rw [(hasMore_charsLeft s).mpr (by omega), if_pos rfl] at h0
        obtain ⟨cw, rfl⟩ := Ended.eq_setAscii h0 (h.2 h2d).1 (h.2 h2d).2
        exact hp.tail _ s cw s.pos hi (Nat.le_add_right _ _) (by have := h2d.1; unfold St.charsLeft at this; omega) (by omega)
      · split
        · exact (toVals_res _ _ _).err ‹_›
        · rename_i buf1 _
          have hj := hp.wrote _ (min (flushTriples 3 { s with pos := s.pos + 1 } buf1).2.length 1) _
            (flushTriples 3 { s with pos := s.pos + 1 } buf1).1.cw (hp.eat _ _ 1 hi) (by omega)
          rw [← flush_eq] at hj
          exact onSwitch_res (fun _ hm => hend (hp.leave _ _ _ hm hj) _) fun _ hm => ih _ _ _ (hp.stay _ _ _ hm hj)

theorem asciiLoop_res (hp : Pass n I J P O) : ∀ (f : Nat) (s : St), J 0 s → Res O (asciiLoop f s) := by
  intro f
  induction f with
  | zero => intro s _; exact res_fuel
  | succ f ih =>
    intro s hj
    have hout : ∀ {t : St}, P 0 t → O t := fun ht => hp.handler _ _ _ ht (Ended.refl _)
    show Res O (onSwitch s .ok fun s1 => _)
    refine onSwitch_res (fun _ hm => hout (hp.leave _ _ _ hm hj)) fun s1 hm => ?_
    have hi : I 0 s1 := hp.stay _ _ _ hm hj
    have hnext : ∀ d cw, J 0 ({ s1 with pos := s1.pos + d, cw := cw } : St) := fun d cw =>
      hp.wrote _ 0 _ cw (hp.eat _ _ d hi) (Nat.zero_le _)
    split
    · split
      · exact ih _ (hnext 2 _)
      · exact res_panic
    · rw [eat_eq]
      cases hr : s1.rest with
      | nil => exact hout (hp.fin _ _ hi (rest_eq_nil hr).2)
      | cons a t =>
        dsimp only
        split
        · exact ih _ (hnext 1 _)
        · exact ih _ (hnext 1 _)

theorem b256Loop_res (hp : Pass n I J P O) (start : Nat) : ∀ (f : Nat) (s : St), I 0 s → Res O (b256Loop start f s) := by
  intro f
  induction f with
  | zero => intro s _; exact res_fuel
  | succ f ih =>
    intro s hi
    have hfin : ∀ (d : Nat) (cw0 : List Nat), d ≤ 1 → ({ s with pos := s.pos + d, cw := cw0 } : St).hasMore = false →
        Res O (b256Finish start { s with pos := s.pos + d, cw := cw0 }) := fun d cw0 hd hm =>
      (b256Finish_res start _).mono fun s' ⟨cw, hs'⟩ => by
        rw [hm, if_neg Bool.false_ne_true] at hs'
        have h0 := noMore hm
        simp only [St.charsLeft] at h0
        subst hs'
        exact hp.tail _ s cw (s.pos + d) hi (by omega) (by omega) (by unfold St.charsLeft; omega)
    rw [b256Loop_eq]
    split
    · exact hfin 0 s.cw (Nat.zero_le _) (rest_eq_nil ‹_›).2
    · rename_i ch hr
      obtain ⟨-, -, ht⟩ := rest_eq_cons hr
      exact hfin 1 _ (Nat.le_refl _) (decide_eq_false (show ¬ s.pos + 1 < s.input.length by
        have := congrArg List.length ht; simp at this; omega))
    · rename_i ch _ _ _
      have hse : J 0 { s with pos := s.pos + 1, cw := s.cw ++ [ch] } := hp.wrote _ 0 _ _ (hp.eat _ _ 1 hi) (Nat.zero_le _)
      refine onSwitch_res (fun s1 hm => ?_) fun _ hm => ih _ (hp.stay _ _ _ hm hse)
      have ht : P 0 s1 := hp.leave _ _ _ hm hse
      refine (b256Finish_res start s1).mono fun s' ⟨cw, hs'⟩ => ?_
      subst hs'
      split
      · exact hp.handler _ _ _ ht (.wrote cw)
      · rename_i hm1
        have : s1.charsLeft = 0 := noMore (by simpa using hm1)
        exact hp.handler _ _ _ ht (.ascii cw 0 (Nat.zero_le _) (Nat.zero_le _) (by omega))

theorem x12Loop_res (hp : Pass n I J P O) : ∀ (f : Nat) (s : St), I 0 s →
    Res (fun r => (r.2 = false → I 0 r.1 ∧ r.1.charsLeft < 3) ∧ (r.2 = true → P 0 r.1)) (x12Loop f s) := by
  intro f
  induction f with
  | zero => intro s _; exact res_fuel
  | succ f ih =>
    intro s hi
    rw [x12Loop_eq]
    split
    · split
      · have hj : ∀ a b c, J 0 (writeThree { s with pos := s.pos + 3 } a b c) := fun a b c =>
          hp.wrote _ 0 { s with pos := s.pos + 3 } (writeThree { s with pos := s.pos + 3 } a b c).cw
            (hp.eat _ _ 3 hi) (Nat.zero_le _)
        exact onSwitch_res (fun _ hm => ⟨nofun, fun _ => hp.leave _ _ _ hm (hj _ _ _)⟩) fun _ hm =>
          ih _ (hp.stay _ _ _ hm (hj _ _ _))
      · exact (x12Enc_res _).err ‹_›
      · exact (x12Enc_res _).err ‹_›
      · exact (x12Enc_res _).err ‹_›
    · rename_i hno
      refine ⟨fun _ => ⟨hi, ?_⟩, nofun⟩
      rw [← rest_length]
      rcases hr : s.rest with _ | ⟨a, _ | ⟨b, _ | ⟨c, t⟩⟩⟩ <;> simp
      exact (hno a b c t hr).elim

theorem x12Encode_res (hp : Pass n I J P O) (h2 : 2 ≤ n) (s : St) (hi : I 0 s) : Res O (x12Encode s) := by
  have hl := x12Loop_res hp (s.charsLeft + 2) s hi
  rw [x12Encode_eq]
  split
  · exact hl.err ‹_›
  · rename_i t sw heq
    have hf : sw = false → I 0 t ∧ t.charsLeft < 3 := (hl.ok heq).1
    have ht : sw = true → P 0 t := (hl.ok heq).2
    -- `set_ascii_until_end` after the loop: at most two characters left
    have hasc : (t.charsLeft ≤ 2 ∨ sw = false) → ∀ cw, O ({ t with cw := cw } : St).setAscii := by
      intro hor cw
      cases sw with
      | false =>
        have := (hf rfl).2
        exact hp.tail _ t cw t.pos (hf rfl).1 (Nat.le_add_right _ _) (by unfold St.charsLeft at this; omega) (by omega)
      | true =>
        refine hp.handler _ _ _ (ht rfl) (.ascii cw 0 (Nat.zero_le _) (Nat.zero_le _) ?_)
        rcases hor with h1 | h1
        · omega
        · cases h1
    have hunl : O ((if !sw then t.setAscii else t).push 254) := by
      cases sw with
      | false => exact hasc (Or.inr rfl) (t.cw ++ [254])
      | true => exact hp.handler _ _ _ (ht rfl) (.wrote _)
    unfold x12Tail
    refine res_if (fun h1 => ?_) fun _ => res_if (fun _ => hunl) fun hm => ?_
    · split
      · nofun
      · -- one ASCII codeword fills the symbol: no UNLATCH
        show O (if _ then _ else _)
        split
        · exact hasc (Or.inl h1.1) t.cw
        · exact hunl
    · split
      · nofun
      · show O (if _ then _ else _)
        split
        · exact hunl
        · cases sw with
          | true => exact hp.handler _ _ _ (ht rfl) (Ended.refl _)
          | false => exact hp.handler _ _ _ (hp.fin _ _ (hf rfl).1 (by simpa using hm)) (Ended.refl _)

theorem encodeMode_res (hp : Pass n I J P O) (s : St) (h2 : s.mode = .c40 ∨ s.mode = .text ∨ s.mode = .x12 → 2 ≤ n)
    (h4 : s.mode = .edifact → 4 ≤ n) (hi : ∀ cw, I 0 { s with cw := cw }) :
    Res O (encodeMode s) := by
  unfold encodeMode
  split
  · exact asciiLoop_res hp _ _ (hp.mid (hi s.cw))
  · exact c40Loop_res hp (h2 (.inl ‹_›)) _ _ _ _ _ (hi s.cw)
  · exact c40Loop_res hp (h2 (.inr (.inl ‹_›))) _ _ _ _ _ (hi s.cw)
  · exact x12Encode_res hp (h2 (.inr (.inr ‹_›))) _ (hi s.cw)
  · exact edifactLoop_res hp (h4 ‹_›) _ _ _ (hi s.cw)
  · exact b256Loop_res hp _ _ _ (hi _)

end loops

end DM.Lemmas.EncStep
