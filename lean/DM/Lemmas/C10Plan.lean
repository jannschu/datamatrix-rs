import DM.Lemmas.C10Norm
import DM.Lemmas.PlanPrune
/-!
For "`optimize` always returns a plan when ASCII is enabled" (`DM/Props/C10Ascii.lean`), all six modes.

The only plan `add_switches` pushes nothing for is an X12 plan inside a triple (`values ≠ 0`, no
`switchCost`; `Bad`). Costs modulo 12 (`C10Norm.NormG`) separate such a plan from every X12 plan at a triple
boundary (`norm_distinct`), which gives the shape of a pruned list (`prune_tri`): it contains a plan of another
mode, or only `Bad` plans, or no `Bad` plan. A candidate of another mode than X12 is only removed in favour
of a plan that is kept and is not `Bad` (`prune_nonx12`).
-/
namespace DM.Lemmas.C10Plan
open DM.Model DM.Model.Plan DM.Model.Enc DM.Lemmas.PlanInv DM.Lemmas.PlanLoop
open DM.Lemmas.PlanStep DM.Lemmas.PlanRounds DM.Lemmas.PlanSwitch DM.Lemmas.PlanPrune DM.Lemmas.C10Norm

def Bad (g : GPlan) : Prop := g.switchCost = none

theorem bad_plan {g : GPlan} (h : Bad g) : ∃ p, g.plan = .x12 p ∧ p.values ≠ 0 := switchCost_none h

/-- an X12 plan cannot be left exactly inside a triple -/
theorem bad_iff {g : GPlan} {p : X12P} (hp : g.plan = .x12 p) : Bad g ↔ p.values ≠ 0 := by
  simp only [Bad, GPlan.switchCost, hp]
  split <;> simp [*]

theorem bad_x12 {g : GPlan} (h : Bad g) : g.current = .x12 := by
  obtain ⟨p, hp, _⟩ := bad_plan h
  exact current_x12 hp

theorem nonx12_good {g : GPlan} (h : g.current ≠ .x12) : ¬ Bad g := fun hb => h (bad_x12 hb)

theorem costFor_some_of_good {g : GPlan} (h : ¬ Bad g) (m : EMode) : ∃ x, g.costForSwitchingTo m = some x := by
  by_cases hm : g.current = m
  · exact ⟨_, costFor_same hm⟩
  · cases hs : g.switchCost with
    | none => exact absurd hs h
    | some s => exact ⟨_, by rw [costFor_ne hm, hs]; rfl⟩

theorem costFor_bad {g : GPlan} (h : Bad g) (m : EMode) :
    (g.current = m ∧ g.costForSwitchingTo m = some g.cost) ∨ (g.current ≠ m ∧ g.costForSwitchingTo m = none) := by
  by_cases hm : g.current = m
  · exact .inl ⟨hm, costFor_same hm⟩
  · exact .inr ⟨hm, by rw [costFor_ne hm, show g.switchCost = none from h]; rfl⟩

theorem good_of_costFor {f : GPlan} {m : EMode} {x : Nat} (h : f.costForSwitchingTo m = some x)
    (hm : m ≠ .x12) : ¬ Bad f := by
  intro hb
  rcases costFor_bad hb m with ⟨h1, _⟩ | ⟨_, h2⟩
  · exact hm (by rw [← h1]; exact bad_x12 hb)
  · rw [h2] at h; cases h

theorem norm_distinct {f y : GPlan} (hf : NormG f) (hy : NormG y) (hbf : Bad f) (hgy : ¬ Bad y)
    (hyx : y.current = .x12) : f.cost ≠ y.cost := by
  obtain ⟨pf, hpf, hvf⟩ := bad_plan hbf
  obtain ⟨py, hpy⟩ := hyx ▸ plan_of_current y
  have hvy : py.values = 0 := Classical.not_not.mp (mt (bad_iff hpy).mpr hgy)
  obtain ⟨fe, fn⟩ := hf
  obtain ⟨ye, yn⟩ := hy
  rw [hpf] at fn
  rw [hpy] at yn
  simp only [NormX] at fn yn
  simp only [GPlan.cost, hpf, hpy]
  have h1 : (pf.cost + 4 * pf.values) % 12 = 0 ∧ pf.values < 3 := by
    cases hae : pf.asciiEnd with
    | none => rw [hae] at fn; exact fn
    | some f => rw [hae] at fn; exact absurd fn.1 hvf
  have h2 : py.cost % 6 = 0 := by
    cases hae : py.asciiEnd with
    | none => rw [hae] at yn; simp only [] at yn; rw [hvy] at yn; omega
    | some f => rw [hae] at yn; exact yn.2.1
  have : pf.values = 1 ∨ pf.values = 2 := by omega
  rcases this with h | h <;> rw [h] at h1 <;> omega

def HB (l : List GPlan) : Prop := ∀ x, l.head? = some x → x.current = .x12 → Bad x

/-- Dominance by a `Bad` first plan (an X12 plan inside a triple): of the X12 plans it keeps those of its own
cost, which are `Bad` too; it stops at the first plan of another mode. -/
theorem dom_bad (first : GPlan) (hb : Bad first) (hn : NormG first) : ∀ rest : List GPlan,
    (∀ c ∈ rest, NormG c ∧ first.cost ≤ c.cost) →
    HB (dominancePlans first rest).1 ∧
    ((dominancePlans first rest).2 = false → ∀ x ∈ (dominancePlans first rest).1, Bad x) := by
  intro rest
  induction rest with
  | nil => intro _; simp [dominancePlans, HB]
  | cons s rest ih =>
    intro hall
    have ihr := ih (fun c hc => hall c (List.mem_cons_of_mem _ hc))
    unfold dominancePlans
    rcases costFor_bad hb s.current with ⟨hcur, hcf⟩ | ⟨hcur, hcf⟩
    · rw [hcf]
      simp only
      split
      · exact ihr
      · rename_i hnlt
        have hsx : s.current = .x12 := by rw [← hcur]; exact bad_x12 hb
        have hbs : Bad s := by
          apply Classical.byContradiction
          intro hgs
          have hne := norm_distinct hn (hall s (List.mem_cons_self ..)).1 hb hgs hsx
          have := (hall s (List.mem_cons_self ..)).2
          omega
        refine ⟨fun x hx _ => by cases hx; exact hbs, ?_⟩
        intro hunc x hx
        rcases List.mem_cons.mp hx with rfl | hx
        · exact hbs
        · exact ihr.2 hunc x hx
    · rw [hcf]
      simp only
      refine ⟨?_, fun h => by cases h⟩
      intro x hx hsx
      cases hx
      exact absurd (by rw [hsx]; exact bad_x12 hb) hcur

theorem phase2_bad : ∀ (f : Nat) (pre l : List GPlan), l.length ≤ f → (∀ p ∈ pre, Bad p) → HB l →
    (∀ c ∈ l, NormG c) → l.Pairwise (fun a b => a.cost ≤ b.cost) →
    (∃ x ∈ phase2Plans f pre l, x.current ≠ .x12) ∨ (∀ x ∈ phase2Plans f pre l, Bad x) := by
  intro f
  induction f with
  | zero =>
    intro pre l hlen hpre _ _ _
    rw [List.eq_nil_of_length_eq_zero (by omega : l.length = 0)]
    unfold phase2Plans
    rw [List.append_nil]
    exact Or.inr hpre
  | succ f ih =>
    intro pre l hlen hpre hhb hnorm hsorted
    cases l with
    | nil => right; unfold phase2Plans; exact hpre
    | cons first rest =>
      by_cases hx : first.current = .x12
      · have hbf := hhb first rfl hx
        have hd := dom_bad first hbf (hnorm first (List.mem_cons_self ..)) rest (fun c hc =>
          ⟨hnorm c (List.mem_cons_of_mem _ hc), (List.pairwise_cons.mp hsorted).1 c hc⟩)
        have hsub := dominancePlans_sublist first rest
        have hpre' : ∀ p ∈ pre ++ [first], Bad p := by
          intro p hp
          rcases List.mem_append.mp hp with hp | hp
          · exact hpre p hp
          · rw [List.mem_singleton.mp hp]; exact hbf
        unfold phase2Plans
        simp only
        split
        · rename_i hemp
          have : rest = [] := by simpa using hemp
          subst this
          exact Or.inr hpre'
        · split
          · exact ih _ _ (Nat.le_trans hsub.length_le (by simpa using hlen)) hpre' hd.1
              (fun c hc => hnorm c (List.mem_cons_of_mem _ (hsub.subset hc)))
              ((List.pairwise_cons.mp hsorted).2.sublist hsub)
          · rename_i hunc
            right
            intro x hx'
            rcases List.mem_append.mp hx' with hx' | hx'
            · exact hpre x hx'
            · rcases List.mem_cons.mp hx' with rfl | hx'
              · exact hbf
              · exact hd.2 (by simpa using hunc) x hx'
      · exact Or.inl ⟨first, phase2_head _ _ _ _, hx⟩

theorem dom_good (first : GPlan) (hg : ¬ Bad first) : ∀ rest : List GPlan,
    (dominancePlans first rest).2 = false ∧
    ∀ c ∈ (dominancePlans first rest).1, ∃ x, first.costForSwitchingTo c.current = some x ∧ ¬ x < c.cost := by
  intro rest
  induction rest with
  | nil => simp [dominancePlans]
  | cons s rest ih =>
    unfold dominancePlans
    obtain ⟨x, hx⟩ := costFor_some_of_good hg s.current
    rw [hx]
    simp only
    split
    · exact ih
    · rename_i hnlt
      refine ⟨ih.1, ?_⟩
      intro c hc
      rcases List.mem_cons.mp hc with rfl | hc
      · exact ⟨x, hx, hnlt⟩
      · exact ih.2 c hc

def Tri (l : List GPlan) : Prop :=
  (∃ x ∈ l, x.current ≠ .x12) ∨ (∀ x ∈ l, Bad x) ∨ (∀ x ∈ l, ¬ Bad x)

theorem prune_tri {cands live : List GPlan} {perm : List Nat} (hn : ∀ c ∈ cands, NormG c)
    (h : removeHopelessPlans cands perm = .ok live) : Tri live := by
  obtain ⟨l, rfl, hsorted, hsub, _⟩ := removeHopeless_eq h
  have hnorm : ∀ c ∈ l, NormG c := fun c hc => hn c (hsub c hc)
  cases l with
  | nil => right; left; intro x hx; simp [phase2Plans] at hx
  | cons z rest =>
    by_cases hx : z.current = .x12
    · have hzr : ∀ c ∈ rest, NormG c ∧ z.cost ≤ c.cost := fun c hc =>
        ⟨hnorm c (List.mem_cons_of_mem _ hc), (List.pairwise_cons.mp hsorted).1 c hc⟩
      have hdsub := dominancePlans_sublist z rest
      by_cases hbz : Bad z
      · rcases phase2_bad _ [] (z :: rest) (Nat.le_refl _) (fun p hp => by cases hp)
            (fun x hx' _ => by cases hx'; exact hbz) hnorm hsorted with h1 | h1
        · exact Or.inl h1
        · exact Or.inr (Or.inl h1)
      · have hd := dom_good z hbz rest
        right; right
        have hkept : ∀ c ∈ (dominancePlans z rest).1, ¬ Bad c := by
          intro c hc hbc
          obtain ⟨x, hx1, hx2⟩ := hd.2 c hc
          have hcx := bad_x12 hbc
          rw [costFor_same (by rw [hx, hcx]), Option.some.injEq] at hx1
          have hcr := hdsub.subset hc
          have hle := (hzr c hcr).2
          have hne := norm_distinct (hzr c hcr).1 (hnorm z (List.mem_cons_self ..)) hbc hbz hx
          omega
        simp only [List.length_cons]
        unfold phase2Plans
        simp only
        split
        · rename_i hemp
          have : rest = [] := by simpa using hemp
          subst this
          intro x hx'
          simp only [List.nil_append, List.mem_singleton] at hx'
          subst hx'; exact hbz
        · rw [hd.1]
          simp only [Bool.false_eq_true, ↓reduceIte, List.nil_append]
          intro x hx'
          rcases List.mem_cons.mp hx' with rfl | hx'
          · exact hbz
          · exact hkept x hx'
    · exact Or.inl ⟨z, phase2_head _ _ _ _, hx⟩

theorem prune_nonx12 {cands live : List GPlan} {perm : List Nat}
    (h : removeHopelessPlans cands perm = .ok live) :
    ∀ c ∈ cands, c.current ≠ .x12 → ∃ c' ∈ live, ¬ Bad c' := by
  intro c hc hx
  refine prune_inherit (m := c.current) ⟨?_, ?_⟩ h c hc (nonx12_good hx) rfl
  · intro f _ _ _ _ _ hfm _
    exact nonx12_good (by rw [hfm]; exact hx)
  · intro f _ _ _ _ _ _ x hx' _
    exact good_of_costFor hx' hx

theorem gstep_x12_inv {g g' : GPlan} {r : StepResult} {p' : X12P} (hs : g.step = .ok (some (g', r)))
    (hp' : g'.plan = .x12 p') : ∃ p, g.plan = .x12 p ∧ x12Step p = .ok (some (p', r)) := by
  obtain ⟨_, _, hk⟩ := gstep_cases hs
  cases hp : g.plan with
  | x12 p =>
    rw [hp] at hk
    obtain ⟨p1, hs1, hp1⟩ := hk
    rw [hp1] at hp'
    cases hp'
    exact ⟨p, rfl, hs1⟩
  | ascii p => rw [hp] at hk; obtain ⟨_, _, hp1⟩ := hk; rw [hp1] at hp'; cases hp'
  | c40 p => rw [hp] at hk; obtain ⟨_, _, hp1⟩ := hk; rw [hp1] at hp'; cases hp'
  | edifact p => rw [hp] at hk; obtain ⟨_, _, hp1⟩ := hk; rw [hp1] at hp'; cases hp'
  | base256 p => rw [hp] at hk; obtain ⟨_, _, hp1⟩ := hk; rw [hp1] at hp'; cases hp'

theorem x12_stays {data : List Nat} {list : List Sym} {k : Nat} {g g' : GPlan} {r : StepResult} {p : X12P}
    (hp : g.plan = .x12 p) (hc : CtxAt data list k p.ctx)
    (hcl : data.length - k ≤ 2) (hv : p.values = 0) (hs : g.step = .ok (some (g', r))) : ¬ Bad g' := by
  intro hb
  obtain ⟨p', hp', hv'⟩ := bad_plan hb
  obtain ⟨q, hq, hx⟩ := gstep_x12_inv hs hp'
  rw [hp] at hq
  cases hq
  exact hv' ((x12Step_near_end hx).1 hv (by rw [charsLeft_eq hc]; exact hcl))

theorem step_kind_new {m : EMode} {ctx : Ctx} {e : Nat} {sw : List (Nat × EMode)} {c : GPlan} {r : StepResult}
    {p' : X12P} (hs : GPlan.step { extra := e, switches := sw, plan := newPlan m ctx } = .ok (some (c, r)))
    (hp' : c.plan = .x12 p') : m = .x12 := by
  obtain ⟨p, hp, _⟩ := gstep_x12_inv hs hp'
  cases m <;> simp only [newPlan] at hp <;> first | rfl | cases hp

theorem good_switchCost {g : GPlan} (h : ¬ Bad g) : ∃ s, g.switchCost = some s := by
  cases hs : g.switchCost with
  | none => exact absurd hs h
  | some s => exact ⟨s, rfl⟩

theorem succ_cases {data : List Nat} {list : List Sym} {modes k : Nat} {plans cands live : List GPlan}
    (hasc : enabledMode modes .ascii = true) (hk : k < data.length)
    (R : Round data list modes k plans cands live) {g : GPlan} (hg : g ∈ plans) (hgood : ¬ Bad g) :
    (∃ s ∈ cands, s.current ≠ .x12) ∨
    (g.current = .x12 ∧ ∃ g' r, g.step = .ok (some (g', r)) ∧ r.unbeatable = true) := by
  obtain ⟨s, hs⟩ := good_switchCost hgood
  rcases R.leaves hasc hg hs with ⟨_, _, _, c, hc, hch⟩ | ⟨g', r, hst, hg', h4, _, hu⟩
  · exact .inl ⟨c, hc, by rw [hch.current]; decide⟩
  · by_cases hx : g.current = .x12
    · exact .inr ⟨hx, g', r, hst, (hu hk).resolve_left (by rw [hx]; decide)⟩
    · exact .inl ⟨g', hg', by rw [h4]; exact hx⟩

/-- With ASCII enabled some live plan is not `Bad`, round after round. Such a plan leaves a candidate of
another mode than X12, which pruning only replaces by a plan that is not `Bad` - unless it is an X12 plan in
its ASCII end; then at most two characters are left, an X12 plan at a triple boundary stays at one, and
`Tri` shows that pruning cannot have kept `Bad` plans only. -/
theorem round_plan {data : List Nat} {list : List Sym} {modes k w : Nat} {plans cands live : List GPlan}
    (hasc : enabledMode modes .ascii = true)
    (hnorm : ∀ g ∈ plans, NormG g) (hnormc : k < data.length → ∀ c ∈ cands, NormG c)
    (hI : Tri plans ∧ ∃ g ∈ plans, ¬ Bad g) (R : Round data list modes k plans cands live) :
    RoundGoal data w (fun _ plans => Tri plans ∧ ∃ g ∈ plans, ¬ Bad g) (fun p _ => ∃ q, p = some q) k live := by
  obtain ⟨htri, g, hg, hgood⟩ := hI
  have hlive := R.plans_live
  obtain ⟨perm, hr⟩ := R.pruned
  have hcne : cands ≠ [] := by
    obtain ⟨s, hsc⟩ := good_switchCost hgood
    rcases R.leaves hasc hg hsc with ⟨_, _, _, c, hc, _⟩ | ⟨g', _, _, hg', _⟩
    · exact List.ne_nil_of_mem hc
    · exact List.ne_nil_of_mem hg'
  have hlne : live ≠ [] := removeHopeless_ne_nil hr hcne
  refine ⟨fun h0 => absurd h0 hlne, ?_, fun _ _ _ => ⟨_, rfl⟩⟩
  intro _ hlt
  have htri' : Tri live := prune_tri (hnormc hlt) hr
  refine ⟨htri', ?_⟩
  rcases htri' with ⟨x, hx, hxx⟩ | hallbad | hallgood
  · exact ⟨x, hx, nonx12_good hxx⟩
  · exfalso
    have contra : (∃ s ∈ cands, s.current ≠ .x12) → False := by
      rintro ⟨s, hs, hsx⟩
      obtain ⟨c', hc', hgc⟩ := prune_nonx12 hr s hs hsx
      exact hgc (hallbad c' hc')
    rcases succ_cases hasc hlt R hg hgood with hs | ⟨hgx, g', r, hgs, hunb⟩
    · exact contra hs
    · -- an X12 plan in its ASCII end: at most two characters are left
      obtain ⟨pg, hpg⟩ := hgx ▸ plan_of_current g
      have hctx : CtxAt data list k pg.ctx := by
        have := (hlive g hg).1.1
        rw [hpg] at this
        exact this
      have hcl : data.length - k ≤ 2 := by
        obtain ⟨_, _, _, hx, _⟩ := hpg ▸ gstep_cases hgs
        rw [← charsLeft_eq hctx]
        rcases (x12Step_near_end hx).2 hunb with h | h
        · exact h
        · -- an ASCII end that has been stepped has at most one character left
          have hn := normX_of_normG (hnorm g hg) hpg
          unfold NormX at hn
          cases hae : pg.asciiEnd with
          | none => exact absurd hae h
          | some f => rw [hae] at hn; exact Nat.le_succ_of_le hn.2.2
      cases live with
      | nil => exact hlne rfl
      | cons h0 tl =>
        have hb : Bad h0 := hallbad h0 (List.mem_cons_self ..)
        obtain ⟨ph, hph, hvh⟩ := bad_plan hb
        obtain ⟨q, hq, ⟨r', hs'⟩ | ⟨_, s, ctx, m, hch⟩⟩ := R.origin h0 (R.live_sub h0 (List.mem_cons_self ..))
        · -- stepped from a live plan, which then was inside a triple too
          obtain ⟨po, hpo, _⟩ := gstep_x12_inv hs' hph
          have hctxo : CtxAt data list k po.ctx := by
            have := (hlive q hq).1.1
            rw [hpo] at this
            exact this
          have hbq : Bad q := (bad_iff hpo).mpr fun hv0 => x12_stays hpo hctxo hcl hv0 hs' hb
          rcases htri with ⟨x, hx, hxx⟩ | hab | hag
          · rcases succ_cases hasc hlt R hx (nonx12_good hxx) with hs | ⟨hxx', _⟩
            · exact contra hs
            · exact hxx hxx'
          · exact hgood (hab g hg)
          · exact hag q hq hbq
        · -- a fresh X12 plan so close to the end starts its ASCII end at once
          obtain ⟨ce, r', _, hst', _⟩ := hch.step
          obtain rfl : m = .x12 := step_kind_new hst' hph
          exact x12_stays (g := candOf q (data.length - k) (k == 0) s ctx .x12 ce)
            (p := { ctx := ctx.write ce, values := 0, asciiEnd := none, cost := 0 }) rfl
            (ctxAt_write hch.ctxAt ce) hcl rfl hst' hb
  · cases live with
    | nil => exact absurd rfl hlne
    | cons h0 tl => exact ⟨h0, List.mem_cons_self .., hallgood h0 (List.mem_cons_self ..)⟩

end DM.Lemmas.C10Plan
