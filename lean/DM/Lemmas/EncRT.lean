import DM.Lemmas.CompleteX12
import DM.Lemmas.CompleteAscii
import DM.Lemmas.AsciiRT
import DM.Lemmas.EncState
import DM.Lemmas.EncLoop
/-!
Data-level round trip, encoder side: the decoder model stays in step with the encoder model.
`Sync pre out0 body cw pos`: decoding `cw` from the start consumes exactly `cw`, ends in ASCII mode and has
produced the first `pos` bytes of the message — whatever (legal) codewords follow; `SyncT T`: the same for the tails
among `T`, extended by a decoder segment (`SyncT.extend`) and read off at the end (`SyncT.done`).  Then the encoder's ASCII
loop under any plan: what it writes is `asciiEnc` of what it reads (`asciiLoop_enc`), a segment for the decoder
(`asciiLoop_gen`).
-/
namespace DM.Lemmas.EncRT
open DM.Model DM.Model.Enc DM.Model.Dec DM.Lemmas DM.Lemmas.DecRun DM.Lemmas.AsciiRT DM.Lemmas.Complete

/-- what may follow at an ASCII boundary: anything but a stray UNLATCH -/
def NiceTail (t : List Nat) : Prop := t.head? ≠ some 254

/-- `pre` = the codewords written before the data (FNC1 / Macro header codeword, consumed by
`decode_parts` before its main loop), `out0` = what `decode_parts` has put into the output for them -/
def Sync (pre out0 body cw : List Nat) (pos : Nat) : Prop :=
  pre.length ≤ cw.length ∧ cw.take pre.length = pre ∧
  ∀ tail, NiceTail tail →
    decRun .ascii { rest := cw.drop pre.length ++ tail, eaten := pre.length, out := out0, ecis := [] } =
    decRun .ascii { rest := tail, eaten := cw.length, out := out0 ++ body.take pos, ecis := [] }

theorem sync_init (pre out0 body : List Nat) : Sync pre out0 body pre 0 := by
  refine ⟨Nat.le_refl _, by simp, ?_⟩
  intro tail _
  simp

def AsciiSeg (X chunk : List Nat) : Prop :=
  (∀ c ∈ X, c ≠ 254 ∧ c ≠ 129 ∧ c ≠ 232 ∧ c ≠ 236 ∧ c ≠ 237) ∧
  ∀ (tail : List Nat) (e : Nat) (out : List Nat) (ecis : List (Nat × Nat)),
    decodeAscii (X ++ tail) e out ecis false 0 = decodeAscii tail (e + X.length) (out ++ chunk) ecis false 0

theorem asciiSeg_enc (l : List Nat) (hb : ByteList l) : AsciiSeg (asciiEnc l) l :=
  ⟨fun c hc => by have := asciiEnc_range l hb c hc; omega, asciiEnc_eq_asciiCw l ▸ dec_asciiCw true l hb⟩

theorem asciiSeg_Seg {X chunk : List Nat} (hx : AsciiSeg X chunk) (e : Nat) : Seg e X chunk fun _ => True :=
  fun T _ out => by
    rw [decRun_ascii_eq, decRun_ascii_eq { rest := T, eaten := e + X.length, out := out ++ chunk, ecis := [] }]
    simp only []
    rw [hx.2]

/-- `Sync` for the tails among `T` only: every situation of the main loop (`MainRT.Phase`) is one, with `T` what the
encoder may still write (`Sync` is `SyncT NiceTail`) -/
def SyncT (T : List Nat → Prop) (pre out0 body cw : List Nat) (pos : Nat) : Prop :=
  pre.length ≤ cw.length ∧ cw.take pre.length = pre ∧
  ∀ tail, T tail →
    decRun .ascii { rest := cw.drop pre.length ++ tail, eaten := pre.length, out := out0, ecis := [] } =
    decRun .ascii { rest := tail, eaten := cw.length, out := out0 ++ body.take pos, ecis := [] }

section
variable {T T' : List Nat → Prop} {pre out0 body cw : List Nat} {pos : Nat}

theorem SyncT.mono (h : SyncT T pre out0 body cw pos) (hT : ∀ t, T' t → T t) : SyncT T' pre out0 body cw pos :=
  ⟨h.1, h.2.1, fun tail ht => h.2.2 tail (hT tail ht)⟩

theorem SyncT.extend {X chunk : List Nat} {p : Nat} (hs : SyncT T pre out0 body cw pos)
    (hX : Seg cw.length X chunk T') (hc : body.take pos ++ chunk = body.take p) (hT : ∀ t, T' t → T (X ++ t)) :
    SyncT T' pre out0 body (cw ++ X) p := by
  obtain ⟨hpl, hpt, hs⟩ := hs
  refine ⟨by rw [List.length_append]; omega, by rw [List.take_append_of_le_length hpl]; exact hpt, fun tail ht => ?_⟩
  rw [List.drop_append_of_le_length hpl, List.append_assoc, hs _ (hT tail ht), hX tail ht, List.length_append,
    List.append_assoc, hc]

theorem SyncT.done (hs : SyncT T pre out0 body cw pos) (h0 : T []) (hpos : body.length ≤ pos) :
    decRun .ascii { rest := cw.drop pre.length, eaten := pre.length, out := out0, ecis := [] } =
      .ok { rest := [], eaten := cw.length, out := out0 ++ body, ecis := [] } := by
  have := hs.2.2 [] h0
  rw [List.append_nil] at this
  rw [this, decRun_nil _ _ rfl, List.take_of_length_le hpos]

end

theorem niceTail_append {X : List Nat} (hx : ∀ c ∈ X.head?, c ≠ 254) {t : List Nat} (ht : NiceTail t) : NiceTail (X ++ t) := by
  cases X with
  | nil => exact ht
  | cons x xs => unfold NiceTail; simpa using hx x (by simp)

theorem sync_ascii {pre out0 body cw X chunk : List Nat} {pos p : Nat} (hs : Sync pre out0 body cw pos) (hx : AsciiSeg X chunk)
    (hc : body.take pos ++ chunk = body.take p) : Sync pre out0 body (cw ++ X) p :=
  SyncT.extend hs ((asciiSeg_Seg hx _).mono fun _ _ => trivial) hc fun _ ht =>
    niceTail_append (fun c hc => (hx.1 c (List.mem_of_mem_head? hc)).1) ht

/-- how a mode encoder hands control back -/
def Exit (s s' : St) : Prop :=
  (s'.hasMore = false ∧ s'.mode = s.mode ∧ s'.newMode = s.newMode) ∨
  (s'.mode ≠ s.mode ∧ s'.hasMore = true ∧ (∃ p, (p, s'.mode) ∈ s.plan) ∧
    s'.newMode = (match s'.mode.latch with | some l => some l | none => s.newMode))

theorem take_drop_cons (l : List Nat) (p q : Nat) (hp : p < l.length) (hq : p + 1 ≤ q) :
    (l.drop p).take (q - p) = l[p] :: (l.drop (p + 1)).take (q - (p + 1)) := by
  rw [List.drop_eq_getElem_cons hp]
  have : q - p = (q - (p + 1)) + 1 := by omega
  rw [this, List.take_succ_cons]

theorem exit_of {a s s' : St} (h : Exit a s') (hm : a.mode = s.mode) (hn : a.newMode = s.newMode)
    (hp : ∀ e ∈ a.plan, e ∈ s.plan) : Exit s s' := by
  rcases h with ⟨a1, a2, a3⟩ | ⟨a1, a2, ⟨p, a3⟩, a4⟩
  · exact Or.inl ⟨a1, a2.trans hm, a3.trans hn⟩
  · exact Or.inr ⟨hm ▸ a1, a2, ⟨p, hp _ a3⟩, hn ▸ a4⟩

theorem asciiLoop_enc : ∀ (f : Nat) (s s' : St), asciiLoop f s = .ok s' →
    s'.cw = s.cw ++ asciiEnc ((s.input.drop s.pos).take (s'.pos - s.pos)) ∧ s.pos ≤ s'.pos ∧
    (s.pos ≤ s.input.length → s'.pos ≤ s.input.length) ∧ SameRun s s' ∧ (∀ e ∈ s'.plan, e ∈ s.plan) ∧ Exit s s' := by
  intro f
  induction f with
  | zero => intro s s' h; cases h
  | succ f ih =>
    intro s s' h
    rw [asciiLoop_eq] at h
    rcases EncStep.onSwitch_ok h with ⟨pl, hpl, h⟩ | ⟨m, pl, hpl, hpos, hne, h⟩
    · have hsub : ∀ e ∈ pl, e ∈ s.plan := fun e he => by
        rcases hpl with rfl | hpl
        · exact he
        · rw [hpl]; exact List.mem_cons_of_mem _ he
      rw [show ({ s with plan := pl } : St).rest = s.rest from rfl] at h
      cases hh : asciiHead s.rest with
      | none =>
        rw [hh] at h
        cases h
        have hlen := List.drop_eq_nil_iff.mp (asciiHead_none hh)
        exact ⟨by simp [asciiEnc], Nat.le_refl _, id, ⟨rfl, rfl⟩, hsub,
          Or.inl ⟨by simp [St.hasMore]; omega, rfl, rfl⟩⟩
      | some r =>
        obtain ⟨n, Y⟩ := r
        rw [hh] at h
        obtain ⟨c1, c2, c3, c4, c5, c6⟩ := ih _ s' h
        simp only [] at c1 c2 c3
        obtain ⟨hn0, hnl⟩ := asciiHead_some hh
        have hrl : s.rest.length = s.input.length - s.pos := EncStep.rest_length s
        refine ⟨?_, by omega, fun hle => c3 (by omega), c4, fun e he => hsub e (c5 e he), exit_of c6 rfl rfl hsub⟩
        have hstep := asciiEnc_take_step hh (k := s'.pos - s.pos) (by omega)
        rw [St.rest, List.drop_drop] at hstep
        rw [c1, List.append_assoc, hstep, Nat.sub_sub]
    · cases h
      exact ⟨by simp [asciiEnc], Nat.le_refl _, id, ⟨rfl, rfl⟩, fun e he => by rw [hpl]; exact List.mem_cons_of_mem _ he,
        Or.inr ⟨hne, (EncStep.hasMore_charsLeft _).mpr hpos, ⟨_, by rw [hpl]; exact List.mem_cons_self ..⟩, rfl⟩⟩

theorem asciiLoop_gen : ∀ (f : Nat) (s s' : St), asciiLoop f s = .ok s' → ByteList s.input →
    ∃ X, s'.cw = s.cw ++ X ∧ AsciiSeg X ((s.input.drop s.pos).take (s'.pos - s.pos)) ∧ s.pos ≤ s'.pos ∧
      SameRun s s' ∧ (∀ e ∈ s'.plan, e ∈ s.plan) ∧ Exit s s' := by
  intro f s s' h hb
  obtain ⟨c1, c2, _, c4, c5, c6⟩ := asciiLoop_enc f s s' h
  exact ⟨_, c1, asciiSeg_enc _ (fun x hx => hb x (List.mem_of_mem_drop (List.mem_of_mem_take hx))), c2, c4, c5, c6⟩

theorem asciiLoop_pos_le (f : Nat) (s s' : St) (h : asciiLoop f s = .ok s') (hle : s.pos ≤ s.input.length) :
    s'.pos ≤ s.input.length :=
  (asciiLoop_enc f s s' h).2.2.1 hle

end DM.Lemmas.EncRT
