import DM.Lemmas.SpecAscii
import DM.Lemmas.SpecPure
import DM.Lemmas.B256Gen
/-
The reference decoder (`DM.Spec.Stream`) on the output of the Base 256 encoder: latch 231, the
length field in its three forms, 255-state randomisation by codeword position (`steps_b256`); what the Base 256
encoder leaves under any plan (`b256Loop_specGen`).
-/
namespace DM.Lemmas.SpecB256
open DM.Model DM.Lemmas DM.Lemmas.AsciiRT DM.Lemmas.SpecStep DM.Lemmas.SpecAscii DM.Lemmas.Complete DM.Spec.Stream
open DM.Spec.Build (randomize255)

theorem unrand_rand (v p : Nat) (hv : v < 256) : unrand255 (randomize255 v p) p = v := derand_rand v p hv

theorem unrand_at {cw : Array Nat} {j v : Nat} (hv : v < 256) (h : cw[j]? = some (randomize255 v (j + 1))) :
    unrand255 cw[j]! (j + 1) = v := by
  rw [(idx h).2, unrand_rand v _ hv]

theorem b256Out_rand (cw : Array Nat) (start : Nat) (body : List Nat) (hb : ByteList body)
    (ho : Occurs cw start (randFrom (start + 1) body)) : b256Out cw start body.length = body := by
  refine List.ext_getElem (by simp [b256Out]) fun k h1 h2 => ?_
  have := derand_getElem? body hb (start + 1) k
  rw [← ho k (by rwa [randFrom_length]), List.getElem?_eq_getElem h2] at this
  obtain ⟨c, hc, e⟩ := Option.map_eq_some_iff.mp this
  simp only [b256Out, List.getElem_map, List.getElem_range', Nat.one_mul, (idx hc).2]
  rw [Nat.add_right_comm] at e; exact e

/-- The length field in each of its three forms: the conclusion is the case distinction `step_b256` asks for. -/
theorem hdr_read (cw : Array Nat) (i : Nat) (body : List Nat) (toEnd : Bool)
    (ho : Occurs cw i (randFrom (i + 1) (b256Hdr body toEnd)))
    (hok : if toEnd then cw.size = i + 1 + body.length else (1 ≤ body.length ∧ body.length ≤ 1555)) :
    ∃ c, cw[i]? = some c ∧
     ((unrand255 c (i + 1) = 0 ∧ body.length = cw.size - (i + 1) ∧ i + (b256Hdr body toEnd).length = i + 1) ∨
      (1 ≤ unrand255 c (i + 1) ∧ unrand255 c (i + 1) ≤ 249 ∧ body.length = unrand255 c (i + 1) ∧
        i + (b256Hdr body toEnd).length = i + 1) ∨
      (250 ≤ unrand255 c (i + 1) ∧ i + 1 < cw.size ∧
        body.length = 250 * (unrand255 c (i + 1) - 249) + unrand255 cw[i + 1]! (i + 2) ∧
        i + (b256Hdr body toEnd).length = i + 2)) := by
  cases toEnd with
  | true =>
    refine ⟨_, ho.head, Or.inl ⟨unrand_rand 0 _ (by omega), ?_, rfl⟩⟩
    rw [if_pos rfl] at hok
    omega
  | false =>
    rw [if_neg (by decide)] at hok
    by_cases h249 : body.length ≤ 249
    · rw [b256Hdr_short h249] at ho ⊢
      refine ⟨_, ho.head, Or.inr (Or.inl ?_)⟩
      rw [unrand_rand _ _ (by omega)]
      exact ⟨hok.1, h249, rfl, rfl⟩
    · rw [b256Hdr_long h249] at ho ⊢
      have h2 := ho.tail.head
      refine ⟨_, ho.head, Or.inr (Or.inr ?_)⟩
      rw [unrand_rand _ _ (by omega), unrand_at (by omega) h2]
      exact ⟨by omega, (idx h2).1, by omega, rfl⟩

theorem steps_b256 (cw : Array Nat) (s : St) (body : List Nat) (toEnd : Bool) (hm : s.mode = .ascii) (hb : ByteList body)
    (ho : Occurs cw s.i (231 :: randFrom (s.i + 2) (b256Hdr body toEnd ++ body)))
    (hok : if toEnd then cw.size = s.i + 2 + body.length else (1 ≤ body.length ∧ body.length ≤ 1555)) :
    Steps cw 2 s (afterStretch s (1 + (b256Hdr body toEnd).length + body.length) {} body .base256 .ascii) := by
  have hfit := ho.fits (List.cons_ne_nil _ _)
  rw [List.length_cons, randFrom_length, List.length_append] at hfit
  have hoF := ho.tail
  rw [randFrom_append] at hoF
  have hoB := hoF.right
  rw [randFrom_length, show s.i + 2 + (b256Hdr body toEnd).length = s.i + 1 + (b256Hdr body toEnd).length + 1 by omega] at hoB
  obtain ⟨c, hc, hcase⟩ := hdr_read cw (latch s .base256).i body toEnd hoF.left hok
  refine (Steps.one (step_latch cw s 231 .base256 ho.head hm (by simp))).trans (Steps.one ?_)
  have hout : b256Out cw ((latch s .base256).i + (b256Hdr body toEnd).length) body.length = body :=
    b256Out_rand cw _ body hb hoB
  rw [step_b256 cw (latch s .base256) c body.length _ hc rfl hcase (by simp only [latch]; omega), hout]
  simp [afterStretch, latch, Nat.add_assoc]

open DM.Lemmas.EncRT DM.Lemmas.C40Gen DM.Lemmas.B256Gen DM.Lemmas.PlanProv DM.Lemmas.MainRT

/-- under any plan: a mode encoder that calls `set_ascii_until_end` only at the end of the data (as Base 256 does) hands back,
at a planned switch, the latch of the new mode as the pending one -/
theorem latch_pass : EncStep.Pass 0 (fun _ s => s.newMode = none) (fun _ s => s.newMode = none)
    (fun _ s => s.hasMore = true → s.newMode = s.mode.latch) (fun s => s.hasMore = true → s.newMode = s.mode.latch) where
  eat _ _ _ h := h
  wrote _ _ _ _ h _ := h
  stay _ s s1 hm h := by obtain ⟨pl, rfl, _⟩ := EncStep.maybeSwitch_false hm; exact h
  leave _ s s1 hm h := by
    obtain ⟨m, pl, _, _, _, rfl⟩ := EncStep.maybeSwitch_true hm
    intro _
    simp only [h]
    cases m.latch <;> rfl
  fin _ s _ hmf := fun hm => absurd (hmf.symm.trans hm) Bool.false_ne_true
  tail _ s cw p' _ _ hn _ := fun hm => by
    have := of_decide_eq_true hm
    simp only [Enc.St.setAscii] at this
    omega
  handler k s s' h he := by
    cases he with
    | wrote cw => exact h
    | ascii cw back hk hp hb =>
      intro hm
      have := of_decide_eq_true hm
      simp only [Enc.St.setAscii, Enc.St.charsLeft] at this hb
      omega

theorem b256Loop_specGen (list : List Sym) (body : List Nat) (hb : ByteList body) (p0 : Nat) (c0 : List Nat)
    (f : Nat) (s s' : Enc.St) (inv : BInv list body p0 c0 s)
    (hprog : s.hasMore = true ∨ p0 < s.pos) (h : Enc.b256Loop (c0.length + 1) f s = .ok s') :
    BRun list body p0 c0 s' ∧ (s'.hasMore = true → s'.newMode = s'.mode.latch) :=
  ⟨b256Loop_run list body hb p0 c0 f s s' inv hprog h, (EncStep.b256Loop_res latch_pass _ f s inv.newMode).ok h⟩

end DM.Lemmas.SpecB256
