import DM.Lemmas.CoupleSeg
import DM.Lemmas.SymbolList
import DM.Lemmas.PlanRunEdi
import DM.Lemmas.EncStep
/-!
# Planner / encoder coupling for EDIFACT

* `switchSeg_edifact : SwitchSeg .edifact`.  The `tooMuch` alternative never occurs.
  The planner half `edi_switch_plan` (`Lemmas/PlanRunEdi.lean`) and the encoder half `edi_switch_enc` meet in `EdiSeg`, the
  segment as data (`k = 4 j + u` characters, `3 j + min (u + 1) 3` codewords).
* `endSegS_edifact : EndSegS .edifact 1`.  It is cut like the switch exit: `edi_end_plan` and `edi_end_enc` meet in `EdiEnd`.
  `EndSeg .edifact` as stated in `Couple.lean` is false
  (`endSeg_edifact_false`): `handle_end` appends the UNLATCH value / the codeword 124 whenever the symbol has
  room, and `EdifactPlan::cost` does not price it.

`EdiRT.AsciiEndOK` is the common decision of the planner's look-ahead (`ediInit`) and of `try_ascii_end`; `EI` is
the state of `edifactLoop` after `t = 4 j + u` characters (`EncAt` with `w + 3 j` codewords, `u < 4` characters
buffered). The encoder half never divides: its lemmas take `t` in the form `4 * j + u`.
-/
namespace DM.Lemmas.CoupleEdi
open DM.Model DM.Model.Plan DM.Model.Enc DM.Lemmas.AsciiRT DM.Lemmas.Couple DM.Lemmas.PlanInv DM.Lemmas.CoupleSeg
open DM.Lemmas.PlanStep

def EI (body : List Nat) (list : List Sym) (p w : Nat) (plan : List (Nat × EMode)) (t : Nat) (s : St) (sym : List Nat) :
    Prop :=
  ∃ j u, t = 4 * j + u ∧ u < 4 ∧ EncAt body list s (p + t) (w + 3 * j) .edifact plan ∧ p + t ≤ body.length ∧
    sym = (body.drop (p + 4 * j)).take u

theorem EI.at {body list p w plan j u s sym} (h : EI body list p w plan (4 * j + u) s sym) (hu : u < 4) :
    EncAt body list s (p + (4 * j + u)) (w + 3 * j) .edifact plan ∧ p + (4 * j + u) ≤ body.length ∧
      sym = (body.drop (p + 4 * j)).take u ∧ sym.length = u := by
  obtain ⟨j', u', ht, hu', h1, h2, h3⟩ := h
  obtain rfl : j' = j := by omega
  obtain rfl : u' = u := by omega
  refine ⟨h1, h2, h3, ?_⟩
  rw [h3, List.length_take, List.length_drop]
  omega

theorem sym_rest {body : List Nat} {P i : Nat} : (body.drop P).take i ++ body.drop (P + i) = body.drop P := by
  rw [← List.drop_drop, List.take_append_drop]

/-- the test at the head of a round (`try_ascii_end` with nothing buffered) in the terms of `EI` -/
theorem EI.early {body list p w plan j s sym} (h : EI body list p w plan (4 * j) s sym) :
    EdiRT.AsciiEndOK s.list s.cw.length s.rest ↔ EdiRT.AsciiEndOK list (w + 3 * j) (body.drop (p + 4 * j)) := by
  obtain ⟨⟨e1, e2, e3, e4, -⟩, -⟩ := (show EI body list p w plan (4 * j + 0) s sym from h).at (by decide)
  rw [e2, e4, St.rest, e1, e3]
  rfl

/-- `handle_end` on a loop state, or on one that differs from it in mode, plan and pending latch only: the normal form
of `EncStep` in the terms of `EI` -/
theorem handleEnd_EI {body list p w plan j u s sym} (h : EI body list p w plan (4 * j + u) s sym) (hu : u < 4) (s' : St)
    (hi : s'.input = s.input) (hl : s'.list = s.list) (hp : s'.pos = s.pos) (hc : s'.cw = s.cw) :
    edifactHandleEnd s' sym =
      if EdiRT.AsciiEndOK list (w + 3 * j) (body.drop (p + 4 * j)) then .ok ({ s' with pos := p + 4 * j } : St).setAscii
      else if s'.hasMore then .ok (if sym = [] then s'.push 124 else write4 s' (sym ++ [31]))
      else match CoupleC40.szLeft list (w + 3 * j + u) with
        | none => .error .tooMuch
        | some r => .ok (
            if sym = [] then (if r > 0 then (s'.push 124).setAscii else s')
            else if r > 0 ∨ u = 3 then write4 s'.setAscii (sym ++ [31])
            else write4 s' sym) := by
  obtain ⟨⟨e1, e2, e3, e4, -⟩, hle, hsym, hlen⟩ := h.at hu
  have hr : sym ++ s'.rest = body.drop (p + 4 * j) := by
    rw [St.rest, hi, hp, e1, e3, hsym, ← Nat.add_assoc, sym_rest]
  have hpos : s'.pos - sym.length = p + 4 * j := by rw [hp, e3, hlen, ← Nat.add_assoc, Nat.add_sub_cancel]
  have hcw : s'.cw.length = w + 3 * j := by rw [hc, e4]
  have hfb : CoupleC40.szLeft s'.list (s'.cw.length + sym.length) = CoupleC40.szLeft list (w + 3 * j + u) := by
    rw [hl, e2, hcw, hlen]
  have hA : EdiRT.AsciiEndOK s'.list (w + 3 * j) (sym ++ s'.rest) ↔ EdiRT.AsciiEndOK list (w + 3 * j) (body.drop (p + 4 * j)) := by
    rw [hr, hl, e2]
  rw [EncStep.edifactHandleEnd_eq, hpos, hfb, hcw]
  by_cases hb : EdiRT.AsciiEndOK list (w + 3 * j) (body.drop (p + 4 * j))
  · rw [if_pos hb, if_pos (hA.mpr hb), if_pos (by rw [hp, e3, hlen]; omega)]
  · rw [if_neg hb, if_neg (fun h' => hb (hA.mp h')), if_neg (by omega), hlen]
    rfl

theorem loop_step {body list p w plan t s sym} (h : EI body list p w plan t s sym) (hlt : p + t < body.length)
    (hae : ∀ j, t = 4 * j → ¬ EdiRT.AsciiEndOK list (w + 3 * j) (body.drop (p + 4 * j))) :
    ∃ s2 sym2, EI body list p w plan (t + 1) s2 sym2 ∧
      ∀ f, edifactLoop (f + 1) s sym =
        (match s2.maybeSwitch with
          | .error e => .error e
          | .ok (true, s3) => edifactHandleEnd s3 sym2
          | .ok (false, s3) => edifactLoop f s3 sym2) := by
  have ⟨j, u, ht, hu, _⟩ := h
  subst ht
  obtain ⟨⟨e1, e2, e3, e4, e5, e6, e7⟩, hle, hsym, hlen⟩ := h.at hu
  have hlt' : s.pos < s.input.length := by rw [e1, e3]; exact hlt
  have hr := EncStep.rest_cons s hlt'
  rw [show s.input[s.pos] = body[p + (4 * j + u)] by simp only [e1, e3]] at hr
  have hearly : ¬ (sym = [] ∧ s.hasMore = true ∧ EdiRT.AsciiEndOK s.list s.cw.length s.rest) := fun h0 => by
    obtain rfl : u = 0 := by rw [← hlen, h0.1]; rfl
    exact hae j rfl ((EI.early h).mp h0.2.2)
  have hpos : ({ s with pos := s.pos + 1 } : St).pos = p + (4 * j + u + 1) := by
    show s.pos + 1 = _
    rw [e3]
    rfl
  have hsym1 : sym ++ [body[p + (4 * j + u)]] = (body.drop (p + 4 * j)).take (u + 1) := by
    rw [List.take_add_one, ← hsym, List.getElem?_drop, List.getElem?_eq_getElem (by omega)]
    simp only [Option.toList_some, Nat.add_assoc]
  have hlen1 : (sym ++ [body[p + (4 * j + u)]]).length = u + 1 := by rw [List.length_append, hlen]; rfl
  generalize body[p + (4 * j + u)] = c at hr hsym1 hlen1
  by_cases h3 : u = 3
  · subst h3
    refine ⟨write4 { s with pos := s.pos + 1 } (sym ++ [c]), [], ?_, fun f => ?_⟩
    · obtain ⟨w1, w2, w3, w4, w5, w6⟩ := EncStep.write4_same { s with pos := s.pos + 1 } (sym ++ [c])
      refine ⟨j + 1, 0, by omega, by decide, ⟨w2.trans e1, w3.trans e2, w1.trans hpos, ?_, w5.trans e5, w4.trans e6,
        w6.trans e7⟩, hlt, rfl⟩
      rw [EncStep.write4_len _ _ (by simp), hlen1]
      show s.cw.length + 3 = _
      rw [e4]
      rfl
    · rw [EncStep.edifactLoop_eq, if_neg hearly, hr]
      exact if_pos hlen1
  · have h4 : u + 1 < 4 := Nat.lt_of_le_of_ne hu (fun h => h3 (Nat.succ.inj h))
    refine ⟨{ s with pos := s.pos + 1 }, sym ++ [c], ?_, fun f => ?_⟩
    · exact ⟨j, u + 1, rfl, h4, ⟨e1, e2, hpos, e4, e5, e6, e7⟩, hlt, hsym1⟩
    · have h4 : ¬ u + 1 = 4 := Nat.ne_of_lt h4
      rw [EncStep.edifactLoop_eq, if_neg hearly, hr]
      exact if_neg (hlen1 ▸ h4)

theorem loop_run {body list p w at_ m rest} (n t : Nat) (s : St) (sym : List Nat)
    (h : EI body list p w ((at_, m) :: rest) t s sym) (hle : p + t + n ≤ body.length)
    (hat : at_ = 0 ∨ at_ + p + t + n < body.length)
    (hnf : ∀ j, t ≤ 4 * j → 4 * j < t + n → ¬ EdiRT.AsciiEndOK list (w + 3 * j) (body.drop (p + 4 * j))) :
    ∃ s' sym', EI body list p w ((at_, m) :: rest) (t + n) s' sym' ∧
      ∀ f, edifactLoop (f + n) s sym = edifactLoop f s' sym' := by
  have hr := rounds (fun f (x : St × List Nat) => edifactLoop f x.1 x.2)
    (fun i x => EI body list p w ((at_, m) :: rest) (t + i) x.1 x.2) n (fun i x hi h0 => ?_) n (s, sym) (Nat.le_refl n) h
  · obtain ⟨x, hx, ex⟩ := hr
    exact ⟨x.1, x.2, hx, ex⟩
  · obtain ⟨s2, sym2, h2, e2⟩ := loop_step h0 (by omega)
      (fun j hj => hnf j (hj ▸ Nat.le_add_right t i) (hj ▸ Nat.add_lt_add_left hi t))
    have hst : s2.maybeSwitch = .ok (false, s2) := by
      obtain ⟨_, _, _, _, ha, _⟩ := h2
      exact ha.stay (by omega)
    exact ⟨(s2, sym2), h2, fun f => by show edifactLoop (f + 1) x.1 x.2 = _; rw [e2, hst]⟩

/-- `handle_end` after a planned switch: the partial group with the UNLATCH value (or the lone `124`) -/
theorem handleEnd_switch {body list p w plan j u s sym} (h : EI body list p w plan (4 * j + u) s sym) (hu : u < 4) (s3 : St)
    (hi : s3.input = s.input) (hl : s3.list = s.list) (hp : s3.pos = s.pos) (hc : s3.cw = s.cw)
    (hlt : p + (4 * j + u) < body.length) (hae : ¬ EdiRT.AsciiEndOK list (w + 3 * j) (body.drop (p + 4 * j))) :
    ∃ s', edifactHandleEnd s3 sym = .ok s' ∧ s'.input = body ∧ s'.list = list ∧ s'.pos = p + (4 * j + u) ∧
      s'.cw.length = w + 3 * j + min (u + 1) 3 ∧ s'.mode = s3.mode ∧ s'.plan = s3.plan ∧
      s'.newMode = s3.newMode := by
  obtain ⟨⟨e1, e2, e3, e4, -⟩, -, -, hlen⟩ := h.at hu
  have hmore : s3.hasMore = true := by rw [St.hasMore, hi, hp, e1, e3, decide_eq_true hlt]
  have hcw : s3.cw.length = w + 3 * j := by rw [hc, e4]
  rw [handleEnd_EI h hu s3 hi hl hp hc, if_neg hae, if_pos hmore]
  by_cases h0 : sym = []
  · have hu0 : u = 0 := by rw [← hlen, h0]; rfl
    rw [if_pos h0]
    refine ⟨_, rfl, hi.trans e1, hl.trans e2, hp.trans e3, ?_, rfl, rfl, rfl⟩
    simp only [St.push, List.length_append, List.length_singleton, hcw, hu0]
    rfl
  · rw [if_neg h0]
    obtain ⟨w1, w2, w3, w4, w5, w6⟩ := EncStep.write4_same s3 (sym ++ [31])
    refine ⟨_, rfl, w2.trans (hi.trans e1), w3.trans (hl.trans e2), w1.trans (hp.trans e3), ?_, w5, w4, w6⟩
    rw [EncStep.write4_len _ _ (by simp), hcw, List.length_append, hlen]
    rfl

theorem loop_fuel {L k : Nat} (h : k ≤ L) : L + 2 = (L - k + 1) + 1 + k := by omega

theorem edi_switch_enc {body list p w k j u} {m' : EMode} {rest : List (Nat × EMode)} {s : St} (hpk : p + k < body.length)
    (hk : 1 ≤ k) (hseg : EdiSeg body list p w k j u) (hm' : m' ≠ .edifact)
    (henc : EncAt body list s p w .edifact ((body.length - (p + k), m') :: rest)) :
    ∃ s', encodeMode s = .ok s' ∧ Sync body list (p + k) (w + (3 * j + min (u + 1) 3)) m' rest s' := by
  obtain ⟨rfl, hu, hnf'⟩ := hseg
  obtain ⟨k', hk'⟩ : ∃ k', 4 * j + u = k' + 1 := ⟨4 * j + u - 1, (Nat.sub_add_cancel hk).symm⟩
  have hpk' : p + k' < body.length := by rw [hk'] at hpk; exact Nat.lt_of_succ_lt hpk
  have hL : k' ≤ s.charsLeft := by rw [henc.charsLeft]; omega
  have hEI0 : EI body list p w ((body.length - (p + (4 * j + u)), m') :: rest) 0 s [] :=
    ⟨0, 0, rfl, by decide, henc, Nat.le_of_lt (Nat.lt_of_le_of_lt (Nat.le_add_right _ _) hpk), rfl⟩
  obtain ⟨s1, sym1, h1, r1⟩ := loop_run k' 0 s [] hEI0 (Nat.le_of_lt hpk') (Or.inr (by omega))
    (fun j' _ hj => hnf' j' (by rw [hk']; rw [Nat.zero_add] at hj; exact Nat.le_succ_of_le (Nat.le_of_lt hj)))
  rw [Nat.zero_add] at h1
  obtain ⟨s2, sym2, h2, r2⟩ := loop_step h1 hpk' (fun j' hj => hnf' j' (by rw [hk', ← hj]; exact Nat.le_succ _))
  rw [← hk'] at h2
  obtain ⟨s3, hgo, -, rfl⟩ := (h2.at hu).1.go hpk hm'
  obtain ⟨s', hs', b1, b2, b3, b4, b5⟩ := handleEnd_switch h2 hu { s2 with mode := m', plan := rest, newMode := m'.latch }
    rfl rfl rfl rfl hpk (hnf' j (Nat.le_add_right _ _))
  refine ⟨s', ?_, b1, b2, b3, b4.trans (Nat.add_assoc _ _ _), b5⟩
  rw [encodeMode, henc.2.2.2.2.1]
  show edifactLoop (s.charsLeft + 2) s [] = _
  rw [loop_fuel hL, r1, r2, hgo]
  exact hs'

theorem switchSeg_edifact : SwitchSeg .edifact := by
  intro body list p w k g0 gk ac ctx' m' rest s _ hpk hk h0 hst hsp hsc hul hm' henc
  obtain ⟨j, u, h1, h2, h3⟩ := edi_switch_plan hpk h0 hst hsp hsc hul
  rw [h1]
  exact ⟨by omega, by omega, Or.inl (edi_switch_enc hpk (hk.resolve_right (by decide)) h3 hm' henc)⟩

/-- what `EndSeg` concludes about the state the mode encoder leaves (symbol-level form): `n` is the number
of codewords the planner predicted for the segment -/
def EndOK (body : List Nat) (list : List Sym) (w n : Nat) (s' : St) : Prop :=
  s'.input = body ∧ s'.list = list ∧ s'.pos ≤ body.length ∧ s'.newMode = none ∧
  (s'.hasMore = true → s'.mode = .ascii ∧ s'.plan = [(0, .ascii)]) ∧
  w ≤ s'.cw.length ∧
  (∃ S, firstBigEnough list (w + n) = some S ∧ s'.cw.length + asciiSize s'.rest ≤ dataCw S) ∧
  s'.cw.length + asciiSize s'.rest ≤ w + n + 1

theorem loop_end {body list p w plan t s sym} (h : EI body list p w plan t s sym) (hpt : p + t = body.length) (f : Nat) :
    edifactLoop (f + 1) s sym = edifactHandleEnd s sym := by
  obtain ⟨_, _, _, _, ⟨e1, _, e3, _⟩, _⟩ := h
  have ⟨hr, hmore⟩ := at_end s (by rw [e1, e3, hpt]; exact Nat.le_refl _)
  rw [EncStep.edifactLoop_eq, if_neg (fun h => Bool.false_ne_true (hmore.symm.trans h.2.1)), hr]

theorem loop_fire {body list p w plan j s sym} (h : EI body list p w plan (4 * j) s sym) (hlt : p + 4 * j < body.length)
    (hae : EdiRT.AsciiEndOK list (w + 3 * j) (body.drop (p + 4 * j))) (f : Nat) :
    edifactLoop (f + 1) s sym = .ok ({ s with pos := p + 4 * j }).setAscii := by
  have h' : EI body list p w plan (4 * j + 0) s sym := h
  obtain ⟨he, _, _, hlen⟩ := h'.at (by decide)
  rw [EncStep.edifactLoop_eq, if_pos ⟨List.length_eq_zero_iff.mp hlen, by rw [he.hasMore]; exact decide_eq_true hlt,
    (EI.early h).mpr hae⟩, ← show s.pos = p + 4 * j from he.2.2.1]

theorem EndOK.atEnd {body list w n} {s' : St} {S : Sym} (hi : s'.input = body) (hl : s'.list = list)
    (hp : s'.pos = body.length) (hn : s'.newMode = none) (hS : firstBigEnough list (w + n) = some S)
    (h0 : w ≤ s'.cw.length) (h1 : s'.cw.length ≤ dataCw S) (h2 : s'.cw.length ≤ w + n + 1) : EndOK body list w n s' := by
  obtain ⟨hr, hm⟩ := at_end s' (by rw [hi, hp]; exact Nat.le_refl _)
  refine ⟨hi, hl, by rw [hp]; exact Nat.le_refl _, hn, fun h => ?_, h0, ⟨S, hS, ?_⟩, ?_⟩
  · rw [hm] at h
    cases h
  · rw [hr]
    exact h1
  · rw [hr]
    exact h2

/-- the partial group completed by the UNLATCH value is one codeword longer unless it was full; `handle_end` writes
it when the symbol has room or the group was full -/
theorem unlatch_fits {N D u : Nat} (hge : N + u ≤ D) (h : D - (N + u) > 0 ∨ u = 3) : N + min (u + 1) 3 ≤ D := by
  omega

theorem handleEnd_end {body list p w plan j u s sym} (h : EI body list p w plan (4 * j + u) s sym) (hu : u < 4)
    (hpk : p + (4 * j + u) = body.length) (nf : NoFire body list p w (4 * j + u)) :
    (∃ s', edifactHandleEnd s sym = .ok s' ∧ EndOK body list w (3 * j + u) s') ∨
    (edifactHandleEnd s sym = .error .tooMuch ∧ firstBigEnough list (w + (3 * j + u)) = none) := by
  obtain ⟨⟨e1, e2, e3, e4, -, -, e7⟩, -, -, hlen⟩ := h.at hu
  have hpos : s.pos = body.length := e3.trans hpk
  have ⟨_, hmore⟩ := at_end s (by rw [e1, hpos]; exact Nat.le_refl _)
  have hw : w ≤ s.cw.length := e4 ▸ Nat.le_add_right w _
  rw [handleEnd_EI h hu s rfl rfl rfl rfl]
  by_cases hu0 : u = 0
  · -- the data ends at a group boundary
    subst hu0
    have hs0 : sym = [] := List.length_eq_zero_iff.mp hlen
    rw [List.drop_eq_nil_of_le (Nat.le_of_eq hpk.symm : body.length ≤ p + 4 * j), Nat.add_zero]
    by_cases hb : EdiRT.AsciiEndOK list (w + 3 * j) []
    · rw [if_pos hb]
      obtain ⟨_, _, S, hS, hsp⟩ := hb
      have hge := SymbolList.fbe_some_ge _ _ _ hS
      exact Or.inl ⟨_, rfl, EndOK.atEnd (s' := ({ s with pos := p + 4 * j } : St).setAscii) e1 e2 hpk e7 hS hw
        (e4 ▸ hge) (e4 ▸ Nat.le_succ _)⟩
    · rw [if_neg hb, hmore, if_neg Bool.false_ne_true, hs0]
      cases hr : CoupleC40.szLeft list (w + 3 * j) with
      | none => exact Or.inr ⟨rfl, CoupleC40.szLeft_eq_none_iff.mp hr⟩
      | some r =>
        obtain ⟨S, hf, hcap⟩ := CoupleC40.szLeft_eq_some_iff.mp hr
        have hge : w + 3 * j ≤ dataCw S := by omega
        simp only [↓reduceIte]
        by_cases hroom : r > 0
        · rw [if_pos hroom]
          have hl : ((s.push 124).setAscii).cw.length = w + 3 * j + 1 := by
            simp only [St.setAscii, St.push, List.length_append, List.length_singleton, e4]
          exact Or.inl ⟨_, rfl, EndOK.atEnd e1 e2 hpos e7 hf (hl ▸ Nat.le_succ_of_le (Nat.le_add_right w _)) (by omega)
            (Nat.le_of_eq hl)⟩
        · rw [if_neg hroom]
          exact Or.inl ⟨s, rfl, EndOK.atEnd e1 e2 hpos e7 hf hw (e4 ▸ hge) (e4 ▸ Nat.le_succ _)⟩
  · -- a partial group is buffered
    have hne : sym ≠ [] := fun h0 => hu0 (by rw [← hlen, h0]; rfl)
    rw [if_neg (nf j (Nat.lt_add_of_pos_right (Nat.pos_of_ne_zero hu0))), hmore, if_neg Bool.false_ne_true]
    cases hr : CoupleC40.szLeft list (w + 3 * j + u) with
    | none => exact Or.inr ⟨rfl, Nat.add_assoc w _ u ▸ CoupleC40.szLeft_eq_none_iff.mp hr⟩
    | some r =>
      obtain ⟨S, hf, hcap⟩ := CoupleC40.szLeft_eq_some_iff.mp hr
      have hge : w + 3 * j + u ≤ dataCw S := by omega
      have hf' : firstBigEnough list (w + (3 * j + u)) = some S := Nat.add_assoc w _ u ▸ hf
      left
      simp only []
      rw [if_neg hne]
      by_cases hroom : r > 0 ∨ u = 3
      · rw [if_pos hroom]
        obtain ⟨w1, w2, w3, _, _, w6⟩ := EncStep.write4_same s.setAscii (sym ++ [31])
        have hl : (write4 s.setAscii (sym ++ [31])).cw.length = w + 3 * j + min (u + 1) 3 := by
          rw [EncStep.write4_len _ _ (by simp), List.length_append, hlen]
          exact congrArg (· + _) e4
        exact ⟨_, rfl, EndOK.atEnd (w2.trans e1) (w3.trans e2) (w1.trans hpos) (w6.trans e7) hf'
          (hl ▸ Nat.le_add_right_of_le (Nat.le_add_right w _)) (hl ▸ unlatch_fits hge (hroom.imp (by omega) id))
          (by rw [hl, ← Nat.add_assoc]; exact Nat.add_le_add_left (Nat.min_le_left _ _) _)⟩
      · rw [if_neg hroom]
        obtain ⟨w1, w2, w3, _, _, w6⟩ := EncStep.write4_same s sym
        have hl : (write4 s sym).cw.length = w + 3 * j + u := by
          rw [EncStep.write4_len _ _ hne, hlen, e4, Nat.min_eq_left (Nat.le_of_lt_succ hu)]
        exact ⟨_, rfl, EndOK.atEnd (w2.trans e1) (w3.trans e2) (w1.trans hpos) (w6.trans e7) hf'
          (hl ▸ Nat.le_add_right_of_le (Nat.le_add_right w _)) (hl ▸ hge)
          (by rw [hl, ← Nat.add_assoc]; exact Nat.le_succ _)⟩

theorem edi_end_enc {body list p w k c} {s : St} (hpk : p + k = body.length) (hseg : EdiEnd body list p w k c)
    (henc : EncAt body list s p w .edifact [(0, .edifact)]) :
    Within list (w + ceil12 c / 12) (encodeMode s) (EndOK body list w (ceil12 c / 12)) := by
  have hEI0 : EI body list p w [(0, .edifact)] 0 s [] :=
    ⟨0, 0, rfl, by decide, henc, Nat.le_trans (Nat.le_add_right p k) (Nat.le_of_eq hpk), rfl⟩
  have hmode : encodeMode s = edifactLoop (k + 2) s [] := by
    rw [encodeMode, henc.2.2.2.2.1]
    show edifactLoop (s.charsLeft + 2) s [] = _
    rw [henc.charsLeft, ← hpk, Nat.add_sub_cancel_left]
  rw [hmode]
  rcases hseg with ⟨nf, rfl⟩ | ⟨j, u, rfl, hu, nf, fire, rfl⟩
  · obtain ⟨j, u, rfl, hu⟩ := exists_groups 4 k (by decide)
    rw [ceil12_9 hu, Nat.mul_div_cancel_left _ (by decide : 0 < 12)]
    obtain ⟨s1, sym1, h1, r1⟩ := loop_run (4 * j + u) 0 s [] hEI0 (Nat.le_of_eq hpk) (Or.inl rfl)
      (fun j _ hj => nf j (by rwa [Nat.zero_add] at hj))
    rw [Nat.zero_add] at h1
    rw [Nat.add_comm _ 2, r1, loop_end h1 hpk 1]
    exact handleEnd_end h1 hu hpk nf
  · left
    have ⟨h4, _, S, hS, hsp⟩ := fire
    rw [ceil12_mul, Nat.mul_div_cancel_left _ (by decide : 0 < 12)]
    have hlt4 : p + 4 * j < body.length := hpk ▸ Nat.add_lt_add_left (Nat.lt_add_of_pos_right hu) p
    obtain ⟨s1, sym1, h1, r1⟩ := loop_run (4 * j) 0 s [] hEI0 (Nat.le_of_lt hlt4) (Or.inl rfl)
      (fun j' _ hj => nf j' (by rwa [Nat.zero_add] at hj))
    rw [Nat.zero_add] at h1
    rw [show 4 * j + u + 2 = (u + 1 + 1) + 4 * j by omega, r1, loop_fire h1 hlt4 fire (u + 1)]
    obtain ⟨⟨e1, e2, -, e4, -, -, e7⟩, -⟩ := EI.at (u := 0) h1 (by decide)
    have hge := SymbolList.fbe_some_ge _ _ _ hS
    rw [Nat.add_assoc] at hS
    refine ⟨_, rfl, e1, e2, Nat.le_of_lt hlt4, e7, fun _ => ⟨rfl, rfl⟩, e4 ▸ Nat.le_add_right w _, ⟨S, hS, ?_⟩, ?_⟩
    all_goals
      show s1.cw.length + asciiSize (s1.input.drop (p + 4 * j)) ≤ _
      rw [e1, e4]
    · exact hge
    · rw [Nat.add_assoc]
      exact Nat.le_succ _

theorem endSeg_edifact_strong (body : List Nat) (list : List Sym) (p w k : Nat) (g0 gk gE : GPlan) (r : StepResult) (s : St)
    (hpk : p + k = body.length) (h0 : g0.plan = newPlan .edifact (ctxAt body list p w))
    (hst : StepsTo k g0 gk) (hstep : gk.step = .ok (some (gE, r))) (hend : r.end = true)
    (henc : EncAt body list s p w .edifact [(0, .edifact)]) :
    g0.extra ≤ gE.cost ∧
    ((∃ s', encodeMode s = .ok s' ∧ EndOK body list w (ceil12 (gE.cost - g0.extra) / 12) s') ∨
     (encodeMode s = .error .tooMuch ∧ firstBigEnough list (w + ceil12 (gE.cost - g0.extra) / 12) = none)) := by
  obtain ⟨c, hc, hseg⟩ := edi_end_plan hpk h0 hst hstep
  rw [hc, Nat.add_sub_cancel_left]
  exact ⟨Nat.le_add_right _ _, edi_end_enc hpk hseg henc⟩

theorem endSegS_edifact : EndSegS .edifact 1 := by
  intro body list p w k g0 gk gE r s _ hpk _ h0 hst hstep hend henc
  refine (endSeg_edifact_strong body list p w k g0 gk gE r s hpk h0 hst hstep hend henc).imp id
    (Within.imp · fun s' _ ⟨a1, a2, a3, a4, a5, a6, ⟨S, hS, hle⟩, a8⟩ => ⟨⟨a1, a2, a3, a4, a5, a6, fun sym hsym => ?_⟩, a8⟩)
  cases hS.symm.trans hsym
  exact hle

/-- Counterexample to the codeword-count form of `EndSeg`: the single character `A` as the whole EDIFACT segment in
the 10x10 symbol (3 data codewords), nothing written before.  The plan prices one value, 9/12 → 1 codeword; the
encoder (`handle_end`, one buffered value, two codewords of space left) appends the UNLATCH value and writes 2. -/
theorem endSeg_edifact_false : ¬ EndSeg .edifact := by
  intro h
  let g0 : GPlan := { extra := 0, switches := [], plan := newPlan .edifact (ctxAt [65] [0] 0 0) }
  let q1 : EdiP := { ctx := { data := [65], pos := 1, written := 0, list := [0] }, written := 1, asciiEnd := none, cost := 9 }
  let g1 : GPlan := { extra := 0, switches := [], plan := .edifact q1 }
  let s : St := { input := [65], pos := 0, mode := .edifact, plan := [(0, .edifact)], newMode := none, cw := [], list := [0] }
  have hstep0 : g0.step = .ok (some (g1, { «end» := false, unbeatable := false })) := by rfl
  have hstep1 : g1.step = .ok (some (g1, { «end» := true, unbeatable := false })) := by rfl
  have henc : encodeMode s = .ok { s with pos := 1, mode := .ascii, plan := [(0, .ascii)], cw := [4 * 65 % 256 ||| 31 / 16, 31 * 16 % 256 ||| 0] } := by
    rfl
  exact Within.not_of_ok henc (by decide)
    (h [65] [0] 0 0 1 g0 g1 g1 { «end» := true, unbeatable := false } s (by intro b hb; simp at hb; omega) rfl
      (Or.inl (Nat.le_refl _)) rfl ⟨g1, _, hstep0, rfl, rfl⟩ hstep1 rfl ⟨rfl, rfl, rfl, rfl, rfl, rfl, rfl⟩).2

theorem endSeg_edifact_exact (body : List Nat) (list : List Sym) (p w k : Nat) (g0 gk gE : GPlan) (r : StepResult) (s : St)
    (hpk : p + k = body.length) (h0 : g0.plan = newPlan .edifact (ctxAt body list p w))
    (hst : StepsTo k g0 gk) (hstep : gk.step = .ok (some (gE, r))) (hend : r.end = true)
    (henc : EncAt body list s p w .edifact [(0, .edifact)])
    (hexact : ∀ S, firstBigEnough list (w + ceil12 (gE.cost - g0.extra) / 12) = some S →
      dataCw S = w + ceil12 (gE.cost - g0.extra) / 12) :
    g0.extra ≤ gE.cost ∧
    ((∃ s', encodeMode s = .ok s' ∧ s'.input = body ∧ s'.list = list ∧ s'.pos ≤ body.length ∧ s'.newMode = none ∧
        (s'.hasMore = true → s'.mode = .ascii ∧ s'.plan = [(0, .ascii)]) ∧
        12 * (s'.cw.length + asciiSize s'.rest) ≤ 12 * w + ceil12 (gE.cost - g0.extra)) ∨
     (encodeMode s = .error .tooMuch ∧ firstBigEnough list (w + ceil12 (gE.cost - g0.extra) / 12) = none)) := by
  obtain ⟨hc, hr⟩ := endSeg_edifact_strong body list p w k g0 gk gE r s hpk h0 hst hstep hend henc
  refine ⟨hc, ?_⟩
  rcases hr with ⟨s', hs', a1, a2, a3, a4, a5, _, ⟨S, hS, hle⟩, _⟩ | hr
  · left
    refine ⟨s', hs', a1, a2, a3, a4, a5, ?_⟩
    have := hexact S hS
    have := ceil12_mod (gE.cost - g0.extra)
    omega
  · right; exact hr

end DM.Lemmas.CoupleEdi
