import DM.Lemmas.SpecAscii
import DM.Lemmas.SpecB256
/-
The invariant of the encoder's main loop against the reference decoder (`DM.Spec.Stream`), as the
frame into which the mode encoders are plugged: `SMI` / `SInv`, the interface `ModeStep`, the append rule
`SMI.append_lo` and its form for a mode entered by a latch (`smi_stretch`), and `ModeStep` for the ASCII encoder and
for the Base 256 encoder. The main loop and the whole run up to the padding follow in `SpecMainRun`.
-/
namespace DM.Lemmas.SpecMain
open DM.Model DM.Lemmas DM.Lemmas.AsciiRT DM.Lemmas.SpecStep DM.Lemmas.SpecAscii DM.Lemmas.SpecB256 DM.Lemmas.Complete
open DM.Lemmas.EncRT DM.Lemmas.C40Gen DM.Lemmas.B256Gen DM.Lemmas.PlanProv DM.Lemmas.MainRT DM.Spec.Stream

structure DAt (sD : St) (i : Nat) (out : List Nat) (tr : List Mode) (lat : List (Nat × Mode)) : Prop where
  i : sD.i = i
  out : sD.out = out.toArray
  trace : sD.trace = tr.toArray
  latches : sD.latches = lat.toArray
  ecis : sD.ecis = #[]
  padAt : sD.padAt = none

theorem dAt_init (i0 : Nat) : DAt ({ i := i0 } : St) i0 [] [] [] := ⟨rfl, rfl, rfl, rfl, rfl, rfl⟩

theorem toArray_replicate (n : Nat) (m : Mode) (tr : List Mode) :
    tr.toArray ++ Array.replicate n m = (tr ++ List.replicate n m).toArray := by
  apply Array.ext'; simp

theorem dAt_afterStretch {sD : St} {L : Nat} {out : List Nat} {tr : List Mode} {lat : List (Nat × Mode)}
    (hat : DAt sD L out tr lat) (n : Nat) (cst : CState) (chunk : List Nat) (m mA : Mode) :
    DAt (afterStretch sD n cst chunk m mA) (L + n) (out ++ chunk) (tr ++ List.replicate chunk.length m) (lat ++ [(L, m)]) := by
  refine ⟨by simp [afterStretch, hat.i], by simp [afterStretch, hat.out], ?_, by simp [afterStretch, hat.latches, hat.i],
    hat.ecis, hat.padAt⟩
  simp only [afterStretch, hat.trace]; exact toArray_replicate _ _ _

theorem dec_ascii (cw : Array Nat) (sD : St) {L : Nat} {out : List Nat} {tr : List Mode} {lat : List (Nat × Mode)}
    (X chunk : List Nat) (hat : DAt sD L out tr lat) (hm : sD.mode = .ascii) (ho : Occurs cw L X)
    (hseg : ∀ (cw : Array Nat) (s : St), s.mode = .ascii → Occurs cw s.i X →
      ∃ k, k ≤ X.length ∧ Steps cw k s (emit s X.length chunk .ascii)) :
    ∃ j sD', j ≤ 2 * X.length ∧ Steps cw j sD sD' ∧
      DAt sD' (L + X.length) (out ++ chunk) (tr ++ List.replicate chunk.length .ascii) lat ∧ sD'.mode = .ascii := by
  obtain ⟨k2, hk2, hs2⟩ := hseg cw sD hm (by rw [hat.i]; exact ho)
  refine ⟨k2, emit sD X.length chunk .ascii, by omega, hs2, ?_, by simpa using hm⟩
  refine ⟨by simp [hat.i], ?_, ?_, hat.latches, hat.ecis, hat.padAt⟩
  · simp [emit, hat.out]
  · simp only [emit, hat.trace]; exact toArray_replicate _ _ _

inductive Reach : Enc.St → Enc.St → Prop
  | done (s : Enc.St) : s.hasMore = false → Reach s s
  | step (s s' sE : Enc.St) : s.hasMore = true → Enc.encodeMode (latched s) = .ok s' → Reach s' sE → Reach s sE

/-- **The invariant of the main loop against the reference decoder.** `i0` is the position behind
the header codewords (where `decode` starts the run), `P` a property of the carrying modes met so
far. `room = none`: the ordinary situation — on *every* stream that begins with the codewords
written so far the reference decoder, started at `i0`, consumes exactly these codewords, is in
ASCII mode and has produced `body[0..s.pos)`. `room = some r`: the encoder has committed itself to
ASCII until the end and to a symbol with exactly `r` more data codewords than are written; the
decoder's behaviour is only claimed on streams of that size whose next codeword is not the
UNLATCH codeword 254 (the endings without UNLATCH of C40 / Text / X12 / EDIFACT, and the "to the
end of the symbol" form of Base 256, `r = 0`). `room = some 0` with no data left is the situation
"done": nothing is claimed about the encoder's mode then, and the decoder may end in any mode.
`lo` is a lower bound for the number of codewords that still follow, for decoders that look ahead
(EDIFACT reads its UNLATCH only if at least three codewords are left): the decoder's behaviour is
claimed on streams with at least `lo` more codewords, and `low` says that every way the main loop
can still take ends in a symbol with that many more data codewords. -/
structure SMI (P : Mode → Prop) (list : List Sym) (i0 : Nat) (pre body : List Nat) (s : Enc.St)
    (room : Option Nat) (lo : Nat) (tr : List Mode) (lat : List (Nat × Mode)) : Prop where
  inp : s.input = body
  lst : s.list = list
  le : s.pos ≤ body.length
  i0le : i0 ≤ s.cw.length
  pfx : s.cw.take i0 = pre
  hd : HeadOK (s.cw.drop i0)
  ctl : (room = some 0 ∧ s.hasMore = false) ∨ s.newMode = s.mode.latch
  more : s.newMode ≠ none → s.hasMore = true
  trlen : tr.length = s.pos
  trP : ∀ m ∈ tr, P m
  latP : ∀ l ∈ lat, P l.2 ∧ l.2 ≠ .ascii ∧ i0 ≤ l.1 ∧ l.1 < s.cw.length
  closing : ∀ r, room = some r → ((r = 0 ∧ s.hasMore = false) ∨ (s.mode = .ascii ∧ s.plan = [(0, .ascii)])) ∧
    ∃ S, firstBigEnough list (s.cw.length + Enc.asciiSize (body.drop s.pos)) = some S ∧ dataCw S = s.cw.length + r
  low : lo ≠ 0 → ∀ sE S, Reach s sE → firstBigEnough list sE.cw.length = some S → s.cw.length + lo ≤ dataCw S
  dec : ∀ cw : Array Nat, Occurs cw 0 s.cw → s.cw.length + lo ≤ cw.size →
    (∀ r, room = some r → cw.size = s.cw.length + r ∧ cw[s.cw.length]? ≠ some 254) →
    ∃ k sD, k ≤ 2 * (s.cw.length - i0) ∧ Steps cw k { i := i0 } sD ∧ DAt sD s.cw.length (body.take s.pos) tr lat ∧
      (sD.mode = .ascii ∨ (room = some 0 ∧ s.hasMore = false))

def SInv (P : Mode → Prop) (list : List Sym) (i0 : Nat) (pre body : List Nat) (s : Enc.St) : Prop :=
  ∃ room lo tr lat, SMI P list i0 pre body s room lo tr lat

/-- `Q` is any property of the control part (plan, mode, pending latch) of the encoder state that is `Closed`
(`PlanProv`), for side conditions on the plan; `q_encodeMode` keeps it along the loop. -/
def ModeStep (P : Mode → Prop) (Q : Key → Prop) (m : Enc.EMode) : Prop :=
  ∀ (list : List Sym) (i0 : Nat) (pre body : List Nat) (s s' : Enc.St), ByteList body → SInv P list i0 pre body s →
    Q (key s) → s.hasMore = true → s.mode = m → Enc.encodeMode (latched s) = .ok s' → SInv P list i0 pre body s'

theorem sInv_init (P : Mode → Prop) (list : List Sym) (pre body : List Nat) (plan : List (Nat × Enc.EMode)) :
    SInv P list pre.length pre body
      { input := body, pos := 0, mode := .ascii, plan := plan, newMode := none, cw := pre, list := list } := by
  refine ⟨none, 0, [], [], rfl, rfl, Nat.zero_le _, Nat.le_refl _, by simp, by intro c hc; simp at hc, Or.inr rfl,
    fun h => absurd rfl h, rfl, by simp, by simp, by simp, fun h => absurd rfl h, ?_⟩
  intro cw _ _ _
  exact ⟨0, _, Nat.zero_le _, Steps.refl cw _, by simpa using dAt_init pre.length, Or.inl rfl⟩

/-- The decoder's run is its run up to `s.cw.length`, where it stands in ASCII mode, followed by its run through `X`
(`hseg`). The control part `ctl`, `closing` and the new look-ahead bound `lo'` with its proof `low` are the mode's
business; `hroom` carries the size condition of a closing phase back over `X`. -/
theorem SMI.append_lo {P : Mode → Prop} {list : List Sym} {i0 : Nat} {pre body : List Nat} {s s' : Enc.St}
    {room : Option Nat} {lo : Nat} {tr : List Mode} {lat : List (Nat × Mode)}
    (mi : SMI P list i0 pre body s room lo tr lat) (hmore : s.hasMore = true) (he : Enc.encodeMode (latched s) = .ok s')
    (X chunk : List Nat) (m : Mode) (lat' : List (Nat × Mode)) (room' : Option Nat) (lo' : Nat) (hlo : lo ≤ X.length + lo')
    (hin : s'.input = body) (hli : s'.list = list) (hle : s'.pos ≤ body.length)
    (hcw : s'.cw = s.cw ++ X) (hX : HeadOK X) (hchunk : body.take s'.pos = body.take s.pos ++ chunk) (hP : P m)
    (hlat : ∀ l ∈ lat', P l.2 ∧ l.2 ≠ .ascii ∧ s.cw.length ≤ l.1 ∧ l.1 < s'.cw.length)
    (ctl : (room' = some 0 ∧ s'.hasMore = false) ∨ s'.newMode = s'.mode.latch)
    (closing : ∀ r, room' = some r → ((r = 0 ∧ s'.hasMore = false) ∨ (s'.mode = .ascii ∧ s'.plan = [(0, .ascii)])) ∧
      ∃ S, firstBigEnough list (s'.cw.length + Enc.asciiSize (body.drop s'.pos)) = some S ∧ dataCw S = s'.cw.length + r)
    (low : lo' ≠ 0 → ∀ sE S, Reach s' sE → firstBigEnough list sE.cw.length = some S → s'.cw.length + lo' ≤ dataCw S)
    (hroom : ∀ cw : Array Nat, Occurs cw s.cw.length X →
      (∀ r, room' = some r → cw.size = s'.cw.length + r ∧ cw[s'.cw.length]? ≠ some 254) →
      ∀ r, room = some r → cw.size = s.cw.length + r ∧ cw[s.cw.length]? ≠ some 254)
    (hseg : ∀ (cw : Array Nat) (sD : St), Occurs cw s.cw.length X → s'.cw.length + lo' ≤ cw.size →
      (∀ r, room' = some r → cw.size = s'.cw.length + r ∧ cw[s'.cw.length]? ≠ some 254) →
      DAt sD s.cw.length (body.take s.pos) tr lat → sD.mode = .ascii →
      ∃ j sD', j ≤ 2 * X.length ∧ Steps cw j sD sD' ∧
        DAt sD' (s.cw.length + X.length) (body.take s.pos ++ chunk) (tr ++ List.replicate chunk.length m) (lat ++ lat') ∧
        (sD'.mode = .ascii ∨ (room' = some 0 ∧ s'.hasMore = false))) :
    SMI P list i0 pre body s' room' lo' (tr ++ List.replicate chunk.length m) (lat ++ lat') := by
  have hlen : s'.cw.length = s.cw.length + X.length := by rw [hcw, List.length_append]
  have hpos : s'.pos = s.pos + chunk.length := by
    have := congrArg List.length hchunk
    rwa [List.length_append, List.length_take, List.length_take, Nat.min_eq_left hle, Nat.min_eq_left mi.le] at this
  have hi0 := mi.i0le
  refine ⟨hin, hli, hle, by omega,
    by rw [hcw, List.take_append_of_le_length mi.i0le]; exact mi.pfx,
    by rw [hcw, List.drop_append_of_le_length mi.i0le]; exact headOK_append mi.hd hX,
    ctl, encodeMode_more he, by rw [List.length_append, List.length_replicate, mi.trlen, hpos], ?_, ?_, closing, low, ?_⟩
  · intro m' hm
    rcases List.mem_append.mp hm with hm | hm
    · exact mi.trP m' hm
    · rw [(List.mem_replicate.mp hm).2]; exact hP
  · intro l hl
    rcases List.mem_append.mp hl with hl | hl
    · obtain ⟨a, a', b, c⟩ := mi.latP l hl
      exact ⟨a, a', b, by omega⟩
    · obtain ⟨a, a', b, c⟩ := hlat l hl
      exact ⟨a, a', by omega, c⟩
  · intro cw ho hsize hsz
    rw [hcw] at ho
    obtain ⟨k, sD, hk, hs, hat, hmD⟩ := mi.dec cw ho.left (by omega) (hroom cw (occurs_zero_right ho) hsz)
    have hmD' : sD.mode = .ascii := by
      rcases hmD with h | ⟨_, hf⟩
      · exact h
      · rw [hmore] at hf; cases hf
    obtain ⟨j, sD', hj, hs', hat', hm'⟩ := hseg cw sD (occurs_zero_right ho) hsize hsz hat hmD'
    rw [← hlen, ← hchunk] at hat'
    exact ⟨k + j, sD', by omega, hs.trans hs', hat', hm'⟩

theorem sInv_latched {P : Mode → Prop} {list : List Sym} {i0 : Nat} {pre body : List Nat} {s : Enc.St}
    (hinv : SInv P list i0 pre body s) (hmore : s.hasMore = true) {latch : Nat} (hl : s.mode.latch = some latch) :
    s.newMode = some latch ∧ ∃ lo tr lat, SMI P list i0 pre body s none lo tr lat := by
  obtain ⟨room, lo, tr, lat, mi⟩ := hinv
  have hnm : s.newMode = some latch := by
    rcases mi.ctl with ⟨_, hf⟩ | hc
    · rw [hmore] at hf; cases hf
    · rw [hc, hl]
  obtain rfl : room = none := by
    cases room with
    | none => rfl
    | some r =>
      rcases (mi.closing r rfl).1 with ⟨_, hf⟩ | ⟨hm, _⟩
      · rw [hmore] at hf; cases hf
      · rw [hm] at hl; cases hl
  exact ⟨hnm, lo, tr, lat, mi⟩

theorem SMI.low_step {P : Mode → Prop} {list : List Sym} {i0 : Nat} {pre body : List Nat} {s s' : Enc.St}
    {room : Option Nat} {lo : Nat} {tr : List Mode} {lat : List (Nat × Mode)} (mi : SMI P list i0 pre body s room lo tr lat)
    (hmore : s.hasMore = true) (h : Enc.encodeMode (latched s) = .ok s') (n : Nat) (hlen : s'.cw.length = s.cw.length + n)
    (hlo : lo - n ≠ 0) (sE : Enc.St) (S : Sym) (hr : Reach s' sE) (hS : firstBigEnough list sE.cw.length = some S) :
    s'.cw.length + (lo - n) ≤ dataCw S := by
  have := mi.low (by omega) sE S (Reach.step s s' sE hmore h hr) hS
  omega

theorem smi_stretch {P : Mode → Prop} {list : List Sym} {i0 : Nat} {pre body : List Nat} {s s' : Enc.St}
    {lo : Nat} {tr : List Mode} {lat : List (Nat × Mode)}
    (mi : SMI P list i0 pre body s none lo tr lat) (hmore : s.hasMore = true) (he : Enc.encodeMode (latched s) = .ok s')
    (c : Nat) (m : Mode) (hP : P m) (hm : m ≠ .ascii)
    (hc : c ≠ 232 ∧ c ≠ 236 ∧ c ≠ 237) (X chunk : List Nat) (hcw : s'.cw = s.cw ++ c :: X)
    (hchunk : body.take s'.pos = body.take s.pos ++ chunk) (hp : s'.pos ≤ body.length)
    (hin : s'.input = body) (hli : s'.list = list) (room' : Option Nat) (lo' : Nat) (hlo : lo ≤ 1 + X.length + lo')
    (ctl : (room' = some 0 ∧ s'.hasMore = false) ∨ s'.newMode = s'.mode.latch)
    (closing : ∀ r, room' = some r → ((r = 0 ∧ s'.hasMore = false) ∨ (s'.mode = .ascii ∧ s'.plan = [(0, .ascii)])) ∧
      ∃ S, firstBigEnough list (s'.cw.length + Enc.asciiSize (body.drop s'.pos)) = some S ∧ dataCw S = s'.cw.length + r)
    (low : lo' ≠ 0 → ∀ sE S, Reach s' sE → firstBigEnough list sE.cw.length = some S → s'.cw.length + lo' ≤ dataCw S)
    (seg : ∀ (cw : Array Nat) (sD : St), sD.mode = .ascii → sD.i = s.cw.length → Occurs cw sD.i (c :: X) →
      sD.i + (1 + X.length) + lo' ≤ cw.size →
      (∀ r, room' = some r → cw.size = sD.i + (1 + X.length) + r ∧ cw[sD.i + (1 + X.length)]? ≠ some 254) →
      ∃ j cst mA, j ≤ 2 * (1 + X.length) ∧ Steps cw j sD (afterStretch sD (1 + X.length) cst chunk m mA) ∧
        (mA = .ascii ∨ (room' = some 0 ∧ s'.hasMore = false))) :
    SMI P list i0 pre body s' room' lo' (tr ++ List.replicate chunk.length m) (lat ++ [(s.cw.length, m)]) := by
  have hlen : s'.cw.length = s.cw.length + (1 + X.length) := by rw [hcw]; simp; omega
  have hXl : (c :: X).length = 1 + X.length := by rw [List.length_cons]; omega
  refine mi.append_lo hmore he (c :: X) chunk m [(s.cw.length, m)] room' lo' (by omega) hin hli hp hcw (headOK_cons c _ hc)
    hchunk hP ?_ ctl closing low (fun _ _ _ r hr => nomatch hr) ?_
  · intro l hl
    rw [List.mem_singleton.mp hl]
    exact ⟨hP, hm, Nat.le_refl _, by omega⟩
  · intro cw sD ho hsize hsz hat hmD
    rw [hXl]
    obtain ⟨j, cst, mA, hj, hst, hmA⟩ := seg cw sD hmD hat.i (by rw [hat.i]; exact ho) (by rw [hat.i, ← hlen]; exact hsize)
      (fun r hr => by rw [hat.i, ← hlen]; exact hsz r hr)
    exact ⟨j, _, hj, hst, dAt_afterStretch hat _ _ _ _ _, hmA⟩

theorem ctl_of_exit (s s' : Enc.St) (hnm : s.newMode = none) (hm : s.mode = .ascii) (he : Exit s s') :
    s'.newMode = s'.mode.latch := by
  rcases he with ⟨a1, a2, a3⟩ | ⟨a1, a2, _, a4⟩
  · rw [a3, a2, hnm, hm]; rfl
  · rw [a4, hnm]
    cases s'.mode.latch <;> rfl

/-- The room shrinks by `X.length`. In the closing phase (`room = some r`) the plan is "ASCII until the end", so `X` is
`asciiEnc` of the whole rest and still fits (`hcl`). -/
theorem step_ascii (P : Mode → Prop) (Q : Key → Prop) (hP : P .ascii) : ModeStep P Q .ascii := by
  intro list i0 pre body s s' hb ⟨room, lo, tr, lat, mi⟩ _ hmore hmode h
  have h0 := h
  have hnm : s.newMode = none := by
    rcases mi.ctl with ⟨_, hf⟩ | hc
    · rw [hmore] at hf; cases hf
    · rw [hc, hmode]; rfl
  have hl : latched s = s := by simp [latched, hnm]
  rw [hl] at h
  simp only [Enc.encodeMode, hmode] at h
  obtain ⟨X, c1, c2, c3, c4, c5, c6⟩ := asciiLoop_specGen _ s s' h (by rw [mi.inp]; exact hb)
  have hle' : s'.pos ≤ body.length := by
    have := asciiLoop_pos_le _ s s' h (by rw [mi.inp]; exact mi.le)
    rw [mi.inp] at this
    exact this
  have hctl := ctl_of_exit s s' hnm hmode c6
  have hchunk : body.take s'.pos = body.take s.pos ++ (s.input.drop s.pos).take (s'.pos - s.pos) := by
    rw [mi.inp]
    have : s'.pos = s.pos + (s'.pos - s.pos) := by omega
    conv => lhs; rw [this, List.take_add]
  have hXhd : HeadOK X := by
    intro c hc
    have := c2.1 c (List.mem_of_mem_head? hc)
    exact ⟨this.2.2.1, this.2.2.2.1, this.2.2.2.2⟩
  have hcl : ∀ r, room = some r → s'.pos = body.length ∧ s'.mode = .ascii ∧ s'.plan = [(0, .ascii)] ∧
      X.length = Enc.asciiSize (body.drop s.pos) ∧ X.length ≤ r := by
    intro r hr
    obtain ⟨hc, S, hS, hcap⟩ := mi.closing r hr
    have hplan : s.plan = [(0, .ascii)] := by
      rcases hc with ⟨_, hf⟩ | ⟨_, hp⟩
      · rw [hmore] at hf; cases hf
      · exact hp
    rw [DM.Lemmas.AsciiRT.asciiLoop_until_end _ s hplan (by rw [mi.inp]; exact mi.le) (by omega)] at h
    simp only [Except.ok.injEq] at h
    subst h
    have hX : X = asciiEnc (body.drop s.pos) := by
      rw [← List.append_cancel_left c1, Enc.St.rest, mi.inp]
    have hlen := asciiEnc_size (body.drop s.pos)
    have hSle := DM.Lemmas.SymbolList.fbe_some_ge _ _ _ hS
    exact ⟨by simp [mi.inp], hmode, hplan, by rw [hX]; exact hlen, by rw [hX, hlen]; omega⟩
  refine ⟨room.map (· - X.length), lo - X.length, _, _, mi.append_lo hmore h0 X _ .ascii [] _ _ (by omega) (c4.1.trans mi.inp)
    (c4.2.trans mi.lst) hle' c1 hXhd hchunk hP (fun _ hl => nomatch hl) (Or.inr hctl) ?_
    (mi.low_step hmore h0 _ (by rw [c1, List.length_append])) ?_ ?_⟩
  · intro r' hr'
    cases room with
    | none => cases hr'
    | some r =>
      simp only [Option.map_some, Option.some.injEq] at hr'
      obtain ⟨hpos', hm', hpl', hXlen, hXr⟩ := hcl r rfl
      obtain ⟨_, S, hS, hcap⟩ := mi.closing r rfl
      refine ⟨Or.inr ⟨hm', hpl'⟩, S, ?_, by rw [c1, List.length_append]; omega⟩
      rw [hpos', List.drop_length, c1, List.length_append, hXlen]
      exact hS
  · intro cw ho hsz r hr
    obtain ⟨hsz1, hnext⟩ := hsz (r - X.length) (by rw [hr]; rfl)
    rw [c1, List.length_append] at hsz1 hnext
    have := (hcl r hr).2.2.2.2
    refine ⟨by omega, ?_⟩
    cases X with
    | nil => simpa using hnext
    | cons x t =>
      rw [ho.head]
      intro hx
      injection hx with hx
      exact (c2.1 x (List.mem_cons_self ..)).1 hx
  · intro cw sD ho _ _ hat hm
    rw [List.append_nil]
    obtain ⟨j, sD', hj, hs', hat', hm'⟩ := dec_ascii cw sD X _ hat hm ho c2.2
    exact ⟨j, sD', hj, hs', hat', Or.inl hm'⟩

theorem step_b256 (P : Mode → Prop) (Q : Key → Prop) (hP : P .base256) : ModeStep P Q .base256 := by
  intro list i0 pre body s s' hb hinv _ hmore hmode h
  obtain ⟨hnm, lo, tr, lat, mi⟩ := sInv_latched hinv hmore (latch := 231) (by rw [hmode]; rfl)
  obtain ⟨f, sB, _, inv0, hBmore, hloop⟩ := b256_call mi.inp mi.lst hmore hmode hnm h
  obtain ⟨⟨p, toEnd, hp0, hp, hcw, hpos, hin, hli, hte, htf, hctl⟩, hlatch⟩ :=
    b256Loop_specGen list body hb s.pos s.cw f sB s' inv0 (Or.inl hBmore) hloop
  have hseglen : (seg body s.pos p).length = p - s.pos := seg_length body s.pos p (by omega) hp
  obtain ⟨X, hX⟩ : ∃ X, X = randFrom (s.cw.length + 2) (b256Hdr (seg body s.pos p) toEnd ++ seg body s.pos p) := ⟨_, rfl⟩
  have hXl : 1 + X.length = 1 + (b256Hdr (seg body s.pos p) toEnd).length + (seg body s.pos p).length := by
    rw [hX, randFrom_length, List.length_append]; omega
  have hcw' : s'.cw = s.cw ++ 231 :: X := by rw [hcw, hX, List.append_assoc]; rfl
  have hlen : s'.cw.length = s.cw.length + (1 + X.length) := by rw [hcw', List.length_append, List.length_cons]; omega
  have hctl' : s'.newMode = s'.mode.latch := by
    rcases hctl with ⟨a1, _, a3, _⟩ | ⟨_, a2⟩
    · rw [a3, a1]; rfl
    · exact hlatch a2
  refine ⟨if toEnd then some 0 else none, lo - (1 + X.length), _, _,
    smi_stretch mi hmore h 231 .base256 hP (by simp) (by omega) X (seg body s.pos p) hcw'
      (by rw [hpos, take_seg body s.pos p (by omega)]) (by rw [hpos]; exact hp) hin hli _ _ (by omega) (Or.inr hctl')
      ?_ (mi.low_step hmore h _ hlen) ?_⟩
  · intro r hr
    cases toEnd with
    | false => simp at hr
    | true =>
      simp only [↓reduceIte, Option.some.injEq] at hr
      subst hr
      obtain ⟨hpl, S, hS, hcap⟩ := hte rfl
      rcases hctl with ⟨a1, a2, _, _⟩ | ⟨a1, _⟩
      · refine ⟨Or.inr ⟨a1, a2⟩, S, ?_, by simpa using hcap⟩
        rw [hpos, hpl, List.drop_length]
        simpa [Enc.asciiSize] using hS
      · cases a1
  · intro cw sD hmD hi ho _ hsz
    rw [hX, ← hi] at ho
    have h2 := steps_b256 cw sD (seg body s.pos p) toEnd hmD (seg_bytes body hb s.pos p) ho (by
      cases toEnd with
      | false => exact ⟨by rw [hseglen]; omega, htf rfl⟩
      | true =>
        have := (hsz 0 rfl).1
        rw [hXl] at this
        simpa [b256Hdr, Nat.add_assoc] using this)
    rw [hXl]
    exact ⟨2, _, _, by omega, h2, Or.inl rfl⟩

end DM.Lemmas.SpecMain
