import DM.Lemmas.SpecX12
import DM.Lemmas.X12Gen
/-
Continues `SpecX12` (same namespace). X12 under arbitrary plans, against the reference decoder: `SpecSegX12 X chunk` — wherever the latch
238, the codewords `X` and one of the three endings (`X12Tail`) stand in a stream and the reference decoder
arrives there in ASCII mode, it reads `X` as `chunk` and ends as the ending says. `x12Encode_specGen` is
`MainRT.x12Encode_genP` for it: the outcome of `x12::encode` from an arbitrary position of a mixed plan, in the shape of
`MainRT.TEnd` with the crate-decoder predicate `SegDec 238` replaced by `SpecSegX12` (`TEndQ`, declared in `X12Gen.lean`).
-/
namespace DM.Lemmas.SpecX12
open DM.Model DM.Model.Enc DM.Lemmas DM.Lemmas.AsciiRT DM.Lemmas.Complete
open DM.Lemmas.EncRT DM.Lemmas.X12RT DM.Lemmas.C40Gen DM.Lemmas.B256Gen DM.Lemmas.MainRT DM.Lemmas.SpecStep
open DM.Spec.Build

def SpecSegX12 (X chunk : List Nat) : Prop :=
  ∃ n, X.length = 2 * n ∧ chunk.length = 3 * n ∧ (∀ c ∈ X.head?, c ≠ 254) ∧
    ∀ (cw : Array Nat) (s : DM.Spec.Stream.St) (E : List Nat) (k : Nat) (m : DM.Spec.Stream.Mode), s.mode = .ascii →
      X12Tail cw (s.i + 1 + 2 * n) E k m → Occurs cw s.i (238 :: X ++ E) →
      ∃ j, j ≤ 1 + n + 1 ∧ Steps cw j s (x12Done s n chunk k m) ∧
        (m = .x12 → DM.Spec.Stream.step cw (x12Done s n chunk k m) = .ok none)

theorem specSegX12_pack (n : Nat) (b : List Nat) (hl : b.length = 3 * n) (hn : X12Native b) :
    SpecSegX12 (packTriples (b.filterMap x12Val)) b :=
  ⟨n, packTriples_length n _ (by rw [filterMap_native_length b hn, hl]), hl, packTriples_head _ (x12Vals_lt b),
    fun cw s E k m hm ht ho => steps_x12 cw n b hl hn s hm E k m ht ho⟩

theorem SpecSegX12.unlatch {X chunk : List Nat} (h : SpecSegX12 X chunk) (cw : Array Nat) (s : DM.Spec.Stream.St)
    (hm : s.mode = .ascii) (ho : Occurs cw s.i (238 :: X ++ [254])) :
    ∃ j, j ≤ X.length + 2 ∧ Steps cw j s (x12Done s (X.length / 2) chunk 1 .ascii) := by
  obtain ⟨n, h1, _, _, h4⟩ := h
  obtain ⟨j, hj, hst, _⟩ := h4 cw s [254] 1 .ascii hm .unlatch ho
  have : X.length / 2 = n := by omega
  exact ⟨j, by omega, by rw [this]; exact hst⟩

theorem SpecSegX12.single {X chunk : List Nat} (h : SpecSegX12 X chunk) (cw : Array Nat) (s : DM.Spec.Stream.St)
    (hm : s.mode = .ascii) (c : Nat) (hc : c ≠ 254) (hsz : cw.size = s.i + 1 + X.length + 1)
    (ho : Occurs cw s.i (238 :: X ++ [c])) :
    ∃ j, j ≤ X.length + 2 ∧ Steps cw j s (x12Done s (X.length / 2) chunk 0 .ascii) := by
  obtain ⟨n, h1, _, _, h4⟩ := h
  obtain ⟨j, hj, hst, _⟩ := h4 cw s [c] 0 .ascii hm (.single c hc (by omega)) ho
  have : X.length / 2 = n := by omega
  exact ⟨j, by omega, by rw [this]; exact hst⟩

theorem SpecSegX12.exact {X chunk : List Nat} (h : SpecSegX12 X chunk) (cw : Array Nat) (s : DM.Spec.Stream.St)
    (hm : s.mode = .ascii) (hsz : cw.size = s.i + 1 + X.length) (ho : Occurs cw s.i (238 :: X)) :
    ∃ j, j ≤ X.length + 2 ∧ Steps cw j s (x12Done s (X.length / 2) chunk 0 .x12) ∧
      DM.Spec.Stream.step cw (x12Done s (X.length / 2) chunk 0 .x12) = .ok none := by
  obtain ⟨n, h1, _, _, h4⟩ := h
  obtain ⟨j, hj, hst, hfin⟩ := h4 cw s [] 0 .x12 hm (.exact (by omega)) (by simpa using ho)
  have : X.length / 2 = n := by omega
  rw [this]
  exact ⟨j, by omega, hst, hfin rfl⟩

/-- in the form `SpecMainSeg.step_seg` and `SpecPure.spec_run_seg` ask for -/
theorem dec_x12 {X chunk : List Nat} (hseg : SpecSegX12 X chunk) (cw : Array Nat) (sD : DM.Spec.Stream.St) (E : List Nat) (kk : Nat)
    (m : DM.Spec.Stream.Mode) (hmD : sD.mode = .ascii) (ho : Occurs cw sD.i (238 :: X ++ E)) (ht : X12Tail cw (sD.i + 1 + X.length) E kk m) :
    ∃ j cst, j ≤ 2 * (1 + X.length) ∧ Steps cw j sD (afterStretch sD (1 + X.length + kk) cst chunk .x12 m) := by
  obtain ⟨n, hX, _, _, h4⟩ := hseg
  obtain ⟨j, hj, hst, _⟩ := h4 cw sD E kk m hmD (by rw [← hX]; exact ht) ho
  exact ⟨j, {}, by omega, by rw [hX, ← x12Done_eq]; exact hst⟩

theorem tEnd_iff (list : List Sym) (body : List Nat) (p0 : Nat) (c0 : List Nat) (latch : Nat) (s' : St) :
    TEnd list body p0 c0 latch s' ↔ TEndQ (SegDec latch) list body p0 c0 latch s' :=
  ⟨fun h => ⟨h.out⟩, fun h => ⟨h.out⟩⟩

theorem x12Encode_specGen (list : List Sym) (body : List Nat) (p0 : Nat) (c0 : List Nat) (sL s3 : St)
    (hin : sL.input = body) (hli : sL.list = list) (hpos : sL.pos = p0) (hle : p0 ≤ body.length)
    (hnm : sL.newMode = none) (hcw : sL.cw = c0 ++ [238]) (hpl : PlanOKE body sL.plan)
    (h : x12Encode sL = .ok s3) : TEndQ SpecSegX12 list body p0 c0 238 s3 :=
  x12Encode_genP SpecSegX12 specSegX12_pack list body p0 c0 sL s3 hin hli hpos hle hnm hcw hpl h

/-- a state on which `x12Encode_specGen` is tried out below: "1ABCDEFab", X12 entered behind the ASCII
codeword for "1" with the plan "ASCII for the last two characters" pending (the encoder writes two
triples and UNLATCH) -/
def exampleState : St :=
  { input := [49, 65, 66, 67, 68, 69, 70, 97, 98], pos := 1, mode := .x12, plan := [(2, .ascii), (0, .ascii)],
    newMode := none, cw := [50, 238], list := symbolList (List.range 30) }

example : (match x12Encode exampleState with
    | .ok s => s.cw == [50, 238, 89, 233, 109, 36, 254] && s.pos == 7 && s.plan == [(0, .ascii)]
    | .error _ => false) = true := by decide +kernel

example : ∃ s3, x12Encode exampleState = .ok s3 ∧
    TEndQ SpecSegX12 (symbolList (List.range 30)) [49, 65, 66, 67, 68, 69, 70, 97, 98] 1 [50] 238 s3 := by
  match h : x12Encode exampleState with
  | .ok s3 =>
    exact ⟨s3, rfl, x12Encode_specGen _ _ 1 [50] exampleState s3 rfl rfl rfl (by decide) rfl rfl
      (planOKE_of_planOK _ (by intro e he; simp [exampleState] at he; rcases he with rfl | rfl <;> simp)) h⟩
  | .error e =>
    have : (match x12Encode exampleState with | .ok _ => true | .error _ => false) = true := by decide +kernel
    rw [h] at this
    cases this

end DM.Lemmas.SpecX12
