import DM.Lemmas.RSClean
import DM.Lemmas.RSBlockwise
/-
A word all of whose interleaved blocks are codewords passes the Reed–Solomon decoder unchanged
(`clean_word_unchanged`): every block is clean (`decodeBlock_clean`), and `decode` decodes the blocks
independently (`decode_of_blocks`).
Namespace: `Props.C01`.
-/
namespace DM.Props.C01
open DM.Gen DM.Model DM.Model.RS DM.Lemmas DM.Spec

theorem clean_word_unchanged (s : Sym) (hs : s < numSizes) (data ecc : List Nat)
    (hd : Bytes data) (hl : data.length = dataCw s) (he : Bytes ecc)
    (hel : ecc.length = (row s).blocks * (row s).eccPer)
    (hcw : ∀ b, b < (row s).blocks →
      isCodeword (strided data b (row s).blocks ++ strided ecc b (row s).blocks) (row s).eccPer = true) :
    RS.decode s (data ++ ecc) = .ok (data ++ ecc) := by
  have R := rowShape s hs
  refine decode_of_blocks s hs data ecc _ hl hel (by rw [List.length_append, hl, hel]; rfl) fun b hb => ?_
  rw [List.take_left' hl, List.drop_left' hl]
  obtain ⟨h1, h2, _⟩ := block_shape R hl hel hb
  exact decodeBlock_clean _ _ _ ((strided_bytes hd b _).append (strided_bytes he b _)) R.k_pos R.k_lt
    (by omega) (hcw b hb)

end DM.Props.C01
