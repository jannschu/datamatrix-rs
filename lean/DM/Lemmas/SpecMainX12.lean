import DM.Lemmas.SpecMainSeg
import DM.Lemmas.SpecX12Gen
import DM.Lemmas.ModeCall
/-
The X12 encoder preserves the main-loop invariant against the reference decoder
(`SpecMain.ModeStep … .x12`), under the plans that plan no latch to a non-ASCII mode for the last
four characters (`C40Gen.PlanOKE`, the side condition `MainRT.step_MI` has).
-/
namespace DM.Lemmas.SpecMainX12
open DM.Model DM.Lemmas DM.Lemmas.AsciiRT DM.Lemmas.SpecStep DM.Lemmas.SpecAscii DM.Lemmas.Complete
open DM.Lemmas.EncRT DM.Lemmas.C40Gen DM.Lemmas.B256Gen DM.Lemmas.PlanProv DM.Lemmas.MainRT DM.Spec.Stream
open DM.Lemmas.SpecMain DM.Lemmas.SpecMainSeg DM.Lemmas.SpecX12

theorem step_x12_local (P : Mode → Prop) (hP : P .x12) (list : List Sym) (i0 : Nat) (pre body : List Nat) (s s' : Enc.St)
    (hinv : SInv P list i0 pre body s) (hpl : PlanOKE body s.plan) (hmore : s.hasMore = true)
    (hmode : s.mode = .x12) (h : Enc.encodeMode (latched s) = .ok s') : SInv P list i0 pre body s' := by
  obtain ⟨hnm, lo, tr, lat, mi⟩ := sInv_latched hinv hmore (latch := 238) (by rw [hmode]; rfl)
  exact step_seg mi .x12 (by simp) hP 238 (by omega) SpecSegX12 X12Tail (fun _ _ => .unlatch)
    (fun _ _ c hc hsz => .single c hc hsz) (fun _ _ hsz => .exact hsz) (fun hseg => dec_x12 hseg) hmore h
    (ModeCall.x12_callP SpecSegX12 specSegX12_pack mi.inp mi.lst mi.le hmode hnm hpl h)

/-- `ModeStep` for X12 under any side condition that makes the plan `PlanOKE` for every message, which
in effect means `PlanOK` (see `QXE`). The side condition `Q` of `ModeStep` is fixed before the message, so
`fun k => PlanOKE body k.1` for one `body` is not of this form; for plans that use EDIFACT
`step_x12_local` is the statement, for the message at hand. -/
theorem step_x12_of (P : Mode → Prop) (Q : Key → Prop) (hQ : ∀ k, Q k → ∀ body, PlanOKE body k.1) (hP : P .x12) :
    ModeStep P Q .x12 :=
  fun list i0 pre body s s' _ hinv hq hmore hmode h =>
    step_x12_local P hP list i0 pre body s s' hinv (hQ _ hq body) hmore hmode h

def QX : Key → Prop := fun k => PlanOK k.1

/-- the side condition `step_x12_of` asks for, as a predicate of the plan alone: `PlanOKE` whatever the
message. An EDIFACT entry that covers characters never satisfies it (some message has a non-EDIFACT
character there), so beyond `PlanOK` it admits only trailing entries `(0, .edifact)`, which never fire. -/
def QXE : Key → Prop := fun k => ∀ body, PlanOKE body k.1

theorem qxe_closed : Closed QXE :=
  ⟨fun _ _ body => planOKE_ascii body, fun s s1 b h hk body => planOKE_maybeSwitch s s1 b h (hk body), fun _ hk => hk⟩

theorem step_x12 (P : Mode → Prop) (hP : P .x12) : ModeStep P QX .x12 :=
  step_x12_of P QX (fun _ hk body => planOKE_of_planOK body hk) hP

theorem step_x12_E (P : Mode → Prop) (hP : P .x12) : ModeStep P QXE .x12 :=
  step_x12_of P QXE (fun _ hk body => hk body) hP

end DM.Lemmas.SpecMainX12
