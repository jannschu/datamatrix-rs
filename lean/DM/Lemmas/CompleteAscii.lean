import DM.Lemmas.DecSeg
import DM.Lemmas.AsciiRT
import DM.Spec.Build
/-
Decoder completeness, ASCII runs (digit pairs packed or not, upper shift). An ASCII item is a concatenation of units
(`asciiCw_rec`): the decoder model here and the reference decoder (`SpecAscii.specSeg_asciiEnc`) read it unit by unit.
Namespace: `Complete`.
-/
namespace DM.Lemmas.Complete
open DM.Model.Dec DM.Gen DM.Lemmas DM.Lemmas.DecRun DM.Spec.Build DM.Lemmas.AsciiRT

theorem one_eq_enc1 (a : Nat) : (if a < 128 then [a + 1] else [235, a - 127]) = enc1 a := by
  unfold enc1
  by_cases h : a < 128
  · rw [if_pos h, if_pos (by omega)]
  · rw [if_neg h, if_neg (by omega)]
    have : a - 127 = a - 128 + 1 := by omega
    rw [this]

theorem asciiCw_rec {P : List Nat → List Nat → Prop} (nil : P [] [])
    (app : ∀ {X Y c d}, P X c → P Y d → P (X ++ Y) (c ++ d)) (one : ∀ a, a < 256 → P (enc1 a) [a])
    (two : ∀ a b, DM.Model.Enc.isDigit a = true → DM.Model.Enc.isDigit b = true → P [(a - 48) * 10 + (b - 48) + 130] [a, b])
    (pair : Bool) : ∀ l : List Nat, ByteList l → P (asciiCw pair l) l
  | [], _ => nil
  | [a], hb => by rw [asciiCw, one_eq_enc1]; exact one a hb.head
  | a :: b :: t, hb => by
    rw [asciiCw]
    split
    · rw [show 130 + (a - 48) * 10 + (b - 48) = (a - 48) * 10 + (b - 48) + 130 by omega]
      exact app (X := [_]) (c := [a, b]) (two a b (by simp [DM.Model.Enc.isDigit]; omega) (by simp [DM.Model.Enc.isDigit]; omega))
        (asciiCw_rec nil app one two pair t hb.tail.tail)
    · rw [one_eq_enc1]
      exact app (c := [a]) (one a hb.head) (asciiCw_rec nil app one two pair (b :: t) hb.tail)

theorem dec_asciiCw (pair : Bool) (l : List Nat) (hb : ByteList l) : ∀ (tail : List Nat) (e : Nat)
    (out : List Nat) (ecis : List (Nat × Nat)),
    decodeAscii (asciiCw pair l ++ tail) e out ecis false 0 =
      decodeAscii tail (e + (asciiCw pair l).length) (out ++ l) ecis false 0 :=
  asciiCw_rec (P := fun X c => ∀ tail e out ecis,
      decodeAscii (X ++ tail) e out ecis false 0 = decodeAscii tail (e + X.length) (out ++ c) ecis false 0)
    (fun _ _ _ _ => by simp)
    (fun hX hY tail e out ecis => by
      rw [List.append_assoc, hX, hY, List.length_append, Nat.add_assoc, List.append_assoc])
    dec_enc1 dec_pair pair l hb

theorem asciiEnc_eq_asciiCw : ∀ l : List Nat, asciiEnc l = asciiCw true l
  | [] => rfl
  | [a] => (one_eq_enc1 a).symm
  | a :: b :: t => by
    rw [asciiEnc, asciiCw, one_eq_enc1, asciiEnc_eq_asciiCw t, asciiEnc_eq_asciiCw (b :: t)]
    simp only [DM.Model.Enc.isDigit, Bool.and_eq_true, decide_eq_true_eq, true_and, and_assoc,
      Nat.add_comm _ 130, Nat.add_assoc]

theorem ascii_Seg (pair : Bool) (l : List Nat) (e : Nat) : Seg e (asciiCw pair l) l fun _ => ByteList l :=
  fun tail hb out => by
    rw [decRun_ascii_eq, decRun_ascii_eq]
    simp only [dec_asciiCw pair l hb]

theorem seg_ascii (pair : Bool) (l tail : List Nat) (hb : ByteList l) (e : Nat) (out : List Nat) (ecis : List (Nat × Nat)) :
    decRun .ascii { rest := asciiCw pair l ++ tail, eaten := e, out := out, ecis := ecis } =
    decRun .ascii { rest := tail, eaten := e + (asciiCw pair l).length, out := out ++ l, ecis := ecis } :=
  (ascii_Seg pair l e).frame (tail := tail) hb out ecis

end DM.Lemmas.Complete
