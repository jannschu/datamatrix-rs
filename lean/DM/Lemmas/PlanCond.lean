import DM.Model.Encode
import DM.Lemmas.Bytes
/-!
The side conditions on a plan under which the encoder's output decodes to the message: `PlanOK` (no latch to a
non-ASCII mode planned for the last four characters, no EDIFACT), `PlanOKE` (EDIFACT allowed as the final stretch),
its executable form `planOKEb`, and `Pending`, what they say about a latch the main loop has not yet written.
(`PlanLoop.PlanOK`, the shape of the planner's switch list, and `Model/PlanSide.planOK`, the late digits, are
different predicates.) The declarations are in the namespace `DM.Lemmas.C40Gen`.
-/
namespace DM.Lemmas.C40Gen
open DM.Model DM.Model.Enc DM.Lemmas.Complete

def PlanOK (plan : List (Nat × EMode)) : Prop := ∀ e ∈ plan, (e.2 ≠ .ascii → e.1 = 0 ∨ e.1 > 4) ∧ e.2 ≠ .edifact

/-- like `PlanOK`, but EDIFACT may be used for the final stretch of the message: the plan is a front
part without EDIFACT followed by EDIFACT entries only, and the characters an EDIFACT entry covers
(the last `e.1` characters of the message) are EDIFACT characters -/
def PlanOKE (body : List Nat) (plan : List (Nat × EMode)) : Prop :=
  ∃ front edis, plan = front ++ edis ∧
    (∀ e ∈ front, (e.2 ≠ .ascii → e.1 = 0 ∨ e.1 > 4) ∧ e.2 ≠ .edifact) ∧
    (∀ e ∈ edis, e.2 = .edifact ∧ (e.1 = 0 ∨ e.1 > 4) ∧ EdiChars (body.drop (body.length - e.1)))

theorem planOKE_of_planOK (body : List Nat) {plan : List (Nat × EMode)} (h : PlanOK plan) : PlanOKE body plan :=
  ⟨plan, [], by simp, h, by intro e he; simp at he⟩

/-- entries at 0 never fire: such a plan is admissible whatever mode it names -/
theorem planOKE_zero (body : List Nat) (m : EMode) (plan : List (Nat × EMode)) (h : ∀ e ∈ plan, e = (0, m)) :
    PlanOKE body plan := by
  by_cases hm : m = .edifact
  · exact ⟨[], plan, rfl, by simp, fun e he => by rw [h e he, hm]; simp [EdiChars]⟩
  · exact ⟨plan, [], by simp, fun e he => by rw [h e he]; simp [hm], by simp⟩

theorem planOKE_ascii (body : List Nat) : PlanOKE body [(0, .ascii)] :=
  planOKE_zero body .ascii _ (by simp)

theorem planOKE_tail {body : List Nat} {a : Nat × EMode} {t : List (Nat × EMode)} (h : PlanOKE body (a :: t)) :
    PlanOKE body t := by
  obtain ⟨front, edis, h1, h2, h3⟩ := h
  cases front with
  | nil =>
    cases edis with
    | nil => simp at h1
    | cons x xs =>
      simp only [List.nil_append, List.cons.injEq] at h1
      exact ⟨[], xs, by simp [h1.2], by intro e he; simp at he, fun e he => h3 e (by simp [he])⟩
  | cons x xs =>
    simp only [List.cons_append, List.cons.injEq] at h1
    exact ⟨xs, edis, h1.2, fun e he => h2 e (by simp [he]), h3⟩

theorem planOKE_mem {body : List Nat} {plan : List (Nat × EMode)} (h : PlanOKE body plan) (e : Nat × EMode) (he : e ∈ plan) :
    (e.2 ≠ .ascii → e.1 = 0 ∨ e.1 > 4) ∧ (e.2 = .edifact → EdiChars (body.drop (body.length - e.1))) := by
  obtain ⟨front, edis, h1, h2, h3⟩ := h
  rw [h1] at he
  rcases List.mem_append.mp he with he | he
  · exact ⟨(h2 e he).1, fun hm => absurd hm (h2 e he).2⟩
  · exact ⟨fun _ => (h3 e he).2.1, fun _ => (h3 e he).2.2⟩

theorem planOKE_head_edi {body : List Nat} {a : Nat × EMode} {t : List (Nat × EMode)} (h : PlanOKE body (a :: t))
    (ha : a.2 = .edifact) : ∀ e ∈ t, e.2 = .edifact := by
  obtain ⟨front, edis, h1, h2, h3⟩ := h
  cases front with
  | nil =>
    simp only [List.nil_append] at h1
    intro e he
    exact (h3 e (by rw [← h1]; simp [he])).1
  | cons x xs =>
    simp only [List.cons_append, List.cons.injEq] at h1
    exact absurd ha (by rw [h1.1]; exact (h2 x (by simp)).2)

def planOKEb (body : List Nat) (plan : List (Nat × EMode)) : Bool :=
  (plan.takeWhile (fun e => e.2 != .edifact)).all (fun e => e.2 == .ascii || e.1 == 0 || decide (e.1 > 4)) &&
  (plan.dropWhile (fun e => e.2 != .edifact)).all (fun e => e.2 == .edifact && (e.1 == 0 || decide (e.1 > 4)) &&
    (body.drop (body.length - e.1)).all (fun x => decide (32 ≤ x) && decide (x ≤ 94)))

theorem mem_takeWhile_true {α : Type} (p : α → Bool) : ∀ (l : List α) (x : α), x ∈ l.takeWhile p → p x = true := by
  intro l
  induction l with
  | nil => intro x hx; simp at hx
  | cons a t ih =>
    intro x hx
    rw [List.takeWhile_cons] at hx
    split at hx
    · rcases List.mem_cons.mp hx with rfl | hx
      · assumption
      · exact ih x hx
    · simp at hx

theorem planOKE_of_check (body : List Nat) (plan : List (Nat × EMode)) (h : planOKEb body plan = true) : PlanOKE body plan := by
  unfold planOKEb at h
  rw [Bool.and_eq_true, List.all_eq_true, List.all_eq_true] at h
  obtain ⟨h1, h2⟩ := h
  refine ⟨plan.takeWhile (fun e => e.2 != .edifact), plan.dropWhile (fun e => e.2 != .edifact),
    (List.takeWhile_append_dropWhile).symm, ?_, ?_⟩
  · intro e he
    have hp := mem_takeWhile_true _ _ e he
    have h1e := h1 e he
    simp only [Bool.or_eq_true, beq_iff_eq, decide_eq_true_eq] at h1e
    simp only [bne_iff_ne, ne_eq] at hp
    refine ⟨fun hne => ?_, hp⟩
    rcases h1e with (h0 | h0) | h0
    · exact absurd h0 hne
    · exact Or.inl h0
    · exact Or.inr h0
  · intro e he
    have h2e := h2 e he
    simp only [Bool.and_eq_true, Bool.or_eq_true, beq_iff_eq, decide_eq_true_eq, List.all_eq_true] at h2e
    obtain ⟨⟨a, b⟩, c⟩ := h2e
    exact ⟨a, b, fun x hx => c x hx⟩

/-- a pending latch is consistent with the mode; a pending EDIFACT latch means EDIFACT until the end:
the remaining plan names EDIFACT only and the remaining characters are EDIFACT characters -/
def Pending (s : St) : Prop :=
  (s.mode = .ascii ∧ s.newMode = none) ∨
  (∃ l, s.mode.latch = some l ∧ s.newMode = some l ∧
    (s.mode = .edifact → (∀ e ∈ s.plan, e.2 = .edifact) ∧ EdiChars (s.input.drop (s.input.length - s.charsLeft))))

theorem Pending.congr {s t : St} (h : Pending s) (h1 : t.mode = s.mode) (h2 : t.newMode = s.newMode) (h3 : t.plan = s.plan)
    (h4 : t.input = s.input) (h5 : t.pos = s.pos) : Pending t := by
  unfold Pending St.charsLeft at *
  rw [h1, h2, h3, h4, h5]
  exact h

theorem Pending.edi {s : St} {body : List Nat} (h : Pending s) (hm : s.mode = .edifact) (hin : s.input = body)
    (hle : s.pos ≤ body.length) : (∀ e ∈ s.plan, e.2 = .edifact) ∧ EdiChars (body.drop s.pos) := by
  rcases h with ⟨a, _⟩ | ⟨l, _, _, c⟩
  · rw [hm] at a; cases a
  · have hpos : s.input.length - s.charsLeft = s.pos := by simp only [St.charsLeft, hin]; omega
    rw [← hpos, ← hin]
    exact c hm

theorem Pending.latch {s : St} (h : Pending s) : s.newMode = s.mode.latch := by
  rcases h with ⟨a, b⟩ | ⟨l, a, b, _⟩
  · rw [b, a]; rfl
  · rw [a, b]

theorem ascii_at_end {s : St} (hc : s.newMode = s.mode.latch) (more : s.newMode ≠ none → s.hasMore = true)
    (hmf : s.hasMore = false) : s.mode = .ascii := by
  have hnm : s.newMode = none := by
    cases hn : s.newMode with
    | none => rfl
    | some l => exact absurd (hmf.symm.trans (more (by rw [hn]; nofun))) Bool.false_ne_true
  rw [hnm] at hc
  cases hm : s.mode <;> rw [hm] at hc <;> first | rfl | cases hc

end DM.Lemmas.C40Gen
