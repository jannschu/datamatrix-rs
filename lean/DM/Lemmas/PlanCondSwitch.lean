import DM.Lemmas.PlanCond
import DM.Lemmas.EncRT
import DM.Lemmas.PlanProv
/-!
The side conditions of `PlanCond` along the encoder's control flow: `PlanOKE` survives `maybe_switch_mode` and the latch
it leaves pending is consistent (`switched_ok`); what every mode encoder therefore hands back to the main loop (`Handed`,
by the instance `pend_pass` of the walk `EncStep.Pass`); under any plan a latch is pending only if characters are left
(`more_pass`); and `NE`, "no EDIFACT anywhere in the control part", which `PlanOK` gives.
The declarations are in the namespaces `DM.Lemmas.C40Gen` and `DM.Lemmas.MainRT`.
-/
namespace DM.Lemmas.C40Gen
open DM.Model DM.Model.Enc DM.Lemmas DM.Lemmas.Complete DM.Lemmas.EncRT

/-- `maybe_switch_mode` keeps the plan or drops its head -/
theorem planOKE_stay {body : List Nat} {pl pl' : List (Nat × EMode)} {a : Nat × EMode}
    (h : pl' = pl ∨ pl = a :: pl') (hok : PlanOKE body pl) : PlanOKE body pl' := by
  rcases h with rfl | rfl
  · exact hok
  · exact planOKE_tail hok

theorem planOKE_maybeSwitch {body : List Nat} (s s1 : St) (b : Bool) (h : s.maybeSwitch = .ok (b, s1))
    (hok : PlanOKE body s.plan) : PlanOKE body s1.plan := by
  cases b with
  | false => obtain ⟨pl, rfl, hpl⟩ := EncStep.maybeSwitch_false h; exact planOKE_stay hpl hok
  | true => obtain ⟨m, pl, hpl, _, _, rfl⟩ := EncStep.maybeSwitch_true h; rw [hpl] at hok; exact planOKE_tail hok

theorem switched_ok (s s3 : St) (hnm : s.newMode = none) (hok : PlanOKE s.input s.plan) (h : s.maybeSwitch = .ok (true, s3)) :
    Pending s3 ∧ (s3.charsLeft ≤ 4 → s3.newMode = none) ∧ PlanOKE s.input s3.plan := by
  obtain ⟨m, pl, hpl, hpos, hne, rfl⟩ := EncStep.maybeSwitch_true h
  rw [hpl] at hok
  obtain ⟨hlate, hedi⟩ := planOKE_mem hok _ (List.mem_cons_self ..)
  refine ⟨?_, ?_, planOKE_tail hok⟩
  · cases hl : m.latch with
    | none => exact .inl ⟨by cases m <;> first | rfl | (cases hl), hnm⟩
    | some l => exact .inr ⟨l, hl, rfl, fun hm => ⟨planOKE_head_edi hok hm, hedi hm⟩⟩
  · intro h4
    cases hl : m.latch with
    | none => exact hnm
    | some l =>
      -- a latch to a non-ASCII mode is not planned for the last four characters
      have : m ≠ .ascii := by rintro rfl; cases hl
      have h4' : s.charsLeft ≤ 4 := h4
      rcases hlate this with h0 | h0 <;> simp only [] at h0 <;> omega

def NoLate (s : St) : Prop := s.charsLeft ≤ 4 → s.newMode = none

def Inside (body : List Nat) (md : EMode) (_ : Nat) (s : St) : Prop :=
  s.input = body ∧ PlanOKE body s.plan ∧ s.newMode = none ∧ s.mode = md

/-- the encoder of mode `md` has decided to stop: at a planned switch (characters are left) or at the end of the data -/
def Stopping (body : List Nat) (md : EMode) (_ : Nat) (s : St) : Prop := s.input = body ∧ PlanOKE body s.plan ∧
  (s.hasMore = true → Pending s ∧ NoLate s) ∧ (s.hasMore = false → s.newMode = none ∧ s.mode = md)

structure Handed (body : List Nat) (md : EMode) (s : St) : Prop where
  input : s.input = body
  plan : PlanOKE body s.plan
  noLate : NoLate s
  pend : Pending s ∨ (s.hasMore = false ∧ s.newMode = none ∧ s.mode = md)

theorem Handed.pending {body : List Nat} {md : EMode} {s : St} (h : Handed body md s) (hm : s.hasMore = true) : Pending s :=
  h.pend.resolve_right fun hn => absurd (hn.1.symm.trans hm) Bool.false_ne_true

theorem Handed.pending_ascii {body : List Nat} {s : St} (h : Handed body .ascii s) : Pending s :=
  h.pend.elim id fun hn => .inl ⟨hn.2.2, hn.2.1⟩

/-- how a C40 / Text / X12 run hands control back (`set_ascii_until_end` with at most two characters left; a planned
switch; the end of data and symbol), with what `Handed` adds: nothing pending, or the planned latch pending -/
theorem Handed.ctl {body : List Nat} {md : EMode} {s : St} {p : Nat} {un : Bool} (h : Handed body md s) (hpos : s.pos = p)
    (hc : (s.mode = .ascii ∧ s.plan = [(0, .ascii)] ∧ body.length ≤ p + 2) ∨ (un = true ∧ s.hasMore = true) ∨
      (p = body.length ∧ un = false)) :
    (s.mode = .ascii ∧ s.plan = [(0, .ascii)] ∧ s.newMode = none) ∨
    (un = true ∧ s.hasMore = true ∧ Pending s ∧ PlanOKE body s.plan) ∨ (p = body.length ∧ un = false) := by
  rcases hc with ⟨a1, a2, a3⟩ | ⟨a1, a2⟩ | a
  · exact .inl ⟨a1, a2, h.noLate (by simp only [St.charsLeft, h.input, hpos]; omega)⟩
  · exact .inr (.inl ⟨a1, a2, h.pending a2, h.plan⟩)
  · exact .inr (.inr a)

theorem pend_pass (body : List Nat) (md : EMode) :
    EncStep.Pass 4 (Inside body md) (Inside body md) (Stopping body md) (Handed body md) where
  eat _ _ _ h := h
  wrote _ _ _ _ h _ := h
  stay _ s s1 hm h := by
    obtain ⟨pl, rfl, hpl⟩ := EncStep.maybeSwitch_false hm
    exact ⟨h.1, planOKE_stay hpl h.2.1, h.2.2⟩
  leave _ s s1 hm h := by
    obtain ⟨hP, hL, hPl⟩ := switched_ok s s1 h.2.2.1 (by rw [h.1]; exact h.2.1) hm
    obtain ⟨m, pl, _, hcl, _, rfl⟩ := EncStep.maybeSwitch_true hm
    have hmore : s.hasMore = true := (EncStep.hasMore_charsLeft s).mpr hcl
    exact ⟨h.1, by rw [← h.1]; exact hPl, fun _ => ⟨hP, hL⟩, fun hmf => absurd (hmf.symm.trans hmore) Bool.false_ne_true⟩
  fin _ s h hmf := ⟨h.1, h.2.1, fun hm => absurd (hmf.symm.trans hm) Bool.false_ne_true, fun _ => h.2.2⟩
  tail _ s cw p' h _ _ _ := ⟨h.1, planOKE_ascii body, fun _ => h.2.2.1, .inl (.inl ⟨rfl, h.2.2.1⟩)⟩
  handler k s s' h he := by
    obtain ⟨hin, hpl, hm, hmf⟩ := h
    cases he with
    | wrote cw =>
      cases hmore : s.hasMore with
      | true => exact ⟨hin, hpl, (hm hmore).2, .inl ((hm hmore).1.congr rfl rfl rfl rfl rfl)⟩
      | false => exact ⟨hin, hpl, fun _ => (hmf hmore).1, .inr ⟨hmore, hmf hmore⟩⟩
    | ascii cw back hk hp hb =>
      -- `set_ascii_until_end` keeps `new_mode`: with at most four characters left none is pending
      have hn : s.newMode = none := by
        cases hmore : s.hasMore with
        | true => exact (hm hmore).2 (by omega)
        | false => exact (hmf hmore).1
      exact ⟨hin, planOKE_ascii body, fun _ => hn, .inl (.inl ⟨rfl, hn⟩)⟩

theorem encodeMode_pend {body : List Nat} {s s' : St} (hin : s.input = body) (hpl : PlanOKE body s.plan)
    (h : encodeMode (latched s) = .ok s') : Handed body s.mode s' := by
  refine (EncStep.encodeMode_res (pend_pass body s.mode) _ (fun _ => by decide) (fun _ => Nat.le_refl _) fun cw => ?_).ok h
  unfold latched
  cases hnm : s.newMode with
  | none => exact ⟨hin, hpl, hnm, rfl⟩
  | some l => exact ⟨hin, hpl, rfl, rfl⟩

theorem more_pass (n : Nat) :
    EncStep.Pass n (fun _ s => s.newMode = none) (fun _ s => s.newMode = none)
      (fun _ s => s.newMode = none ∨ s.hasMore = true) (fun s => s.newMode = none ∨ s.hasMore = true) where
  eat _ _ _ h := h
  wrote _ _ _ _ h _ := h
  stay _ s s1 hm h := by obtain ⟨pl, rfl, _⟩ := EncStep.maybeSwitch_false hm; exact h
  leave _ s s1 hm _ := by
    obtain ⟨m, pl, _, hcl, _, rfl⟩ := EncStep.maybeSwitch_true hm
    exact Or.inr ((EncStep.hasMore_charsLeft s).mpr hcl)
  fin _ _ h _ := Or.inl h
  tail _ _ _ _ h _ _ _ := Or.inl h
  handler _ s s' h he := by
    refine h.imp (fun h => he.newMode.trans h) fun h => ?_
    have h1 := he.input
    have h2 := he.pos_le
    simp only [St.hasMore, decide_eq_true_eq] at h ⊢
    rw [h1]; omega

theorem encodeMode_more {s s' : St} (h : encodeMode (latched s) = .ok s') (hne : s'.newMode ≠ none) :
    s'.hasMore = true := by
  have hnm : (latched s).newMode = none := by
    unfold latched
    split
    · rfl
    · assumption
  exact ((EncStep.encodeMode_res (more_pass 4) _ (fun _ => by decide) (fun _ => Nat.le_refl _) fun _ => hnm).ok h).resolve_left hne

end DM.Lemmas.C40Gen

namespace DM.Lemmas.MainRT
open DM.Model DM.Model.Enc DM.Lemmas DM.Lemmas.Complete DM.Lemmas.AsciiRT DM.Lemmas.EncRT DM.Lemmas.C40Gen DM.Lemmas.PlanProv

def NE : Key → Prop := fun k => (∀ x ∈ k.1, x.2 ≠ .edifact) ∧ k.2.1 ≠ .edifact ∧ k.2.2 ≠ some 240

theorem ne_closed : Closed NE :=
  entries_closed (fun x => x.2 ≠ .edifact) (· ≠ .edifact) (· ≠ some 240) (by decide) (fun _ h => h)
    (fun x o hx ho => by
      cases hm : x.2 with
      | edifact => exact absurd hm hx
      | ascii => exact ho
      | _ => simp [EMode.latch])
    (fun _ _ => nofun)

theorem ne_of_planOK {plan : List (Nat × EMode)} (h : PlanOK plan) : NE (plan, .ascii, none) :=
  ⟨fun x hx => (h x hx).2, by simp, by simp⟩

end DM.Lemmas.MainRT
