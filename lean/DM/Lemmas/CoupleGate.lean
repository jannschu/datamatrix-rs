import DM.Lemmas.PlanHist
/-!
# The encoder's early-exit gate and the planner's prediction

`GenericDataEncoder::codewords` answers `TooMuchOrIllegalData` before it looks at the plan when the message has
more characters than `SymbolList::max_capacity()` (the largest number of digits any listed symbol holds:
twice its data codewords).  `Props/C18Couple.predicted_size_suffices_planOK` lists this as a case of its own.
In that case the planner's prediction fits no listed symbol either (`gate_prediction_none`), so the
early exit never rejects a message the planner predicted to fit.

Proof: every mode charges at least 6 twelfths of a codeword per character (ASCII digit pairs: 6 each): the last conjunct of
`CoupleSeg.SwitchPlan m` and the whole of `CoupleSeg.EndPlan m`, proved beside the closed forms of the modes
(`Lemmas/PlanRun*.lean`).  Along the history of the plan `optimize` returns the accumulated cost is therefore at least
`6 * body.length` (`Lemmas/PlanHist.lean`: `optimize_cost_ge`), rounded up to whole codewords at least `⌈body.length / 2⌉`,
which exceeds the data codewords of every listed symbol when `maxCapacity list < body.length`.
-/
namespace DM.Lemmas.CoupleGate
open DM.Model DM.Model.Plan DM.Model.Enc DM.Lemmas.PlanInv DM.Lemmas.Couple DM.Lemmas.CoupleReach

/-- `capacity().max` is twice the number of data codewords, for every catalogue row (and the default row) -/
theorem capMax_row (s : Sym) : (row s).capMax = 2 * dataCw s := by
  by_cases h : s < 48
  · have hall : ∀ s < 48, (row s).capMax = 2 * dataCw s := by decide +kernel
    exact hall s h
  · have hlen : DM.Gen.sizes.length = 48 := by decide +kernel
    have hge : 48 ≤ s := Nat.le_of_not_lt h
    have hle : DM.Gen.sizes.length ≤ s := by rw [hlen]; exact hge
    have hnone : DM.Gen.sizes[s]? = none := List.getElem?_eq_none hle
    have hr : row s = default := by
      unfold row
      rw [List.getD_eq_getElem?_getD, hnone]
      rfl
    unfold dataCw
    rw [hr]
    rfl

theorem foldl_max_ge : ∀ (L : List Nat) (a : Nat), a ≤ L.foldl max a ∧ ∀ x ∈ L, x ≤ L.foldl max a := by
  intro L
  induction L with
  | nil => intro a; simp
  | cons y t ih =>
    intro a
    obtain ⟨h1, h2⟩ := ih (max a y)
    simp only [List.foldl_cons, List.mem_cons]
    refine ⟨by omega, ?_⟩
    rintro x (rfl | hx)
    · omega
    · exact h2 x hx

theorem dataCw_le_maxCapacity (list : List Sym) (s : Sym) (h : s ∈ list) : 2 * dataCw s ≤ maxCapacity list := by
  unfold maxCapacity
  rw [← capMax_row s]
  exact (foldl_max_ge _ 0).2 _ (List.mem_map.mpr ⟨s, h, rfl⟩)

variable {body : List Nat} {list : List Sym} {W : Nat}

/-- **The early exit agrees with the planner** (see the header); `w`: the codewords already written. -/
theorem gate_prediction_none (body : List Nat) (w : Nat) (list : List Sym) (modes : Nat) (perms : List (List Nat))
    (o : Outcome) (plan : List (Nat × EMode))
    (hopt : Plan.optimize body w list modes perms = .ok o) (hp : o.plan = some plan)
    (hgate : maxCapacity list < body.length) :
    firstBigEnough list (w + o.cost12 / 12) = none := by
  have hne : body ≠ [] := by
    intro h; subst h; simp at hgate
  obtain ⟨h1, h2⟩ := optimize_cost_ge hne hopt hp
  cases hf : firstBigEnough list (w + o.cost12 / 12) with
  | none => rfl
  | some ps =>
    exfalso
    have hge := SymbolList.fbe_some_ge list _ ps hf
    have := dataCw_le_maxCapacity list ps (SymbolList.fbe_mem hf)
    omega

end DM.Lemmas.CoupleGate
