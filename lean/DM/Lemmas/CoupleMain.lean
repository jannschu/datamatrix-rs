import DM.Lemmas.PlanHist
import DM.Lemmas.CoupleAscii
import DM.Model.PlanSide
import DM.Lemmas.SymbolList
import DM.Lemmas.EncCalls
import DM.Props.C13TailEnc
/-!
# Planner / encoder coupling: composition along the plan

`predicted_size_suffices_of_modes`: on the plan the optimiser returns (within the decidable condition
`planOK`), the encoder model neither panics nor runs out of fuel (`encoder_no_panic_of_modes`), and it
never needs a larger symbol than the one predicted from the optimiser's cost.

Per-mode content is taken as hypotheses (`CoupleSeg.SwitchPlan m`, `SwitchEnc m`, `EndSegSym m`; `Props/C18Couple.lean` supplies
them from the `Couple<Mode>` files).  The ASCII tail and the first segment are no hypotheses: `CoupleAscii.ascii_tail`,
`ascii_first_switch`, `CoupleAscii.encodeMode_pop_own` / `EncRT.loops_pop`.
The induction over the history of the plan (`arrive`) builds the chain of successful calls of the mode encoders
(`Calls`, with the record `RecOK` of what each call consumed), `run_planned` completes it; `Calls.main_eq` reads it as a run
of `mainLoop` (`mainLoop_planned`),
`Props/C13TailRun.lean` as a run of the instrumented loop.
-/
namespace DM.Lemmas.CoupleMain
open DM.Model.PlanSide
open DM.Model DM.Model.Plan DM.Model.Enc DM.Lemmas.PlanInv DM.Lemmas.Couple DM.Lemmas.CoupleReach
open DM.Lemmas.AsciiRT DM.Lemmas.EncRT DM.Lemmas.CoupleAscii
open DM.Lemmas.CoupleSeg (Within Sync Early Tail TailS SwitchPlan)

/-- a segment of a non-ASCII mode that ends with a planned switch accounts for at least two codewords
after the latch (C40/Text: a triple and the unlatch; X12: a triple and the unlatch; EDIFACT: at least
one character and the unlatch; Base 256: the length byte and one character).  Needed for the
no-progress counter of the main loop. Planner side only. -/
def SegProgress (m : EMode) : Prop :=
  ∀ (body : List Nat) (list : List Sym) (p w k : Nat) (g0 gk : GPlan) (ac : Nat) (ctx' : Ctx),
    ByteList body → p + k < body.length → 1 ≤ k → m ≠ .ascii →
    ((m = .c40 ∨ m = .text) → lateDigits body (body.length - (p + k)) = false) →
    g0.plan = newPlan m (ctxAt body list p w) →
    StepsTo k g0 gk → SwitchPoint gk → gk.switchCost = some ac → gk.unlatch = .ok ctx' →
    w + 2 ≤ ctx'.written

/-- `Couple.SwitchSeg` with the side condition under which it holds for C40 / Text: the switch is not
planned at one of the last two positions of a message that ends with two digits. -/
def SwitchSegX (m : EMode) : Prop :=
  ∀ (body : List Nat) (list : List Sym) (p w k : Nat) (g0 gk : GPlan) (ac : Nat) (ctx' : Ctx) (m' : EMode)
    (rest : List (Nat × EMode)) (s : St),
    ByteList body → p + k < body.length → (1 ≤ k ∨ m = .ascii) →
    ((m = .c40 ∨ m = .text) → lateDigits body (body.length - (p + k)) = false) →
    g0.plan = newPlan m (ctxAt body list p w) →
    StepsTo k g0 gk → SwitchPoint gk → gk.switchCost = some ac → gk.unlatch = .ok ctx' → m' ≠ m →
    EncAt body list s p w m ((body.length - (p + k), m') :: rest) →
    ac = g0.extra + 12 * (ctx'.written - w) ∧ w ≤ ctx'.written ∧
    ((∃ s', encodeMode s = .ok s' ∧ s'.input = body ∧ s'.list = list ∧ s'.pos = p + k ∧
        s'.cw.length = ctx'.written ∧ s'.mode = m' ∧ s'.plan = rest ∧ s'.newMode = m'.latch) ∨
     (encodeMode s = .error .tooMuch ∧ firstBigEnough list ctx'.written = none))

theorem switchSegX_of_switchSeg (m : EMode) (h : SwitchSeg m) : SwitchSegX m := by
  intro body list p w k g0 gk ac ctx' m' rest s hb hlt hk _ hpl hst hsp hsc hul hne henc
  exact h body list p w k g0 gk ac ctx' m' rest s hb hlt hk hpl hst hsp hsc hul hne henc

/-- C40 / Text segment followed by the planned switch to ASCII exactly two characters before the end,
both digits (`"AAA12"`): `handle_end` sets ASCII until the end and writes the unlatch only if there is
room, so the encoder may be one codeword cheaper than priced. -/
def LateSwitchSeg (m : EMode) : Prop :=
  ∀ (body : List Nat) (list : List Sym) (p w k : Nat) (g0 gk : GPlan) (ac : Nat) (ctx' : Ctx) (s : St),
    ByteList body → p + k + 2 = body.length → 1 ≤ k → (m = .c40 ∨ m = .text) → lateDigits body 2 = true →
    g0.plan = newPlan m (ctxAt body list p w) →
    StepsTo k g0 gk → SwitchPoint gk → gk.switchCost = some ac → gk.unlatch = .ok ctx' →
    EncAt body list s p w m [(2, .ascii), (0, .ascii)] →
    ac = g0.extra + 12 * (ctx'.written - w) ∧ w ≤ ctx'.written ∧
    ((∃ s', encodeMode s = .ok s' ∧ s'.input = body ∧ s'.list = list ∧ s'.pos = p + k ∧ s'.mode = .ascii ∧
        s'.plan = [(0, .ascii)] ∧ s'.newMode = none ∧ w ≤ s'.cw.length ∧ s'.cw.length ≤ ctx'.written) ∨
     (encodeMode s = .error .tooMuch ∧ firstBigEnough list ctx'.written = none))

/-- `Couple.EndSeg` with the codeword inequality replaced by what is true of the models: the number of codewords may
exceed the planner's by one (the unlatch at the end of the data), but it fits the symbol predicted from the planner's
cost.  Also: the mode encoder does not shorten the codeword list (assertion `codewords.len() - len` of the main loop). -/
def EndSegSym (m : EMode) : Prop :=
  ∀ (body : List Nat) (list : List Sym) (p w k : Nat) (g0 gk gE : GPlan) (r : StepResult) (s : St),
    ByteList body → p + k = body.length → (1 ≤ k ∨ m = .ascii) →
    g0.plan = newPlan m (ctxAt body list p w) →
    StepsTo k g0 gk → gk.step = .ok (some (gE, r)) → r.end = true →
    EncAt body list s p w m [(0, m)] →
    g0.extra ≤ gE.cost ∧
    ((∃ s', encodeMode s = .ok s' ∧ s'.input = body ∧ s'.list = list ∧ s'.pos ≤ body.length ∧ s'.newMode = none ∧
        (s'.hasMore = true → s'.mode = .ascii ∧ s'.plan = [(0, .ascii)]) ∧ w ≤ s'.cw.length ∧
        ∀ sym, firstBigEnough list (w + ceil12 (gE.cost - g0.extra) / 12) = some sym →
          s'.cw.length + asciiSize s'.rest ≤ dataCw sym) ∨
     (encodeMode s = .error .tooMuch ∧ firstBigEnough list (w + ceil12 (gE.cost - g0.extra) / 12) = none))

/-- **Encoder half of a segment that ends with a planned switch**, under the condition `headOK` that `planOK` imposes
on this entry of the plan: the mode encoder leaves in `Sync`, or — C40 / Text in front of two final digits, the next
entry being the last switch to ASCII — in `Early`. -/
def SwitchEnc (m : EMode) : Prop :=
  ∀ (body : List Nat) (list : List Sym) (p w k : Nat) (g0 gk : GPlan) (ac : Nat) (ctx' : Ctx) (m' : EMode)
    (rest : List (Nat × EMode)) (s : St),
    ByteList body → p + k < body.length → (1 ≤ k ∨ m = .ascii) →
    g0.plan = newPlan m (ctxAt body list p w) →
    StepsTo k g0 gk → SwitchPoint gk → gk.switchCost = some ac → gk.unlatch = .ok ctx' → m' ≠ m →
    headOK body (body.length - p, m) ((body.length - (p + k), m') :: rest) = true →
    EncAt body list s p w m ((body.length - (p + k), m') :: rest) →
    Within list ctx'.written (encodeMode s) fun s' =>
      Sync body list (p + k) ctx'.written m' rest s' ∨
      (m' = .ascii ∧ rest = [(0, .ascii)] ∧ Early body list (p + k) w ctx'.written s')

theorem segProgress_of_switchPlan {m : EMode} (h : SwitchPlan m) : SegProgress m :=
  fun body list p w k g0 gk ac ctx' _ hlt hk hm _ hpl hst hsp hsc hul =>
    (h body list p w k g0 gk ac ctx' hlt (Or.inl hk) hpl hst hsp hsc hul).2.2.1 hm

/-- the state in which the main loop arrives at a segment: the latch of the segment's mode is pending -/
def PreAt (body : List Nat) (list : List Sym) (s : St) (p w : Nat) (m : EMode) (plan : List (Nat × EMode)) : Prop :=
  s.input = body ∧ s.list = list ∧ s.pos = p ∧ s.cw.length + lcost m = w ∧ s.mode = m ∧ s.plan = plan ∧
    s.newMode = m.latch

theorem preAt_latched {body : List Nat} {list : List Sym} {s : St} {p w : Nat} {m : EMode}
    {plan : List (Nat × EMode)} (h : PreAt body list s p w m plan) : EncAt body list (latched s) p w m plan := by
  obtain ⟨a, b, c, d, e, f, g⟩ := h
  unfold latched
  rw [g]
  cases m with
  | ascii => exact ⟨a, b, c, by simpa [lcost, EMode.latch] using d, e, f, g⟩
  | _ => exact ⟨a, b, c, by simpa [lcost, EMode.latch, St.push] using d, e, f, rfl⟩

theorem ascii_first_switch (s : St) (m : EMode) (rest : List (Nat × EMode)) (hmode : s.mode = .ascii)
    (hp : s.plan = (s.charsLeft, m) :: rest) (hcl : 0 < s.charsLeft) (hm : m ≠ .ascii) :
    encodeMode s = .ok { s with mode := m, plan := rest, newMode := m.latch } := by
  rw [encodeMode_ascii s hmode]
  exact AsciiRT.asciiLoop_switch_first _ s hmode hp hcl hm

/-- the state from which the chain of calls starts: the initial state itself, or the initial state without the leading
`(len, ASCII)` entry that `finPlan` leaves in the plan when something has been written (the first `maybe_switch_mode` takes
it from the list and changes nothing else, `EncRT.loops_pop`) -/
inductive Start (st : St) : St → Prop
  | same : Start st st
  | pop {r : Nat} {m' : EMode} {rest : List (Nat × EMode)} : st.mode = .ascii → st.newMode = none →
      st.plan = (st.charsLeft, .ascii) :: (r, m') :: rest → r < st.charsLeft →
      Start st { st with plan := (r, m') :: rest }

theorem Start.loops_eq {st st' : St} (h : Start st st') (f nw : Nat) :
    mainLoop f st nw = mainLoop f st' nw ∧ ∀ tr, DM.Props.C13Tail.traceLoop f st nw tr = DM.Props.C13Tail.traceLoop f st' nw tr := by
  cases h with
  | same => exact ⟨rfl, fun _ => rfl⟩
  | pop h1 h2 h3 h4 =>
    refine loops_pop st _ ?_ h2 (encodeMode_pop_own st h1 _ _ _ h3 h4) f nw
    unfold St.charsLeft at h4
    simp only [St.hasMore, decide_eq_true_eq]
    omega

/-- the calls recorded up to position `p` tile `[0, p)`, and each that consumes characters is a pair of consecutive
entries of the switch list `L` (for a message of `n` characters) -/
inductive RecOK (L : List (Nat × EMode)) (n : Nat) : Nat → List (Nat × Nat × EMode) → Prop
  | nil : RecOK L n 0 []
  | snoc {p q : Nat} {m : EMode} {tr : List (Nat × Nat × EMode)} : RecOK L n p tr → p ≤ q →
      (p < q → ∃ A m' t, L = A ++ (n - p, m) :: (n - q, m') :: t) → RecOK L n q (tr ++ [(p, q, m)])

theorem endSegSym_of_endSegS {m : EMode} {σ : Nat} (h : CoupleSeg.EndSegS m σ) : EndSegSym m :=
  fun body list p w k g0 gk gE r s hb hpk hk hpl hst hs hre henc =>
    (h body list p w k g0 gk gE r s hb hpk hk hpl hst hs hre henc).imp id (Within.imp · fun _ _ ht => ht.1)

theorem endSegSym_of_endSeg (m : EMode) (h : EndSeg m)
    (hmono : ∀ s s' : St, s.mode = m → encodeMode s = .ok s' → s.cw.length ≤ s'.cw.length) : EndSegSym m := by
  intro body list p w k g0 gk gE r s hb hpk hk hpl hst hs hre henc
  refine (h body list p w k g0 gk gE r s hb hpk hk hpl hst hs hre henc).imp id
    (Within.imp · fun s' he ⟨a, b, c, d, e, f⟩ =>
      (CoupleSeg.tail_of_le a b c d e (henc.2.2.2.1 ▸ hmono s s' henc.2.2.2.2.1 he) ?_).1)
  have := PlanStep.ceil12_mod (gE.cost - g0.extra)
  omega

theorem planOK_append (body : List Nat) (e : Nat × EMode) (t : List (Nat × EMode)) :
    ∀ A : List (Nat × EMode), planOK body (A ++ e :: t) = true → headOK body e t = true := by
  intro A
  induction A with
  | nil => intro h; simp only [List.nil_append, planOK, Bool.and_eq_true] at h; exact h.1
  | cons a A ih => intro h; simp only [List.cons_append, planOK, Bool.and_eq_true] at h; exact ih h.2

theorem headOK_cases {body : List Nat} {e : Nat × EMode} {r : Nat} {m' : EMode} {t : List (Nat × EMode)}
    (h : headOK body e ((r, m') :: t) = true) :
    ((e.2 = .c40 ∨ e.2 = .text) → lateDigits body r = false) ∨
    ((e.2 = .c40 ∨ e.2 = .text) ∧ lateDigits body r = true ∧ r = 2 ∧ m' = .ascii ∧ t = [(0, .ascii)]) := by
  by_cases hc : e.2 = .c40 ∨ e.2 = .text
  · by_cases hl : lateDigits body r = true
    · right
      have hc' : (e.2 == EMode.c40 || e.2 == EMode.text) = true := by simpa using hc
      simp only [headOK, hc', hl, Bool.not_true, Bool.false_or, Bool.and_eq_true, beq_iff_eq] at h
      exact ⟨hc, hl, h.1.1, h.1.2, h.2⟩
    · left; intro _; simpa using hl
  · left; intro h'; exact absurd h' hc

theorem planOK_finPlan (body : List Nat) (W len : Nat) (sw : List (Nat × EMode))
    (h : planOK body (finPlan W len sw) = true) : planOK body sw = true := by
  unfold finPlan at h
  split at h
  · rename_i hc
    cases sw with
    | nil => rfl
    | cons e t =>
      simp only [List.head?_cons, Option.some.injEq] at hc
      simp only [List.tail_cons] at h
      simp only [planOK, h, Bool.and_true]
      rw [hc.2]
      cases t with
      | nil => rfl
      | cons a t => obtain ⟨r, m'⟩ := a; simp [headOK]
  · exact h

open DM.Props.C13Tail (initSt)

section
variable {body : List Nat} {list : List Sym} {W : Nat}

theorem lcost_ascii : lcost .ascii = 0 := rfl

theorem hist_last {g0 : GPlan} {p w : Nat} {m : EMode} (hh : Hist body list W g0 p w m) :
    ∃ A, g0.switches = A ++ [(body.length - p, m)] := by
  cases hh with
  | start => exact ⟨[], by simp [startPlan]⟩
  | first m hm => exact ⟨[], by simp⟩
  | switch hh => exact ⟨_, rfl⟩

theorem switchEnc_of_switchSeg {m : EMode} (h : SwitchSeg m) : SwitchEnc m := by
  intro body list p w k g0 gk ac ctx' m' rest s hb hlt hk hpl hst hsp hsc hul hne _ henc
  exact Within.imp (h body list p w k g0 gk ac ctx' m' rest s hb hlt hk hpl hst hsp hsc hul hne henc).2.2 fun _ _ => Or.inl

/-- C40 / Text: the two shapes of segment `headOK` allows are `SwitchSegX` and `LateSwitchSeg` -/
theorem switchEnc_of_late {m : EMode} (hS : SwitchSegX m) (hL : LateSwitchSeg m) : SwitchEnc m := by
  intro body list p w k g0 gk ac ctx' m' rest s hb hlt hk hpl hst hsp hsc hul hne hhead henc
  rcases headOK_cases hhead with hside | ⟨hc40, hlate, hr2, rfl, rfl⟩
  · exact Within.imp (hS body list p w k g0 gk ac ctx' m' rest s hb hlt hk hside hpl hst hsp hsc hul hne henc).2.2
      fun _ _ => Or.inl
  · have hk1 : 1 ≤ k := hk.resolve_right fun h => by
      rcases hc40 with h' | h' <;> simp only [] at h' <;> rw [h] at h' <;> cases h'
    rw [hr2] at henc hlate
    exact Within.imp (hL body list p w k g0 gk ac ctx' s hb (by omega) hk1 hc40 hlate hpl hst hsp hsc hul henc).2.2
      fun _ _ ⟨e2, e3, e4, e5, e6, e7, e8, e9⟩ => Or.inr ⟨rfl, rfl, e2, e3, e4, e5, e6, e7, e8, e9⟩

/-- the main loop, started in `st`, arrives at the segment `(p, w, m)` with `rest` as remaining plan;
or its next call stops with `tooMuch`, and then some count `n ≤ w` already fits no symbol; or (C40 / Text
before two final digits) it has arrived in ASCII-until-the-end with at most `w` codewords -/
def Arrive (body : List Nat) (list : List Sym) (L : List (Nat × EMode)) (st : St) (p w : Nat) (m : EMode)
    (rest : List (Nat × EMode)) : Prop :=
  (∃ s used nw tr, Calls st 0 used nw tr s ∧ RecOK L body.length p tr ∧ PreAt body list s p w m rest ∧ used ≤ p + 1 ∧
      nw ≤ 1 ∧ (m = .ascii → nw = 0)) ∨
  (∃ s used nw tr n, Calls st 0 used nw tr s ∧ s.hasMore = true ∧ encodeMode (latched s) = .error .tooMuch ∧ used ≤ p ∧
      n ≤ w ∧ firstBigEnough list n = none) ∨
  (∃ s used nw tr, Calls st 0 used nw tr s ∧ RecOK L body.length p tr ∧ Early body list p 0 w s ∧ m = .ascii ∧
      rest = [(0, .ascii)] ∧ used ≤ p + 1 ∧ nw ≤ 2)

theorem finPlan_first (len : Nat) (m : EMode) (t : List (Nat × EMode)) (hm : m ≠ .ascii) :
    finPlan W len ((len, m) :: t) = (len, m) :: t := by
  unfold finPlan
  rw [if_neg]
  intro h
  simp only [List.head?_cons, Option.some.injEq, Prod.mk.injEq] at h
  exact hm h.2.2

theorem preAt_hasMore {s : St} {p w : Nat} {m : EMode} {plan : List (Nat × EMode)}
    (h : PreAt body list s p w m plan) (hp : p < body.length) : s.hasMore = true := by
  obtain ⟨a, _, c, _⟩ := h
  simp only [St.hasMore, a, c, decide_eq_true_eq]
  exact hp

theorem arrive (pre : List Nat) (hW : W = pre.length) (hP : ∀ m, SwitchPlan m) (hEnc : ∀ m, SwitchEnc m)
    (hb : ByteList body) (hpos : 0 < body.length) (L : List (Nat × EMode)) (hok : planOK body L = true)
    {g0 : GPlan} {p w : Nat} {m : EMode} (hh : Hist body list W g0 p w m) :
    ∀ (r : Nat) (m' : EMode) (rest' : List (Nat × EMode)), r < body.length → L = g0.switches ++ (r, m') :: rest' →
      ∃ st, Start (initSt list pre body (finPlan W body.length L)) st ∧ Arrive body list L st p w m ((r, m') :: rest') := by
  induction hh with
  | start =>
    intro r m' rest' hr hL
    subst hL
    refine ⟨initSt list pre body ((r, m') :: rest'), ?_, Or.inl
      ⟨_, 0, 0, [], .nil, .nil, ⟨rfl, rfl, rfl, hW.symm, rfl, rfl, rfl⟩, Nat.zero_le _, Nat.zero_le _, fun _ => rfl⟩⟩
    simp only [startPlan, List.cons_append, List.nil_append]
    unfold finPlan
    split
    · exact .same
    · exact .pop (st := initSt list pre body ((body.length, EMode.ascii) :: (r, m') :: rest')) rfl rfl rfl hr
  | first m hm =>
    -- the ASCII encoder returns at once with the latch of `m` pending: one empty call
    intro r m' rest' hr hL
    subst hL
    refine ⟨_, .same, Or.inl ?_⟩
    simp only [List.cons_append, List.nil_append]
    rw [finPlan_first _ _ _ hm]
    have henc := ascii_first_switch (initSt list pre body ((body.length, m) :: (r, m') :: rest')) m ((r, m') :: rest') rfl rfl
      hpos hm
    exact ⟨_, 1, _, _, Calls.call .nil (by simp [initSt, St.hasMore, hpos]) henc (Nat.le_refl _) (fun _ => Nat.zero_le _),
      RecOK.nil.snoc (m := .ascii) (Nat.le_refl 0) (fun h => absurd h (Nat.lt_irrefl _)),
      ⟨rfl, rfl, rfl, by simp [initSt, hW], rfl, rfl, rfl⟩, by omega, by simp [initSt, latched], fun h => absurd h hm⟩
  | @switch g0 gk p w k ac m m' ctx' hh hlt hk hst hsp hsc hul hne ih =>
    intro r m'' rest' hr hL
    simp only [List.append_assoc, List.cons_append, List.nil_append] at hL
    obtain ⟨st0, hst0, harr⟩ := ih (body.length - (p + k)) m' ((r, m'') :: rest') (by omega) hL
    obtain ⟨A, hA⟩ := hist_last hh
    have hLA : L = A ++ (body.length - p, m) :: (body.length - (p + k), m') :: (r, m'') :: rest' := by
      rw [hL, hA, List.append_assoc]
      rfl
    have hhead := planOK_append body _ _ A (hLA ▸ hok)
    obtain ⟨-, hle, hprog, -⟩ := hP m body list p w k g0 gk ac ctx' hlt (Or.inl hk) (hist_plan hh) hst hsp hsc hul
    refine ⟨st0, hst0, ?_⟩
    rcases harr with ⟨s, used, nw, tr, hc, hrec, hpre, hused, hnw, hnwa⟩ | ⟨s, used, nw, tr, n, hc, hm, he, hused, hn, hfb⟩ |
      ⟨_, _, _, _, _, _, _, _, hrest, _⟩
    · have hmore := preAt_hasMore hpre (by omega)
      have hlen : (latched s).cw.length = w := (preAt_latched hpre).2.2.2.1
      have hu : used + 1 ≤ p + k + 1 := Nat.succ_le_succ (Nat.le_trans hused (Nat.add_le_add_left hk p))
      have hnw4 : nw ≤ 4 := Nat.le_trans hnw (by decide)
      have hrec' : ∀ s' : St, s'.pos = p + k → RecOK L body.length (p + k) (tr ++ [(s.pos, s'.pos, s.mode)]) :=
        fun s' hs' => by
          rw [hs', hpre.2.2.1, hpre.2.2.2.2.1]
          exact hrec.snoc (Nat.le_add_right p k) fun _ => ⟨A, m', _, hLA⟩
      rcases hEnc m body list p w k g0 gk ac ctx' m' _ (latched s) hb hlt (Or.inl hk) (hist_plan hh) hst hsp hsc hul hne hhead
        (preAt_latched hpre) with ⟨s', e1, ⟨e2, e3, e4, e5, e6, e7, e8⟩ | ⟨rfl, ht, e2, e3, e4, e5, e6, e7, e8, e9⟩⟩ | ⟨e1, e2⟩
      · -- no progress is counted at most once in a row: a non-ASCII segment writes two codewords or more
        refine Or.inl ⟨s', used + 1, _, _, hc.call hmore e1 (by rw [hlen, e5]; exact hle) (fun _ => hnw4), hrec' s' e4,
          ⟨e2, e3, e4, by rw [e5], e6, e7, e8⟩, hu, ?_, ?_⟩ <;> rw [hlen, e5]
        · by_cases hma : m = .ascii
          · rw [hnwa hma]; split <;> omega
          · rw [if_neg (by have := hprog hma; omega)]; exact Nat.zero_le _
        · intro hma'
          rw [if_neg (by have := hprog (fun h => hne (hma'.trans h.symm)); omega)]
      · exact Or.inr (Or.inr ⟨s', used + 1, _, _, hc.call hmore e1 (by rw [hlen]; exact e8) (fun _ => hnw4), hrec' s' e4,
          ⟨e2, e3, e4, e5, e6, e7, Nat.zero_le _, by rw [lcost_ascii]; exact e9⟩, rfl, ht, hu, by split <;> omega⟩)
      · exact Or.inr (Or.inl ⟨s, used, nw, tr, ctx'.written, hc, hmore, e1, by omega, Nat.le_add_right _ _, e2⟩)
    · exact Or.inr (Or.inl ⟨s, used, nw, tr, n, hc, hm, he, by omega, by omega, hfb⟩)
    · simp only [List.cons.injEq, Prod.mk.injEq] at hrest
      omega

theorem extra_le_cost (g : GPlan) : g.extra ≤ g.cost :=
  Nat.le_add_right _ _

theorem hasMore_false_rest (s : St) (h : s.hasMore = false) : s.rest = [] := by
  unfold St.rest
  apply List.drop_eq_nil_of_le
  simpa [St.hasMore] using h

/-- what the planner's price of a final ASCII segment guarantees (`ascii_end_plan`: the price is its ASCII size) -/
theorem ascii_end_bound {g0 gk gE : GPlan} {p w k : Nat}
    {r : StepResult} (hh : Hist body list W g0 p w .ascii) (hpk : p + k = body.length)
    (hst : StepsTo k g0 gk) (hs : gk.step = .ok (some (gE, r))) (ps : Sym)
    (hps : firstBigEnough list (w + ceil12 (gE.cost - g0.extra) / 12) = some ps) :
    w + asciiSize (body.drop p) ≤ dataCw ps := by
  rw [ascii_end_plan hpk (hist_plan hh) hst hs, Nat.add_sub_cancel_left, PlanStep.ceil12_mul,
    Nat.mul_div_cancel_left _ (by decide : 0 < 12)] at hps
  exact SymbolList.fbe_some_ge list _ ps hps

/-- the prediction read from the last segment: whole codewords in front of it pass through `ceil12` -/
theorem predicted_split {W w c e : Nat} (hex : e = 12 * (w - W) ∧ W ≤ w) (hle : e ≤ c) :
    W + ceil12 c / 12 = w + ceil12 (c - e) / 12 := by
  have hc : c = 12 * (w - W) + (c - e) := by omega
  rw [hc, PlanStep.ceil12_add, ← hc]
  omega

/-- **The whole run on the optimiser's plan, as a chain of calls**: `arrive` up to the last segment `(p, w, m)`, the call for
it (which ends at `q`), and one ASCII call more if that leaves characters; or a call that answers `tooMuch`. -/
theorem run_planned (pre : List Nat) (hW : W = pre.length) (hP : ∀ m, SwitchPlan m) (hEnc : ∀ m, SwitchEnc m)
    (hE : ∀ m, EndSegSym m) (hb : ByteList body) (hpos : 0 < body.length) (L : List (Nat × EMode))
    (hok : planOK body L = true) {g0 gk best : GPlan} {p w j : Nat} {m : EMode} {r : StepResult}
    (hh : Hist body list W g0 p w m) (hst : StepsTo j g0 gk) (hpj : p + j = body.length) (hj : 1 ≤ j)
    (hs : gk.step = .ok (some (best, r))) (hre : r.end = true) (hL : L = g0.switches ++ [(0, m)]) :
    ∃ st0, Start (initSt list pre body (finPlan W body.length L)) st0 ∧
      ((∃ sE used nw tr0 q, Calls st0 0 used nw (tr0 ++ (p, q, m) :: (if q < body.length then [(q, body.length, .ascii)] else [])) sE ∧
          sE.hasMore = false ∧ used ≤ p + 3 ∧ RecOK L body.length p tr0 ∧ p ≤ q ∧ q ≤ body.length ∧
          (q < body.length → body.length - q ≤ DM.Props.C13Tail.tailMax m) ∧
          ∀ ps, firstBigEnough list (w + ceil12 (best.cost - g0.extra) / 12) = some ps → sE.cw.length ≤ dataCw ps) ∨
       (∃ s used nw tr, Calls st0 0 used nw tr s ∧ s.hasMore = true ∧ encodeMode (latched s) = .error .tooMuch ∧ used ≤ p + 1 ∧
          firstBigEnough list (w + ceil12 (best.cost - g0.extra) / 12) = none)) := by
  have hplt : p < body.length := by omega
  obtain ⟨st0, hst0, harr⟩ := arrive pre hW hP hEnc hb hpos L hok hh 0 m [] hpos hL
  refine ⟨st0, hst0, ?_⟩
  rcases harr with ⟨s, used, nw, tr, hc, hrec, hpre, hused, hnw, _⟩ | ⟨s, used, nw, tr, n, hc, hm, he, hused, hn, hfb⟩ |
    ⟨s, used, nw, tr, hc, hrec, ⟨a1, a2, a3, a4, a5, a6, _, a7⟩, rfl, _, hused, hnw⟩
  · have henc := preAt_latched hpre
    have hmore := preAt_hasMore hpre hplt
    obtain ⟨_, hres⟩ := hE m body list p w j g0 gk best r (latched s) hb hpj (Or.inl hj) (hist_plan hh) hst hs hre henc
    rcases hres with ⟨s', e1, e2, e3, e4, e5, e6, e7, e8⟩ | ⟨e1, e2⟩
    · have hc1 := hc.call hmore e1 (by rw [henc.2.2.2.1]; exact e7) (fun _ => by omega)
      rw [hpre.2.2.1, hpre.2.2.2.2.1] at hc1
      have hpq : p ≤ s'.pos := henc.2.2.1 ▸ DM.Props.C13Tail.encodeMode_pos _ s' e1
      by_cases hm' : s'.hasMore = true
      · obtain ⟨b1, b2⟩ := e6 hm'
        have hqn : s'.pos < body.length := by simpa [St.hasMore, e2] using hm'
        obtain ⟨s'', u1, _, _, u4, u5, u6, _⟩ := ascii_tail s' b1 b2 (by rw [e2]; exact e4)
        have hl : latched s' = s' := by unfold latched; rw [e5]
        have hc2 := hc1.call hm' (by rw [hl]; exact u1) (by rw [hl, u6]; exact Nat.le_add_right _ _) (fun _ => by split <;> omega)
        rw [u4, e2, b1] at hc2
        rw [List.append_assoc, List.singleton_append, ← if_pos (c := s'.pos < body.length) hqn (t := [(s'.pos, body.length, EMode.ascii)]) (e := [])] at hc2
        refine Or.inl ⟨s'', used + 1 + 1, _, tr, s'.pos, hc2, u5, by omega, hrec, hpq, e4, fun _ => ?_,
          fun ps hps => by rw [u6]; exact e8 ps hps⟩
        -- what is left to the ASCII call is what the mode's end-of-data handler may give back
        have htl := DM.Props.C13Tail.encodeMode_tail _ s' e1 hm'
        rw [henc.2.2.2.2.2.1, b2, henc.2.2.2.2.1] at htl
        rcases htl with htl | ⟨_, _, _, _, t5⟩
        · simp at htl
        · unfold St.charsLeft at t5; rw [e2] at t5; exact t5
      · have hm'' : s'.hasMore = false := by simpa using hm'
        have hqn : ¬ s'.pos < body.length := by simpa [St.hasMore, e2] using hm''
        rw [← if_neg (c := s'.pos < body.length) hqn (t := [(s'.pos, body.length, EMode.ascii)]) (e := [])] at hc1
        refine Or.inl ⟨s', used + 1, _, tr, s'.pos, hc1, hm'', by omega, hrec, hpq, e4, fun h => absurd h hqn, fun ps hps => ?_⟩
        have := e8 ps hps
        rw [hasMore_false_rest s' hm''] at this
        simpa [asciiSize] using this
    · exact Or.inr ⟨s, used, nw, tr, hc, hmore, e1, hused, e2⟩
  · exact Or.inr ⟨s, used, nw, tr, hc, hm, he, by omega,
      SymbolList.fbe_none_mono list n _ hfb (Nat.le_trans hn (Nat.le_add_right _ _))⟩
  · have hmore : s.hasMore = true := by simp only [St.hasMore, a1, a3, decide_eq_true_eq]; omega
    obtain ⟨s'', u1, _, _, u4, u5, u6, _⟩ := ascii_tail s a4 a5 (by rw [a1, a3]; omega)
    have hl : latched s = s := by unfold latched; rw [a6]
    have hc1 := hc.call hmore (by rw [hl]; exact u1) (by rw [hl, u6]; exact Nat.le_add_right _ _) (fun _ => by omega)
    rw [u4, a1, a3, a4] at hc1
    rw [← if_neg (c := body.length < body.length) (Nat.lt_irrefl _) (t := [(body.length, body.length, EMode.ascii)]) (e := [])] at hc1
    refine Or.inl ⟨s'', used + 1, _, tr, body.length, hc1, u5, by omega, hrec, Nat.le_of_lt hplt, Nat.le_refl _,
      fun h => absurd h (Nat.lt_irrefl _), fun ps hps => ?_⟩
    have := ascii_end_bound hh hpj hst hs ps hps
    have hr : s.rest = body.drop p := by unfold St.rest; rw [a1, a3]
    rw [u6, hr]
    omega

theorem mainLoop_planned (hP : ∀ m, SwitchPlan m) (hEnc : ∀ m, SwitchEnc m) (hE : ∀ m, EndSegSym m)
    (pre : List Nat) (modes : Nat) (perms : List (List Nat)) (o : Outcome) (plan : List (Nat × EMode))
    (hb : ByteList body) (hopt : optimize body pre.length list modes perms = .ok o) (hp : o.plan = some plan)
    (hok : planOK body plan = true) :
    (∃ sE, mainLoop (2 * body.length + 8) (initSt list pre body plan) 0 = .ok sE ∧
        ∀ ps, firstBigEnough list (pre.length + o.cost12 / 12) = some ps → sE.cw.length ≤ dataCw ps) ∨
    (mainLoop (2 * body.length + 8) (initSt list pre body plan) 0 = .error .tooMuch ∧
        firstBigEnough list (pre.length + o.cost12 / 12) = none) := by
  by_cases hne : body = []
  · subst hne
    refine Or.inl ⟨initSt list pre [] plan, mainLoop_end _ _ _ (by simp [initSt, St.hasMore]), fun ps hps => ?_⟩
    exact Nat.le_trans (Nat.le_add_right _ _) (SymbolList.fbe_some_ge list _ ps hps)
  have hpos : 0 < body.length := List.length_pos_iff.mpr hne
  obtain ⟨best, ⟨g0, p, w, m, j, gk, r, hh, hst, hpj, hj, hs, hre⟩, hplan, hcost⟩ := optimize_final hne hopt hp
  obtain ⟨hck, hcur, hsw, hkex, _⟩ := stepsTo_core j p g0 gk hst (hist_core hh).1
  obtain ⟨bsw, bex, bcur, _, _, _⟩ := step_some_spec hck hs
  rw [bsw, hsw, bcur, hcur, (hist_core hh).2] at hplan
  subst hplan
  have hex := hist_extra hP hh
  obtain ⟨st0, hst0, hrun⟩ := run_planned pre rfl hP hEnc hE hb hpos _ (planOK_finPlan body _ _ _ hok) hh hst hpj hj hs hre rfl
  rw [hcost, predicted_split ⟨hex.1, hex.2.1⟩ (hkex ▸ bex ▸ extra_le_cost best), (hst0.loops_eq _ _).1]
  rcases hrun with ⟨sE, used, nw, tr0, q, hc, hm, hu, -, -, -, -, hsz⟩ | ⟨s, used, nw, tr, hc, hm, he, hu, hfb⟩
  · obtain ⟨f, hf⟩ : ∃ f, 2 * body.length + 8 = used + (f + 1) := ⟨2 * body.length + 8 - used - 1, by omega⟩
    exact Or.inl ⟨sE, by rw [hf, hc.main_eq, mainLoop_end _ _ _ hm], hsz⟩
  · obtain ⟨f, hf⟩ : ∃ f, 2 * body.length + 8 = used + 1 + f := ⟨2 * body.length + 8 - used - 1, by omega⟩
    exact Or.inr ⟨by rw [hf, hc.main_err hm he], hfb⟩

end

theorem addPadding_some (cw : List Nat) (b : Bool) (cap : Nat) (h : cw.length ≤ cap) :
    ∃ out, addPadding cw b cap = some out :=
  let ⟨out, hout, _⟩ := DM.Props.C02.padding_conformant cw b cap h
  ⟨out, hout⟩

/-- **C18 (last sentence) / C11 (encoder half): the predicted size suffices**, for plans within `planOK`.  The four cases
are read out at `Props.C18Couple.predicted_size_suffices_planOK`. -/
theorem predicted_size_suffices_of_modes (hP : ∀ m, SwitchPlan m) (hEnc : ∀ m, SwitchEnc m)
    (hE : ∀ m, EndSegSym m)
    (body pre : List Nat) (list : List Sym) (modes : Nat) (perms : List (List Nat)) (o : Outcome)
    (plan : List (Nat × EMode)) (hb : ByteList body)
    (hopt : optimize body pre.length list modes perms = .ok o) (hp : o.plan = some plan)
    (hok : planOK body plan = true) :
    (list = [] ∧ run list pre body plan = .error .listEmpty) ∨
    (list ≠ [] ∧ maxCapacity list < body.length ∧ run list pre body plan = .error .tooMuch) ∨
    (list ≠ [] ∧ body.length ≤ maxCapacity list ∧ ∃ cw sym, run list pre body plan = .ok (cw, sym) ∧
      ∀ ps, firstBigEnough list (pre.length + o.cost12 / 12) = some ps → dataCw sym ≤ dataCw ps) ∨
    (list ≠ [] ∧ body.length ≤ maxCapacity list ∧ run list pre body plan = .error .tooMuch ∧
      firstBigEnough list (pre.length + o.cost12 / 12) = none) := by
  by_cases hl : list = []
  · left
    subst hl
    exact ⟨rfl, rfl⟩
  right
  have hle : list.isEmpty = false := by cases list <;> simp_all
  by_cases hg : body.length > maxCapacity list
  · left
    refine ⟨hl, hg, ?_⟩
    unfold run
    rw [hle]
    simp only [Bool.false_eq_true, ↓reduceIte, hg]
  right
  have hrun : run list pre body plan =
      match mainLoop (2 * body.length + 8) (initSt list pre body plan) 0 with
      | .error e => .error e
      | .ok s =>
        match firstBigEnough list s.cw.length with
        | none => .error .tooMuch
        | some sym =>
          match addPadding s.cw (s.mode == .ascii) (dataCw sym) with
          | some cw => .ok (cw, sym)
          | none => .error (.panic "add_padding") := by
    unfold run
    rw [hle]
    simp only [Bool.false_eq_true, ↓reduceIte, hg]
    rfl
  rcases mainLoop_planned hP hEnc hE pre modes perms o plan hb hopt hp hok with ⟨sE, h1, h2⟩ | ⟨h1, h2⟩
  · rw [h1] at hrun
    simp only [] at hrun
    cases hf : firstBigEnough list sE.cw.length with
    | none =>
      right
      rw [hf] at hrun
      refine ⟨hl, by omega, hrun, ?_⟩
      cases hpr : firstBigEnough list (pre.length + o.cost12 / 12) with
      | none => rfl
      | some ps =>
        obtain ⟨sym, hsym, _⟩ := SymbolList.fbe_fit list sE.cw.length _ ps hpr (h2 ps hpr)
        rw [hf] at hsym; cases hsym
    | some sym =>
      left
      rw [hf] at hrun
      simp only [] at hrun
      obtain ⟨out, hout⟩ := addPadding_some sE.cw (sE.mode == .ascii) (dataCw sym) (SymbolList.fbe_some_ge list _ sym hf)
      rw [hout] at hrun
      refine ⟨hl, by omega, out, sym, hrun, ?_⟩
      intro ps hps
      obtain ⟨sym2, hsym2, hle2⟩ := SymbolList.fbe_fit list sE.cw.length _ ps hps (h2 ps hps)
      rw [hf] at hsym2
      simp only [Option.some.injEq] at hsym2
      subst hsym2
      exact hle2
  · right
    rw [h1] at hrun
    exact ⟨hl, by omega, hrun, h2⟩

/-- **C11 (encoder half)**, for plans within `planOK` -/
theorem encoder_no_panic_of_modes (hP : ∀ m, SwitchPlan m) (hEnc : ∀ m, SwitchEnc m)
    (hE : ∀ m, EndSegSym m)
    (body pre : List Nat) (list : List Sym) (modes : Nat) (perms : List (List Nat)) (o : Outcome)
    (plan : List (Nat × EMode)) (hb : ByteList body)
    (hopt : optimize body pre.length list modes perms = .ok o) (hp : o.plan = some plan)
    (hok : planOK body plan = true) :
    (∀ site, run list pre body plan ≠ .error (.panic site)) ∧ run list pre body plan ≠ .error .fuel := by
  rcases predicted_size_suffices_of_modes hP hEnc hE body pre list modes perms o plan hb hopt hp hok with
    ⟨_, h⟩ | ⟨_, _, h⟩ | ⟨_, _, _, _, h, _⟩ | ⟨_, _, h, _⟩ <;> rw [h] <;>
    exact ⟨fun _ h' => (by cases h'), fun h' => (by cases h')⟩

end DM.Lemmas.CoupleMain
