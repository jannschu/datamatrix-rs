import DM.Model.GF
import DM.Spec.GF256
/-
Finite facts about the regenerated LOG / ANTI_LOG tables, checked by the kernel
(`decide +kernel` over the whole domain, lifted by `allBelow_spec`).
Namespace: `DM.Lemmas`.
-/
namespace DM.Lemmas
open DM.Model DM.Spec

def allBelow : Nat → (Nat → Bool) → Bool
  | 0, _ => true
  | n + 1, p => p n && allBelow n p

theorem allBelow_spec {n : Nat} {p : Nat → Bool} (h : allBelow n p = true) :
    ∀ i, i < n → p i = true := by
  induction n with
  | zero => intro i hi; omega
  | succ n ih =>
    intro i hi
    simp only [allBelow, Bool.and_eq_true] at h
    by_cases hin : i = n
    · subst hin; exact h.1
    · exact ih h.2 i (by omega)

theorem log_alog : ∀ i, i < 255 → glog (alog i) = i := by
  intro i hi
  have h : allBelow 255 (fun i => glog (alog i) == i) = true := by decide +kernel
  simpa using allBelow_spec h i hi

theorem alog_log : ∀ a, a < 256 → a ≠ 0 → alog (glog a) = a := by
  intro a ha h0
  have h : allBelow 256 (fun a => a == 0 || alog (glog a) == a) = true := by decide +kernel
  have := allBelow_spec h a ha
  simp at this
  rcases this with h | h
  · exact absurd h h0
  · exact h

theorem log_lt : ∀ a, a < 256 → glog a < 255 := by
  intro a ha
  have h : allBelow 256 (fun a => decide (glog a < 255)) = true := by decide +kernel
  simpa using allBelow_spec h a ha

theorem alog_pos : ∀ i, i < 255 → alog i ≠ 0 ∧ alog i < 256 := by
  intro i hi
  have h : allBelow 255 (fun i => alog i != 0 && decide (alog i < 256)) = true := by decide +kernel
  simpa using allBelow_spec h i hi

theorem alog_zero : alog 0 = 1 := by decide +kernel
theorem log_one : glog 1 = 0 := by decide +kernel
theorem log_two : glog 2 = 1 := by decide +kernel
theorem alog_one : alog 1 = 2 := by decide +kernel

theorem alog_succ : ∀ i, i < 254 → alog (i + 1) = xtime (alog i) := by
  intro i hi
  have h : allBelow 254 (fun i => alog (i + 1) == xtime (alog i)) = true := by decide +kernel
  simpa using allBelow_spec h i hi

/-- x^255 = 1 -/
theorem xtime_alog_254 : xtime (alog 254) = 1 := by decide +kernel

theorem xtime_lt : ∀ a, a < 256 → xtime a < 256 := by
  intro a ha
  have h : allBelow 256 (fun a => decide (xtime a < 256)) = true := by decide +kernel
  simpa using allBelow_spec h a ha

theorem xtime_eq {p : Nat} (hp : p < 256) :
    xtime p = (p * 2) ^^^ (if p / 2 ^ 7 % 2 = 1 then 0x12D else 0) := by
  have hbit : p * 2 ≥ 256 ↔ p / 2 ^ 7 % 2 = 1 := by omega
  unfold xtime
  by_cases h : p / 2 ^ 7 % 2 = 1
  · rw [if_pos (hbit.mpr h), if_pos h]
  · rw [if_neg (mt hbit.mp h), if_neg h, Nat.xor_zero]

theorem xor_xor_cancel (a b k : Nat) : (a ^^^ k) ^^^ (b ^^^ k) = a ^^^ b := by
  rw [Nat.xor_comm b k, ← Nat.xor_assoc, Nat.xor_assoc a k k, Nat.xor_self, Nat.xor_zero]

/-- multiplication by x is XOR-linear: the shift is, and bit 7 of `a ^^^ b` is the XOR of the bits 7 -/
theorem xtime_lin {a b : Nat} (ha : a < 256) (hb : b < 256) : xtime (a ^^^ b) = xtime a ^^^ xtime b := by
  have hm : (a ^^^ b) * 2 = a * 2 ^^^ b * 2 := by
    simpa [Nat.shiftLeft_eq] using Nat.shiftLeft_xor_distrib (a := a) (b := b) (i := 1)
  have hbit : (a / 2 ^ 7 ^^^ b / 2 ^ 7) % 2 = 1 ↔ ¬(a / 2 ^ 7 % 2 = 1 ↔ b / 2 ^ 7 % 2 = 1) :=
    Nat.xor_mod_two_eq_one
  rw [xtime_eq ha, xtime_eq hb, xtime_eq (Nat.xor_lt_two_pow (n := 8) ha hb), hm, Nat.xor_div_two_pow]
  by_cases h1 : a / 2 ^ 7 % 2 = 1
  · by_cases h2 : b / 2 ^ 7 % 2 = 1
    · rw [if_neg (by rw [hbit]; simp [h1, h2]), if_pos h1, if_pos h2, Nat.xor_zero, xor_xor_cancel]
    · rw [if_pos (by rw [hbit]; simp [h1, h2]), if_pos h1, if_neg h2, Nat.xor_zero, Nat.xor_assoc,
        Nat.xor_comm (b * 2), ← Nat.xor_assoc]
  · by_cases h2 : b / 2 ^ 7 % 2 = 1
    · rw [if_pos (by rw [hbit]; simp [h1, h2]), if_neg h1, if_pos h2, Nat.xor_zero, Nat.xor_assoc]
    · rw [if_neg (by rw [hbit]; simp [h1, h2]), if_neg h1, if_neg h2, Nat.xor_zero, Nat.xor_zero, Nat.xor_zero]
theorem mul2_xtime : ∀ b, b < 256 → gmul 2 b = xtime b := by
  intro b hb
  have h : allBelow 256 (fun b => gmul 2 b == xtime b) = true := by decide +kernel
  simpa using allBelow_spec h b hb

end DM.Lemmas
