import DM.Lemmas.PlanRounds
import DM.Lemmas.PlanRunAscii
import DM.Lemmas.PlanRunB256
import DM.Lemmas.PlanRunX12
import DM.Lemmas.PlanRunEdi
import DM.Lemmas.PlanRunC40
/-!
# The history of a live plan

Every plan the optimiser keeps alive has a *history*: it is the start plan, or it was created by
`add_switches` from a plan with a history at a moment where `iteratePlans` calls `add_switches`
(`SwitchPoint`), and has been stepped over a number of characters since.  `Hist g0 p w m` says that
`g0` is such a freshly created plan ("segment start"): mode `m`, first character `p`, `w` codewords
accounted for (the latch of `m` included); its constructors carry exactly the facts `Couple.SwitchSeg`
consumes.  `optimize_final`: the plan `optimize` returns is (up to the dropped leading ASCII entry) the switch list
of a segment start stepped until the step that reports the end of the data (`Final`), and the cost is `ceil12` of
its cost.
Namespaces: `CoupleReach`, `CoupleGate`.
-/
namespace DM.Lemmas.CoupleReach
open DM.Model DM.Model.Plan DM.Model.Enc DM.Lemmas.PlanInv DM.Lemmas.PlanLoop DM.Lemmas.Couple DM.Lemmas.PlanRounds DM.Lemmas.PlanSwitch

/-- codewords `add_switches` accounts for the latch of the new mode (`cost_extra`) -/
def lcost (m : EMode) : Nat :=
  match m.latch with
  | none => 0
  | some _ => 1

theorem switchTargets_lcost : ∀ e ∈ switchTargets, e.2 = lcost e.1 := by decide

inductive Hist (body : List Nat) (list : List Sym) (W : Nat) : GPlan → Nat → Nat → EMode → Prop
  | start : Hist body list W (startPlan body list W) 0 W .ascii
  | first (m : EMode) : m ≠ .ascii →
      Hist body list W { extra := lcost m * 12, switches := [(body.length, m)],
                         plan := newPlan m (ctxAt body list 0 (W + lcost m)) } 0 (W + lcost m) m
  | switch {g0 gk : GPlan} {p w k ac : Nat} {m m' : EMode} {ctx' : Ctx} :
      Hist body list W g0 p w m → p + k < body.length → 1 ≤ k → StepsTo k g0 gk → SwitchPoint gk →
      gk.switchCost = some ac → gk.unlatch = .ok ctx' → m' ≠ m →
      Hist body list W
        { extra := ac + lcost m' * 12, switches := g0.switches ++ [(body.length - (p + k), m')],
          plan := newPlan m' (ctxAt body list (p + k) (ctx'.written + lcost m')) }
        (p + k) (ctx'.written + lcost m') m'

variable {body : List Nat} {list : List Sym} {W : Nat}

theorem hist_plan {g0 : GPlan} {p w : Nat} {m : EMode} (h : Hist body list W g0 p w m) :
    g0.plan = newPlan m (ctxAt body list p w) := by
  cases h <;> rfl

theorem hist_le {g0 : GPlan} {p w : Nat} {m : EMode} (h : Hist body list W g0 p w m) : p ≤ body.length := by
  cases h with
  | switch _ hlt => omega
  | _ => exact Nat.zero_le _

theorem hist_extra (hP : ∀ m, CoupleSeg.SwitchPlan m) {g0 : GPlan} {p w : Nat} {m : EMode}
    (h : Hist body list W g0 p w m) : g0.extra = 12 * (w - W) ∧ W ≤ w ∧ p ≤ 2 * (w - W) := by
  induction h with
  | start => exact ⟨by simp [startPlan], Nat.le_refl _, Nat.zero_le _⟩
  | first m hm => exact ⟨by simp only []; omega, by omega, Nat.zero_le _⟩
  | switch hh hlt hk hst hsp hsc hul _ ih =>
    obtain ⟨hac, hle, -, hrate⟩ := hP _ body list _ _ _ _ _ _ _ hlt (Or.inl hk) (hist_plan hh) hst hsp hsc hul
    simp only []
    omega

theorem hist_core {g0 : GPlan} {p w : Nat} {m : EMode} (h : Hist body list W g0 p w m) :
    Core body list p g0.plan ∧ g0.current = m := by
  have := newPlan_core (data := body) (list := list) (k := p) m (ctxAt body list p w) ⟨rfl, rfl, rfl⟩ (hist_le h)
  rw [← hist_plan h] at this
  exact this

theorem stepsTo_core (j p : Nat) (g0 g : GPlan) (hst : StepsTo j g0 g) (hc : Core body list p g0.plan) :
    Core body list (p + j) g.plan ∧ g.current = g0.current ∧ g.switches = g0.switches ∧ g.extra = g0.extra ∧
      p + j ≤ body.length := by
  have := (CoupleSeg.stepsTo_inv (I := fun _ _ => True) (fun _ _ _ _ _ _ _ _ _ => trivial) j 0 g0 g hc trivial hst).2
  rwa [Nat.zero_add] at this

theorem stepsTo_snoc : ∀ (j : Nat) (g0 g g' : GPlan) (r : StepResult), StepsTo j g0 g →
    g.step = .ok (some (g', r)) → r.end = false → StepsTo (j + 1) g0 g' := by
  intro j
  induction j with
  | zero =>
    intro g0 g g' r h hs hre
    cases h
    exact ⟨g', r, hs, hre, rfl⟩
  | succ j ih =>
    intro g0 g g' r h hs hre
    obtain ⟨g1, r1, hs1, hre1, hrest⟩ := h
    exact ⟨g1, r1, hs1, hre1, ih g1 g g' r hrest hs hre⟩

def Reach (body : List Nat) (list : List Sym) (W : Nat) (k : Nat) (g : GPlan) : Prop :=
  ∃ g0 p w m j, Hist body list W g0 p w m ∧ StepsTo j g0 g ∧ p + j = k ∧
    (1 ≤ j ∨ (k = 0 ∧ g = startPlan body list W))

def Final (body : List Nat) (list : List Sym) (W : Nat) (g : GPlan) : Prop :=
  ∃ g0 p w m j gk r, Hist body list W g0 p w m ∧ StepsTo j g0 gk ∧ p + j = body.length ∧ 1 ≤ j ∧
    gk.step = .ok (some (g, r)) ∧ r.end = true

theorem reach_core {k : Nat} {g : GPlan} (h : Reach body list W k g) : Core body list k g.plan := by
  obtain ⟨g0, p, w, m, j, hh, hst, hk, _⟩ := h
  have := (stepsTo_core j p g0 g hst (hist_core hh).1).1
  rw [hk] at this
  exact this

theorem ctx_write_eq {k : Nat} {c : Ctx} (h : CtxAt body list k c) (n : Nat) :
    c.write n = ctxAt body list k (c.written + n) := by
  obtain ⟨a, b, d⟩ := h
  cases c
  simp only [] at a b d
  subst a b d
  rfl

theorem child_reach {k modes ac : Nat} {g c : GPlan} {ctx : Ctx} {m' : EMode} (hg : Reach body list W k g)
    (hsp : k ≠ 0 → SwitchPoint g) (h : Child body list modes k g ac ctx m' c) : Reach body list W (k + 1) c := by
  obtain ⟨hk, _, hsc, hul, hctx, hne, _, ce, r, hm, hst, hre⟩ := h
  obtain rfl : ce = lcost m' := switchTargets_lcost (m', ce) hm
  refine ⟨_, k, ctx.written + lcost m', m', 1, ?_, ⟨c, r, hst, hre, rfl⟩, rfl, Or.inl (Nat.le_refl _)⟩
  obtain ⟨g0, p, w, m, j, hh, hst0, hpj, hj⟩ := hg
  unfold candOf
  rw [ctx_write_eq hctx]
  by_cases h0 : k = 0
  · subst h0
    obtain rfl : g = startPlan body list W := by
      rcases hj with hj | ⟨_, hj⟩
      · omega
      · exact hj
    have hac : ac = 0 := by
      simp only [startPlan, GPlan.switchCost, newPlan, ceil12] at hsc
      simpa using hsc.symm
    have hctx0 : ctx = ctxAt body list 0 W := by
      simp only [startPlan, GPlan.unlatch, newPlan] at hul
      simpa using hul.symm
    subst hac hctx0
    have := Hist.first (body := body) (list := list) (W := W) m' (fun h => hne (by rw [h]; rfl))
    simpa [ctxAt] using this
  · have hj1 : 1 ≤ j := hj.resolve_right fun h => h0 h.1
    obtain ⟨_, hcur, hsw, _, _⟩ := stepsTo_core j p g0 g hst0 (hist_core hh).1
    rw [show (k == 0) = false by simpa using h0, hsw]
    simp only [Bool.false_eq_true, ↓reduceIte]
    have := Hist.switch (m' := m') hh (by omega) hj1 hst0 (hsp h0) hsc hul
      (fun h => hne (by rw [hcur, (hist_core hh).2, h]))
    rwa [hpj] at this

theorem cands_reach {modes k : Nat} {plans cands live : List GPlan} (hI : ∀ g ∈ plans, Reach body list W k g)
    (R : Round body list modes k plans cands live) (hk : k < body.length) : ∀ c ∈ cands, Reach body list W (k + 1) c :=
  R.each hI
    (fun g g' r hg _ hs => by
      obtain ⟨g0, p, w, m, j, hh, hst, hpj, hj⟩ := hg
      have hre : r.end = false := by
        rw [(step_some_spec (reach_core ⟨g0, p, w, m, j, hh, hst, hpj, hj⟩) hs).2.2.2.2.1]; simp [hk]
      exact ⟨g0, p, w, m, j + 1, hh, stepsTo_snoc j g0 g g' r hst hs hre, by omega, Or.inl (by omega)⟩)
    (fun g _ _ _ c hg _ hsp hch => child_reach hg (fun _ => hsp) hch)

theorem round_reach {modes k : Nat} {plans cands live : List GPlan} (hpos : 0 < body.length)
    (hI : ∀ g ∈ plans, Reach body list W k g) (R : Round body list modes k plans cands live) :
    RoundGoal body W (fun k plans => ∀ g ∈ plans, Reach body list W k g)
      (fun p c => ∀ q, p = some q → ∃ best k', Final body list W best ∧ SwOK modes body.length k' best ∧
        q = finPlan W body.length (best.switches ++ [(0, best.current)]) ∧ c = ceil12 best.cost) k live where
  none := fun _ _ h => by cases h
  next := fun _ hk g hg => cands_reach hI R hk g (R.live_sub g hg)
  last := fun hk best hb q hq => by
    cases hq
    obtain rfl : k = body.length := by have := R.le; omega
    have hbc := R.live_sub best (pickBest_mem live best hb)
    refine ⟨best, _, ?_, (R.cands_live best hbc).2, rfl, rfl⟩
    obtain ⟨g, hg, ⟨r, hs⟩ | ⟨hsp, _⟩⟩ := R.origin best hbc
    · obtain ⟨g0, p, w, m, j, hh, hst, hpj, hj⟩ := hI g hg
      have hre : r.end = true := by rw [(step_some_spec (reach_core (hI g hg)) hs).2.2.2.2.1]; simp
      exact ⟨g0, p, w, m, j, g, r, hh, hst, hpj, hj.resolve_right (fun h => by omega), hs, hre⟩
    · exact absurd (switchPoint_allowed (reach_core (hI g hg)) hsp).2 (Nat.lt_irrefl _)

theorem optimize_final_live {modes : Nat} {perms : List (List Nat)} {o : Outcome} {plan : List (Nat × EMode)}
    (hne : body ≠ []) (h : optimize body W list modes perms = .ok o) (hp : o.plan = some plan) :
    ∃ best k', Final body list W best ∧ SwOK modes body.length k' best ∧
      plan = finPlan W body.length (best.switches ++ [(0, best.current)]) ∧ o.cost12 = ceil12 best.cost := by
  have hpos : 0 < body.length := List.length_pos_iff.mpr hne
  have hstart : Reach body list W 0 (startPlan body list W) :=
    ⟨_, 0, W, .ascii, 0, Hist.start, rfl, rfl, Or.inr ⟨rfl, rfl⟩⟩
  refine ((optimize_inv perms (fun _ _ _ _ => round_reach hpos) (fun _ g hg => ?_) (fun _ sw n hsw _ => ?_)).ok h).2.2
    plan hp
  · rw [List.mem_singleton.mp hg]; exact hstart
  · rw [show nxt body 0 = 1 by simp [nxt, hpos]]
    intro c hc
    obtain ⟨_, _, _, hch⟩ := child_of_mem (k := 0) (reach_core hstart) hpos hsw hc
    exact child_reach hstart (fun h => absurd rfl h) hch

theorem optimize_final {modes : Nat} {perms : List (List Nat)} {o : Outcome} {plan : List (Nat × EMode)}
    (hne : body ≠ []) (h : optimize body W list modes perms = .ok o) (hp : o.plan = some plan) :
    ∃ best, Final body list W best ∧ plan = finPlan W body.length (best.switches ++ [(0, best.current)]) ∧
      o.cost12 = ceil12 best.cost := by
  obtain ⟨best, _, h1, _, h2, h3⟩ := optimize_final_live hne h hp
  exact ⟨best, h1, h2, h3⟩

end DM.Lemmas.CoupleReach

namespace DM.Lemmas.CoupleGate
open DM.Model DM.Model.Plan DM.Model.Enc DM.Lemmas.CoupleReach

theorem switchPlan_all : ∀ m, CoupleSeg.SwitchPlan m
  | .ascii => CoupleAscii.switchPlan_ascii
  | .c40 => CoupleC40.switchPlan_cmode false
  | .text => CoupleC40.switchPlan_cmode true
  | .x12 => CoupleX12.switchPlan_x12
  | .edifact => CoupleEdi.switchPlan_edifact
  | .base256 => CoupleB256.switchPlan_base256

theorem endPlan_all : ∀ m, CoupleSeg.EndPlan m
  | .ascii => CoupleAscii.endPlan_ascii
  | .c40 => CoupleC40.endPlan_cmode false
  | .text => CoupleC40.endPlan_cmode true
  | .x12 => CoupleX12.endPlan_x12
  | .edifact => CoupleEdi.endPlan_edifact
  | .base256 => CoupleB256.endPlan_base256

variable {body : List Nat} {list : List Sym} {W : Nat}

theorem final_cost_ge {g : GPlan} (h : Final body list W g) : 6 * body.length ≤ g.cost := by
  obtain ⟨g0, p, w, m, j, gk, r, hh, hst, hpj, hj, hstep, hre⟩ := h
  have h1 := hist_extra switchPlan_all hh
  have h2 := endPlan_all m body list p w j g0 gk g r hpj hj (hist_plan hh) hst hstep hre
  omega

theorem optimize_cost_ge {modes : Nat} {perms : List (List Nat)} {o : Outcome} {plan : List (Nat × EMode)}
    (hne : body ≠ []) (h : optimize body W list modes perms = .ok o) (hp : o.plan = some plan) :
    6 * body.length ≤ o.cost12 ∧ o.cost12 % 12 = 0 := by
  obtain ⟨best, hfin, _, hc⟩ := optimize_final hne h hp
  have := final_cost_ge hfin
  have c1 := PlanStep.le_ceil12 best.cost
  rw [hc]
  exact ⟨by omega, PlanStep.ceil12_mod _⟩

end DM.Lemmas.CoupleGate
