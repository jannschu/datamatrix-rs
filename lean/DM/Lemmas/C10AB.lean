import DM.Lemmas.C10Pot
import DM.Lemmas.PlanPrune
import DM.Lemmas.C10Norm
/-!
ASCII and Base 256 plans under the potential "cost of finishing in ASCII" (used by
`DM/Props/C10Ascii.lean`, `C10Pot.phi`). Every live plan has an ASCII successor candidate of the same
potential (itself one step further, or its ASCII child), and whatever removes an ASCII candidate has at
most its potential (`inherit_phi`); for the latter the costs are needed modulo 12 (`C10Norm.NormG`).
-/
namespace DM.Lemmas.C10AB
open DM.Model DM.Model.Plan DM.Model.Enc DM.Lemmas DM.Lemmas.PlanInv DM.Lemmas.PlanLoop
open DM.Lemmas.PlanStep DM.Lemmas.PlanRounds DM.Lemmas.PlanSwitch DM.Lemmas.C10Pot DM.Lemmas.PlanPrune DM.Lemmas.C10Norm DM.Lemmas.AsciiSize

/-- inside a digit pair: the next character is a digit -/
theorem odd_phase {data : List Nat} {k da : Nat} (hl : da ≤ digitsFrom data k) (hodd : da % 2 = 1) :
    asciiSize (data.drop (k + 1)) ≤ asciiSize (data.drop k) ∧
    asciiSize (data.drop k) ≤ 1 + asciiSize (data.drop (k + 1)) := by
  have hpos : 0 < digitsFrom data k := by omega
  have hlt : k < data.length := Decidable.byContradiction fun h => by rw [digitsFrom_end h] at hpos; cases hpos
  have hd := (digitsFrom_pos hlt hpos).1
  have hg : data.getD k 0 = data[k] := by simp [List.getD, List.getElem?_eq_getElem hlt]
  rw [hg] at hd
  rw [List.drop_eq_getElem_cons hlt]
  refine ⟨asz_tail_le _ _, ?_⟩
  have := asz_cons_le data[k] (data.drop (k + 1))
  have h127 : data[k] ≤ 127 := by
    simp only [isDigit, Bool.and_eq_true, decide_eq_true_eq] at hd
    omega
  rw [if_pos h127] at this
  exact this

theorem ceil12_ge (x : Nat) : x ≤ ceil12 x := le_ceil12 x

/-- Of two ASCII plans at the same position the cheaper one has the smaller potential, although one of
them may be inside a digit pair: there the costs differ by 6 modulo 12, which pays for the half pair. -/
theorem finA_mono {data : List Nat} {k x y : Nat} {Pf Pc : AsciiP}
    (fl : Pf.digitsAhead ≤ digitsFrom data k) (cl : Pc.digitsAhead ≤ digitsFrom data k)
    (fn : (Pf.cost + 6 * Pf.digitsAhead) % 12 = 0) (cn : (Pc.cost + 6 * Pc.digitsAhead) % 12 = 0)
    (hx : x % 12 = 0) (hy : y % 12 = 0) (hle : x + Pf.cost ≤ y + Pc.cost) :
    x + finA data k Pf ≤ y + finA data k Pc := by
  unfold finA
  by_cases hfo : Pf.digitsAhead % 2 = 1 <;> by_cases hco : Pc.digitsAhead % 2 = 1
  · rw [if_pos hfo, if_pos hco]
    simp only [← Nat.add_assoc]
    exact Nat.add_le_add_right (Nat.add_le_add_right hle _) _
  · rw [if_pos hfo, if_neg hco]
    have := odd_phase fl hfo
    omega
  · rw [if_neg hfo, if_pos hco]
    have := odd_phase cl hco
    omega
  · rw [if_neg hfo, if_neg hco]
    simp only [← Nat.add_assoc]
    exact Nat.add_le_add_right hle _

def OK (data : List Nat) (list : List Sym) (k : Nat) (g : GPlan) : Prop :=
  NormG g ∧ Core data list k g.plan ∧ (g.current = .ascii ∨ g.current = .base256)

/-- A Base 256 plan counts as its ASCII child before the child's first step: cost = `switchCost`, no digits
announced. -/
theorem inherit_phi {data : List Nat} {list : List Sym} {k B : Nat} {cands : List GPlan}
    (hok : ∀ x ∈ cands, OK data list k x) : Inherit cands .ascii (fun g => phi data k g ≤ B) where
  same := by
    intro f hf c hc hq hca hfa hle
    obtain ⟨⟨fe, fn⟩, ⟨_, _, fl⟩, _⟩ := hok f hf
    obtain ⟨⟨ce, cn⟩, ⟨_, _, cl⟩, _⟩ := hok c hc
    obtain ⟨Pf, hpf⟩ := hfa ▸ plan_of_current f
    obtain ⟨Pc, hpc⟩ := hca ▸ plan_of_current c
    rw [hpf] at fn fl
    rw [hpc] at cn cl
    simp only [phi, hpf, hpc] at hq ⊢
    simp only [GPlan.cost, hpf, hpc] at hle
    exact Nat.le_trans (finA_mono fl cl fn cn fe ce hle) hq
  other := by
    intro f hf c hc hq hca hfa s hs hlt
    rw [costFor_ascii hfa] at hs
    obtain ⟨fn, _, fm⟩ := hok f hf
    obtain ⟨⟨ce, cn⟩, ⟨_, _, cl⟩, _⟩ := hok c hc
    obtain ⟨Pc, hpc⟩ := hca ▸ plan_of_current c
    obtain ⟨pf, hpf⟩ := fm.resolve_left hfa ▸ plan_of_current f
    have hsm : s % 12 = 0 := by
      have h2 := fn.2
      rw [hpf] at h2
      simp only [GPlan.switchCost, hpf, Option.some.injEq] at hs
      rw [← hs, Nat.add_mod, b256SwitchCost_mod h2, fn.1]
    rw [hpc] at cn cl
    simp only [phi, hpf, hpc, hs, Option.getD_some] at hq ⊢
    simp only [GPlan.cost, hpc] at hlt
    have := finA_mono (data := data) (k := k) (Pf := { ctx := Pc.ctx, digitsAhead := 0, cost := 0 })
      (Nat.zero_le _) cl rfl cn hsm ce (by simp only []; omega)
    rw [show finA data k { ctx := Pc.ctx, digitsAhead := 0, cost := 0 } = 12 * asciiSize (data.drop k) by
      simp [finA]] at this
    omega

theorem b256_not_unbeatable {g g' : GPlan} {r : StepResult} (hcur : g.current = .base256)
    (hs : g.step = .ok (some (g', r))) : r.unbeatable = false := by
  obtain ⟨p, hp⟩ := hcur ▸ plan_of_current g
  obtain ⟨_, _, p1, hs1, _⟩ := hp ▸ gstep_cases hs
  rw [b256Step_eq] at hs1
  split at hs1
  · cases hs1; rfl
  · split at hs1 <;> cases hs1
    rfl

theorem b256Cost_le (p : B256P) : b256Cost p ≤ b256SwitchCost p := by
  have h : p.cost ≤ b256SwitchCost p := by unfold b256SwitchCost; split <;> omega
  unfold b256Cost
  split
  · simp only []
    split
    · -- the second length codeword is charged: `written ≥ 250`, and leaving the mode charges it too
      rename_i hc
      unfold b256SwitchCost
      rw [if_pos hc.2]
      exact Nat.le_refl _
    · exact h
  · exact h

theorem succ_b256 {data : List Nat} {list : List Sym} {k modes s : Nat} {g c : GPlan} {ctx : Ctx}
    (hcur : g.current = .base256) (h : Child data list modes k g s ctx .ascii c) :
    phi data (k + 1) c = phi data k g := by
  obtain ⟨p, hp⟩ := hcur ▸ plan_of_current g
  obtain ⟨ce, r, hm, hst, he⟩ := h.step
  obtain rfl : ce = 0 := by revert hm; simp [switchTargets]
  obtain ⟨hx1, _, P1, hs1, hp1⟩ := gstep_cases hst
  have hf := finA_step (data := data) (list := list) (k := k) _ P1 r (ctxAt_write h.ctxAt 0) (Nat.zero_le _) hs1 he
  simp only [phi, hp, hp1, h.cost, Option.getD_some]
  rw [hx1, hf]
  simp [finA, candOf]

theorem end_cost {data : List Nat} {list : List Sym} {k B : Nat} {g g' : GPlan} {r : StepResult}
    (hcore : Core data list k g.plan) (hm : g.current = .ascii ∨ g.current = .base256) (hk : ¬ k < data.length)
    (hphi : phi data k g ≤ B)
    (hs : g.step = .ok (some (g', r))) : g'.cost ≤ B := by
  obtain ⟨hc, hk', hl⟩ := hcore
  have hdrop : data.drop k = [] := List.drop_eq_nil_of_le (by omega)
  rcases hm with hm | hm
  · have hn : nxt data k = k := nxt_end hk
    have ⟨h1, h2⟩ := phi_step_ascii ⟨hc, hk', hl⟩ hm hs
    have hcore' := (step_some_spec ⟨hc, hk', hl⟩ hs).2.2.2.1
    rw [hn] at h2 hcore'
    rw [← phi_end_ascii hcore' h1 hk, h2]
    exact hphi
  · obtain ⟨p, hp⟩ := hm ▸ plan_of_current g
    rw [hp] at hc
    simp only [pctx] at hc
    have hsc : g.switchCost = some (b256SwitchCost p + g.extra) := by simp [GPlan.switchCost, hp]
    simp only [phi, hp, hsc, Option.getD_some, hdrop, asciiSize] at hphi
    obtain ⟨hx1, _, p1, hs1, hp1⟩ := hp ▸ gstep_cases hs
    have hm' : p.ctx.hasMore = false := hasMore_end hc hk
    rw [b256Step_eq, if_pos hm'] at hs1
    cases hs1
    simp only [GPlan.cost, hp1, hx1]
    have := b256Cost_le p
    omega

/-- ASCII and Base 256 only: some live plan has potential at most `12 * n` (`n` = ASCII size of the data), and
so has its ASCII successor among the candidates, and so has whatever pruning keeps in its place; in the
last round the potential of a plan is its cost. -/
theorem round_ab {data : List Nat} {list : List Sym} {modes k n w : Nat} {plans cands live : List GPlan}
    (hasc : enabledMode modes .ascii = true)
    (honly : ∀ m, enabledMode modes m = true → m = .ascii ∨ m = .base256)
    (hnormc : k < data.length → ∀ c ∈ cands, NormG c) (hI : ∃ g ∈ plans, phi data k g ≤ 12 * n)
    (R : Round data list modes k plans cands live) :
    RoundGoal data w (fun k plans => ∃ g ∈ plans, phi data k g ≤ 12 * n) (fun _ c => c ≤ 12 * n) k live := by
  obtain ⟨g, hg, hphi⟩ := hI
  have hcore := (R.plans_live g hg).1
  have hmode := honly _ (R.plans_live g hg).2.1
  obtain ⟨perm, hr⟩ := R.pruned
  -- only an X12 plan inside a triple cannot be left
  obtain ⟨s, hsc⟩ : ∃ s, g.switchCost = some s := by
    cases h : g.switchCost with
    | some s => exact ⟨s, rfl⟩
    | none =>
      obtain ⟨p, hp, _⟩ := switchCost_none h
      rcases hmode with hm | hm <;> simp [GPlan.current, hp, PlanImpl.mode] at hm
  refine ⟨fun _ => Nat.zero_le _, ?_, ?_⟩
  · intro _ hlt
    have hn : nxt data k = k + 1 := nxt_lt hlt
    have hokc : ∀ c ∈ cands, OK data list (k + 1) c := by
      intro c hc
      have := R.cands_live c hc
      rw [hn] at this
      exact ⟨hnormc hlt c hc, this.1, honly _ this.2.1⟩
    have hsucc : ∃ c ∈ cands, c.current = .ascii ∧ phi data (k + 1) c ≤ 12 * n := by
      rcases R.leaves hasc hg hsc with ⟨_, hna, _, c, hc, hch⟩ | ⟨g', r, hst, hg', h4, _, hu⟩
      · have hm := hmode.resolve_left hna
        exact ⟨c, hc, hch.current, by rw [succ_b256 hm hch]; exact hphi⟩
      · -- the step of a Base 256 plan is never unbeatable
        have hm : g.current = .ascii := hmode.elim id fun hm => (hu hlt).resolve_right fun hu => by
          rw [b256_not_unbeatable hm hst] at hu; cases hu
        exact ⟨g', hg', by rw [h4]; exact hm, by rw [← hn, (phi_step_ascii hcore hm hst).2]; exact hphi⟩
    obtain ⟨c, hc, hca, hcphi⟩ := hsucc
    exact prune_inherit (inherit_phi hokc) hr c hc hcphi hca
  · intro hnk best hb
    rcases R.leaves hasc hg hsc with ⟨hlt, _⟩ | ⟨g', r, hs, hg', _⟩
    · exact absurd hlt hnk
    · have hcost := end_cost hcore hmode hnk hphi hs
      obtain ⟨c', hc', hle⟩ := prune_cheapest hr g' hg'
      exact Nat.le_trans (pickBest_min live best hb c' hc') (ceil12_le _ _ (by omega))

end DM.Lemmas.C10AB
