import DM.Lemmas.CoupleSeg
import DM.Lemmas.C40Count
import DM.Lemmas.EncStep
import DM.Lemmas.C40Table
/-!
# Coupling for C40 / Text: the encoder side

Both machines count values: after `N` values, `N / 3` triples are written (priced) and `N % 3` values are
buffered (`NV`, `Lemmas/C40Count.lean`); everything here is generic in the flag `text`.

Only lengths are tracked: `enc_run` and `enc_to_switch` follow `c40Loop` over a segment (`cw.length = w + 2 * (N / 3)`,
buffer `N % 3`), the `handleEnd_*` lemmas are `handle_end` by buffer size, and `handleEnd_end` sets it against the end
branches of `C40LikePlan::cost` (`endExtra`).
Namespace: `CoupleC40`.
-/
namespace DM.Lemmas.CoupleC40
open DM.Model DM.Model.Plan DM.Model.Enc DM.Lemmas.AsciiRT DM.Lemmas.PlanInv DM.Lemmas.Couple
open DM.Lemmas.CoupleSeg (Within Tail)

theorem toVals_len (text : Bool) (buf : List Nat) (b : Nat) (hb : b < 256) (hl : buf.length ≤ 2) :
    ∃ buf1, toVals text buf b = .ok buf1 ∧ buf1.length = buf.length + c40ValSize text b := by
  have hs := C40RT.c40Vals_size text b hb
  have := (valSize_bounds text b).2
  rw [C40RT.toVals_eq text buf b hb, List.length_append, hs, if_neg (by omega)]
  exact ⟨_, rfl, by rw [List.length_append, hs]⟩

theorem writeThree_eq (s : St) (a b c : Nat) :
    writeThree s a b c =
      { s with cw := s.cw ++ [(1600 * a + 40 * b + c + 1) % 65536 / 256, (1600 * a + 40 * b + c + 1) % 65536 % 256] } := by
  simp [writeThree, St.push]

theorem flush_len : ∀ (f : Nat) (s : St) (buf : List Nat), buf.length < 3 * f + 3 →
    ∃ cw' buf', cw'.length = s.cw.length + 2 * (buf.length / 3) ∧ buf'.length = buf.length % 3 ∧
      flushTriples f s buf = ({ s with cw := cw' }, buf') := by
  intro f
  induction f with
  | zero =>
    intro s buf hl
    exact ⟨s.cw, buf, by rw [Nat.div_eq_of_lt hl]; rfl, (Nat.mod_eq_of_lt hl).symm, rfl⟩
  | succ f ih =>
    intro s buf hl
    match buf, hl with
    | a :: b :: c :: t, hl =>
      obtain ⟨cw', buf', h1, h2, h3⟩ := ih (writeThree s a b c) t (by simp only [List.length_cons] at hl; omega)
      rw [writeThree_eq] at h1 h3
      refine ⟨cw', buf', ?_, ?_, by rw [flushTriples, writeThree_eq]; exact h3⟩
      · show cw'.length = s.cw.length + 2 * ((t.length + 3) / 3)
        rw [h1, List.length_append, Nat.add_div_right _ (by decide), Nat.mul_add, ← Nat.add_assoc, Nat.add_right_comm]
        rfl
      · show buf'.length = (t.length + 3) % 3
        rw [h2, Nat.add_mod_right]
    | [], _ => exact ⟨s.cw, [], rfl, rfl, rfl⟩
    | [_], _ => exact ⟨s.cw, _, by simp, by simp, rfl⟩
    | [_, _], _ => exact ⟨s.cw, _, by simp, by simp, rfl⟩

theorem loop_step (text : Bool) {body : List Nat} (hb : ByteList body) (f : Nat) (m : EMode)
    (plan : List (Nat × EMode)) (nm : Option Nat) (list : List Sym) (lastCh : Nat) {p d L : Nat} {cw buf : List Nat}
    (hpos : p + d < body.length) (hcw : cw.length = L + 2 * (NV text body p d / 3))
    (hbuf : buf.length = NV text body p d % 3) (hnd : ¬ DigitExit text body p d) :
    ∃ cw2 buf2, cw2.length = L + 2 * (NV text body p (d + 1) / 3) ∧ buf2.length = NV text body p (d + 1) % 3 ∧
      c40Loop text (f + 1) ⟨body, p + d, m, plan, nm, cw, list⟩ buf lastCh =
        match (⟨body, p + d + 1, m, plan, nm, cw2, list⟩ : St).maybeSwitch with
        | .error e => .error e
        | .ok (true, s3) => c40HandleEnd s3 body[p + d] buf2
        | .ok (false, s3) => c40Loop text f s3 buf2 body[p + d] := by
  have hb2 : buf.length ≤ 2 := by rw [hbuf]; exact Nat.le_of_lt_succ (Nat.mod_lt _ (by decide))
  obtain ⟨buf1, hv1, hv2⟩ := toVals_len text buf body[p + d] (hb _ (List.getElem_mem hpos)) hb2
  obtain ⟨cw2, buf2, f1, f2, f3⟩ := flush_len 3 ⟨body, p + d + 1, m, plan, nm, cw, list⟩ buf1
    (by rw [hv2]; exact Nat.lt_of_le_of_lt (Nat.add_le_add hb2 (valSize_bounds text _).2) (by decide))
  refine ⟨cw2, buf2, ?_, ?_, ?_⟩
  · rw [f1, hv2, hcw, hbuf, NV_succ text body p d hpos, div3_add (NV text body p d), Nat.mul_add, Nat.add_assoc]
  · rw [f2, hv2, hbuf, NV_succ text body p d hpos, Nat.mod_add_mod]
  have hr := EncStep.rest_cons ⟨body, p + d, m, plan, nm, cw, list⟩ hpos
  rw [EncStep.c40Loop_eq, hr]
  dsimp only
  rw [if_neg, hv1]
  · dsimp only
    rw [f3]
    rfl
  · intro hc
    have h2 : twoDigitsComing (body.drop (p + d)) = true := by
      rw [show body.drop (p + d) = St.rest ⟨body, p + d, m, plan, nm, cw, list⟩ from rfl, hr]
      exact hc.2.2
    refine hnd ⟨?_, h2, by rw [← hbuf, hc.1]; rfl⟩
    have := hc.2.1
    simp only [St.charsLeft] at this
    omega

theorem handleEnd_flush {body : List Nat} {pos : Nat} (m : EMode) (plan : List (Nat × EMode)) (nm : Option Nat)
    (cw : List Nat) (list : List Sym) (lastCh : Nat) (buf : List Nat) (hpos : pos < body.length)
    (hbuf : buf.length ≤ 2) :
    ∃ cw1, cw1.length = cw.length + (if buf.length = 0 then 0 else 2) ∧
      c40HandleEnd ⟨body, pos, m, plan, nm, cw, list⟩ lastCh buf =
        c40HandleEnd ⟨body, pos, m, plan, nm, cw1, list⟩ lastCh [] := by
  cases buf with
  | nil => exact ⟨cw, rfl, rfl⟩
  | cons a t =>
    have hm (c : List Nat) : (⟨body, pos, m, plan, nm, c, list⟩ : St).hasMore = true := by simp [St.hasMore, hpos]
    suffices h : ∃ x y, c40HandleEnd ⟨body, pos, m, plan, nm, cw, list⟩ lastCh (a :: t) =
        c40HandleEnd ⟨body, pos, m, plan, nm, cw ++ [x, y], list⟩ lastCh [] by
      obtain ⟨x, y, h⟩ := h
      exact ⟨cw ++ [x, y], by simp, h⟩
    apply Exists.intro
    apply Exists.intro
    -- with characters left both sides are `c40Unlatch` of the state behind the padded triple
    rw [EncStep.c40HandleEnd_eq, if_neg (Nat.not_lt.mpr hbuf), hm, if_pos rfl, EncStep.c40HandleEnd_eq,
      if_neg (by decide : ¬ ([] : List Nat).length > 2), hm, if_pos rfl]
    simp only [EncStep.c40Pad, writeThree_eq, reduceCtorEq, ↓reduceIte, Bool.false_eq_true]
    rfl

theorem encodeMode_c40 (text : Bool) (s : St) (hm : s.mode = cmode text) :
    encodeMode s = c40Loop text (s.charsLeft + 2) s [] 0 := by
  unfold encodeMode
  rw [hm]
  cases text <;> rfl

theorem enc_run (text : Bool) (body : List Nat) (hb : ByteList body) (at_ : Nat) (mm : EMode)
    (rest : List (Nat × EMode)) (list : List Sym) (p : Nat) (cw : List Nat) :
    ∀ d, p + d ≤ body.length → (at_ = 0 ∨ at_ < body.length - (p + d)) →
      (∀ j, j < d → ¬ DigitExit text body p j) →
      ∃ cw' buf', cw'.length = cw.length + 2 * (NV text body p d / 3) ∧ buf'.length = NV text body p d % 3 ∧
        encodeMode ⟨body, p, cmode text, (at_, mm) :: rest, none, cw, list⟩ =
          c40Loop text (body.length - (p + d) + 2) ⟨body, p + d, cmode text, (at_, mm) :: rest, none, cw', list⟩ buf'
            (if d = 0 then 0 else body.getD (p + d - 1) 0) := by
  intro d
  induction d with
  | zero =>
    intro _ _ _
    exact ⟨cw, [], by simp [NV_zero], by simp [NV_zero], encodeMode_c40 text _ rfl⟩
  | succ d ih =>
    intro hle hat hnd
    have hpos : p + d < body.length := hle
    have hfuel : body.length - (p + d) + 2 = body.length - (p + (d + 1)) + 2 + 1 := by omega
    obtain ⟨cw1, buf1, c1, b1, e1⟩ := ih (Nat.le_of_lt hpos) (by omega) (fun j hj => hnd j (Nat.lt_succ_of_lt hj))
    obtain ⟨cw2, buf2, c2, b2, e2⟩ := loop_step text hb (body.length - (p + (d + 1)) + 2) (cmode text)
      ((at_, mm) :: rest) none list (if d = 0 then 0 else body.getD (p + d - 1) 0) hpos c1 b1
      (hnd d (Nat.lt_succ_self d))
    refine ⟨cw2, buf2, c2, b2, ?_⟩
    rw [e1, hfuel, e2, EncStep.maybeSwitch_stay ⟨body, p + d + 1, cmode text, (at_, mm) :: rest, none, cw2, list⟩ at_ mm rest rfl hat]
    simp [List.getD, List.getElem?_eq_getElem hpos, Nat.add_assoc]

/-- the switch is planned between the two final digits, which start at a triple boundary: the encoder leaves the
loop before the first of them and goes to ASCII at once -/
def digitSplit (text : Bool) (body : List Nat) (p k : Nat) : Bool := decide (1 ≤ k ∧ DigitExit text body p (k - 1))

/-- the switch is planned right before the two final characters, which are digits: `handle_end` goes to ASCII for
good and may omit the UNLATCH -/
def digitTail (body : List Nat) (p k : Nat) : Bool :=
  decide (p + k + 2 = body.length ∧ twoDigitsComing (body.drop (p + k)) = true)

theorem enc_to_switch (text : Bool) (body : List Nat) (hb : ByteList body) (list : List Sym) (p k : Nat) (m' : EMode)
    (rest : List (Nat × EMode)) (cw : List Nat) (hk : 1 ≤ k) (hlt : p + k < body.length) (hne : m' ≠ cmode text)
    (hns : digitSplit text body p k = false) :
    ∃ cw', cw'.length = cw.length + 2 * (NV text body p k / 3) + (if NV text body p k % 3 = 0 then 0 else 2) ∧
      encodeMode ⟨body, p, cmode text, (body.length - (p + k), m') :: rest, none, cw, list⟩ =
        c40HandleEnd ⟨body, p + k, m', rest, m'.latch, cw', list⟩ (body.getD (p + k - 1) 0) [] := by
  obtain ⟨d, rfl⟩ : ∃ d, k = d + 1 := ⟨k - 1, by omega⟩
  have hpos : p + d < body.length := Nat.lt_of_succ_lt hlt
  have hat : 0 < body.length - (p + (d + 1)) := Nat.sub_pos_of_lt hlt
  rw [digitSplit, decide_eq_false_iff_not] at hns
  obtain ⟨cw1, buf1, c1, b1, e1⟩ := enc_run text body hb (body.length - (p + (d + 1))) m' rest list p cw
    d (Nat.le_of_lt hpos) (by omega) (fun j hj hde => by have := hde.1; omega)
  obtain ⟨cw2, buf2, c2, b2, e2⟩ := loop_step text hb (body.length - (p + d) + 1) (cmode text)
    ((body.length - (p + (d + 1)), m') :: rest) none list (if d = 0 then 0 else body.getD (p + d - 1) 0) hpos c1 b1
    (fun h => hns ⟨hk, h⟩)
  obtain ⟨cw3, c3, e3⟩ := handleEnd_flush m' rest m'.latch cw2 list (body.getD (p + (d + 1) - 1) 0) buf2 hlt
    (by rw [b2]; exact Nat.le_of_lt_succ (Nat.mod_lt _ (by decide)))
  refine ⟨cw3, by rw [c3, c2, b2], ?_⟩
  rw [e1, e2, CoupleSeg.maybeSwitch_go ⟨body, p + d + 1, cmode text, _ :: rest, none, cw2, list⟩ _ m' rest rfl rfl hat hne
    rfl, ← e3]
  simp only [show p + (d + 1) - 1 = p + d from rfl, List.getD, List.getElem?_eq_getElem hpos, Option.getD_some,
    Nat.add_assoc]

section
variable {body : List Nat} {pos : Nat} {m : EMode} {plan : List (Nat × EMode)} {nm : Option Nat} {cw : List Nat}
  {list : List Sym}

theorem loop_at_end {text : Bool} {f : Nat} {buf : List Nat} {lc : Nat} :
    c40Loop text (f + 1) ⟨body, body.length, m, plan, nm, cw, list⟩ buf lc =
      c40HandleEnd ⟨body, body.length, m, plan, nm, cw, list⟩ lc buf := by
  rw [EncStep.c40Loop_eq, EncStep.rest_nil _ (Nat.le_refl _)]

theorem loop_digit_exit {text : Bool} {f lc : Nat} (h1 : pos + 2 = body.length)
    (h2 : twoDigitsComing (body.drop pos) = true) :
    c40Loop text (f + 1) ⟨body, pos, m, plan, nm, cw, list⟩ [] lc =
      c40HandleEnd ⟨body, pos, m, plan, nm, cw, list⟩ lc [] := by
  have hr := EncStep.rest_cons ⟨body, pos, m, plan, nm, cw, list⟩ (show pos < body.length by omega)
  rw [EncStep.c40Loop_eq, hr]
  exact if_pos ⟨rfl, by simp only [St.charsLeft]; omega, hr ▸ h2⟩

end

theorem handleEnd_nil {body : List Nat} {pos : Nat} {m : EMode} {plan : List (Nat × EMode)} {nm : Option Nat}
    {cw : List Nat} {list : List Sym} {lastCh : Nat} (hpos : pos < body.length) :
    c40HandleEnd ⟨body, pos, m, plan, nm, cw, list⟩ lastCh [] =
      if pos + 2 = body.length ∧ twoDigitsComing (body.drop pos) = true then
        match szLeft list (cw.length + 1) with
        | none => .error .tooMuch
        | some sp => .ok ⟨body, pos, .ascii, [(0, .ascii)], nm, if sp ≥ 1 then cw ++ [254] else cw, list⟩
      else .ok ⟨body, pos, m, plan, nm, cw ++ [254], list⟩ := by
  have hm : (⟨body, pos, m, plan, nm, cw, list⟩ : St).hasMore = true := by simp [St.hasMore, hpos]
  rw [EncStep.c40HandleEnd_eq, if_neg (by decide : ¬ ([] : List Nat).length > 2), hm, if_pos rfl]
  simp only [EncStep.c40Unlatch, EncStep.c40Pad, ↓reduceIte, St.charsLeft, St.rest, EncStep.sizeLeftE_eq]
  rw [if_pos (show 0 < body.length - pos by omega)]
  by_cases h2 : pos + 2 = body.length ∧ twoDigitsComing (body.drop pos) = true
  · rw [if_pos h2, if_pos ⟨by omega, h2.2⟩]
    cases szLeft list (cw.length + 1) with
    | none => rfl
    | some sp => by_cases h : sp ≥ 1 <;> simp only [h, ↓reduceIte] <;> rfl
  · rw [if_neg h2, if_neg fun h => h2 ⟨by omega, h.2⟩]
    rfl

section
variable {body : List Nat} {list : List Sym} {L pred : Nat} {m : EMode} {plan : List (Nat × EMode)} {cw : List Nat}
  {lastCh : Nat}

theorem endOK_end (hL : L ≤ cw.length) (hfit : Fits list pred cw.length) :
    Within list pred (.ok ⟨body, body.length, m, plan, none, cw, list⟩) (Tail body list L pred) :=
  Or.inl ⟨_, rfl, rfl, rfl, Nat.le_refl _, rfl, fun h => by simp [St.hasMore] at h, hL,
    by simpa [St.rest, asciiSize] using hfit⟩

theorem endOK_ascii {pos : Nat} (hpos : pos ≤ body.length) (hL : L ≤ cw.length)
    (hfit : Fits list pred (cw.length + asciiSize (body.drop pos))) :
    Within list pred (.ok ⟨body, pos, .ascii, [(0, .ascii)], none, cw, list⟩) (Tail body list L pred) :=
  Or.inl ⟨_, rfl, rfl, rfl, hpos, rfl, fun _ => ⟨rfl, rfl⟩, hL, hfit⟩

theorem handleEnd_end_nil :
    c40HandleEnd ⟨body, body.length, m, plan, none, cw, list⟩ lastCh [] =
      match szLeft list cw.length with
      | none => .error .tooMuch
      | some left => .ok (if left > 0 then ⟨body, body.length, .ascii, [(0, .ascii)], none, cw ++ [254], list⟩
                          else ⟨body, body.length, m, plan, none, cw, list⟩) := by
  rw [EncStep.c40HandleEnd_eq]
  simp only [St.hasMore, Nat.lt_irrefl, decide_false, List.length_nil, gt_iff_lt, Nat.not_lt_zero, ↓reduceIte,
    Bool.false_eq_true, st_sizeLeft, Nat.add_zero, EncStep.c40Unlatch, EncStep.c40Pad, EncStep.sizeLeftE_eq, St.charsLeft,
    Nat.sub_self]
  cases szLeft list cw.length with
  | none => rfl
  | some left => by_cases h : 0 < left <;> simp [h, St.push, St.setAscii]

theorem endOK_nil (hL : L ≤ cw.length) (hp : cw.length ≤ pred) :
    Within list pred (c40HandleEnd ⟨body, body.length, m, plan, none, cw, list⟩ lastCh []) (Tail body list L pred) := by
  rw [handleEnd_end_nil]
  cases hsz : szLeft list cw.length with
  | none => exact Or.inr ⟨rfl, szLeft_none_mono hsz hp⟩
  | some left =>
    simp only []
    split
    · exact endOK_end (by simp; omega) (.of_room hsz hp (by simp; omega))
    · exact endOK_end hL (.of_le hp)

theorem handleEnd_end_two {a b : Nat} :
    c40HandleEnd ⟨body, body.length, m, plan, none, cw, list⟩ lastCh [a, b] =
      match szLeft list (cw.length + 2) with
      | none => .error .tooMuch
      | some sl =>
        if sl = 0 then .ok (writeThree ⟨body, body.length, m, plan, none, cw, list⟩ a b 0)
        else c40HandleEnd (writeThree ⟨body, body.length, .ascii, [(0, .ascii)], none, cw, list⟩ a b 1) lastCh [] := by
  -- both sides by evaluation: on the right `handle_end` with the empty buffer is `handleEnd_end_nil`, on the left the
  -- definition is followed through its early exits
  simp only [writeThree_eq, handleEnd_end_nil]
  rw [EncStep.c40HandleEnd_eq]
  simp only [St.hasMore, Nat.lt_irrefl, decide_false, List.length_cons, List.length_nil, Nat.zero_add, Nat.reduceAdd,
    gt_iff_lt, ↓reduceIte, Bool.false_eq_true, st_sizeLeft, EncStep.c40Unlatch, EncStep.c40Pad, writeThree_eq]
  cases szLeft list (cw.length + 2) with
  | none => rfl
  | some sl =>
    by_cases h : sl = 0
    · simp [h]
    · -- no early exit: the padded triple, ASCII until the end, then as for the empty buffer (room asked again)
      simp [h, St.setAscii, St.charsLeft, EncStep.sizeLeftE_eq]
      cases szLeft list (cw.length + 2) with
      | none => rfl
      | some left => by_cases hl : 0 < left <;> simp [hl, St.push]

theorem handleEnd_end_one {a : Nat} (hlen : 1 ≤ body.length) :
    c40HandleEnd ⟨body, body.length, m, plan, none, cw, list⟩ lastCh [a] =
      match szLeft list (cw.length + 1) with
      | none => .error .tooMuch
      | some sl =>
        if sl = 1 then .ok ⟨body, body.length - 1, .ascii, [(0, .ascii)], none, cw ++ [254], list⟩
        else if sl = 0 ∧ asciiSize [lastCh] = 1 then .ok ⟨body, body.length - 1, .ascii, [(0, .ascii)], none, cw, list⟩
        else c40HandleEnd (writeThree ⟨body, body.length, .ascii, [(0, .ascii)], none, cw, list⟩ a 1 30) lastCh [] := by
  simp only [writeThree_eq, handleEnd_end_nil]
  rw [EncStep.c40HandleEnd_eq]
  simp only [St.hasMore, Nat.lt_irrefl, decide_false, List.length_cons, List.length_nil, Nat.zero_add, gt_iff_lt,
    ↓reduceIte, Bool.false_eq_true, st_sizeLeft, EncStep.c40Unlatch, EncStep.c40Pad, writeThree_eq]
  cases szLeft list (cw.length + 1) with
  | none => rfl
  | some sl =>
    by_cases h1 : sl = 1
    · -- two codewords of room: UNLATCH, and the last character goes back to be encoded in ASCII
      simp [h1, St.setAscii, hlen]
    · by_cases h0 : sl = 0 ∧ asciiSize [lastCh] = 1
      · -- one codeword of room and the last character takes one: ASCII without UNLATCH
        simp [h0, St.setAscii, hlen]
      · simp [h1, h0, St.setAscii, St.charsLeft, EncStep.sizeLeftE_eq]
        cases szLeft list (cw.length + 2) with
        | none => rfl
        | some left => by_cases hl : 0 < left <;> simp [hl, St.push]

theorem handleEnd_end (body : List Nat) (m : EMode) (cw : List Nat) (list : List Sym) (lastCh : Nat) (buf : List Nat)
    (hbuf : buf.length ≤ 2) (hlen : 1 ≤ body.length) (hlast : lastCh = body.getD (body.length - 1) 0) :
    Within list (cw.length + endExtra list cw.length buf.length lastCh)
      (c40HandleEnd ⟨body, body.length, m, [(0, m)], none, cw, list⟩ lastCh buf)
      (Tail body list cw.length (cw.length + endExtra list cw.length buf.length lastCh)) := by
  have hasz : asciiSize [lastCh] = 1 ∨ asciiSize [lastCh] = 2 := by
    rw [AsciiSize.asciiSize_one]; split <;> simp
  have hrest : body.drop (body.length - 1) = [lastCh] := by
    rw [List.drop_eq_getElem_cons (by omega), hlast, List.drop_eq_nil_of_le (by omega)]
    simp [List.getD, List.getElem?_eq_getElem (show body.length - 1 < body.length by omega)]
  match buf, hbuf with
  | [], _ => exact endOK_nil (Nat.le_refl _) (Nat.le_add_right _ _)
  | [a], _ =>
    rw [handleEnd_end_one hlen]
    simp only [endExtra, List.length_cons, List.length_nil, Nat.zero_add, (by decide : ¬ (1 : Nat) = 2), ↓reduceIte]
    cases hsz : szLeft list (cw.length + 1) with
    | none =>
      refine Or.inr ⟨rfl, szLeft_none_mono hsz ?_⟩
      simp only [Option.getD_none, ↓reduceIte]
      split <;> omega
    | some sl =>
      simp only [Option.getD_some]
      by_cases h1 : sl = 1
      · rw [if_pos h1, if_neg (by omega)]
        exact endOK_ascii (Nat.sub_le _ _) (by simp) (.of_le (by simp [hrest]; omega))
      · rw [if_neg h1]
        by_cases h0 : sl = 0 ∧ asciiSize [lastCh] = 1
        · rw [if_pos h0, if_pos h0.1, if_pos h0.2]
          exact endOK_ascii (Nat.sub_le _ _) (Nat.le_refl _) (.of_le (by rw [hrest]; omega))
        · rw [if_neg h0, writeThree_eq]
          refine endOK_nil (by simp) ?_
          simp only [List.length_append, List.length_cons, List.length_nil]
          by_cases hz : sl = 0
          · rw [if_pos hz, if_neg fun h => h0 ⟨hz, h⟩]; omega
          · rw [if_neg hz]; omega
  | [a, b], _ =>
    rw [handleEnd_end_two]
    simp only [endExtra, List.length_cons, List.length_nil, Nat.zero_add, Nat.reduceAdd, ↓reduceIte]
    cases hsz : szLeft list (cw.length + 2) with
    | none =>
      exact Or.inr ⟨rfl, szLeft_none_mono hsz (by simp only [Option.getD_none, ↓reduceIte]; omega)⟩
    | some sl =>
      simp only [Option.getD_some]
      by_cases h0 : sl = 0
      · rw [if_pos h0, if_pos h0, writeThree_eq]
        exact endOK_end (by simp) (.of_le (by simp))
      · rw [if_neg h0, if_neg h0, writeThree_eq]
        exact endOK_nil (by simp) (by simp)

/-- at the two-digit exit the encoder fits whatever holds the codewords written and the UNLATCH: the two digits
take its place if the symbol is full -/
theorem endOK_digits {pos : Nat} (hpos : pos + 2 = body.length) (h2 : twoDigitsComing (body.drop pos) = true)
    (hL : L ≤ cw.length) (hp : cw.length + 1 ≤ pred) :
    Within list pred (c40HandleEnd ⟨body, pos, m, plan, none, cw, list⟩ lastCh []) (Tail body list L pred) := by
  have hlt : pos < body.length := by omega
  have hrest : asciiSize (body.drop pos) = 1 := by
    have hd := h2
    rw [List.drop_eq_getElem_cons hlt, List.drop_eq_getElem_cons (show pos + 1 < body.length by omega),
      List.drop_eq_nil_of_le (by omega)] at hd ⊢
    simp only [twoDigitsComing] at hd
    simp [asciiSize, hd]
  rw [handleEnd_nil hlt, if_pos ⟨hpos, h2⟩]
  cases hsz : szLeft list (cw.length + 1) with
  | none => exact Or.inr ⟨rfl, szLeft_none_mono hsz hp⟩
  | some sp =>
    refine endOK_ascii (by omega) ?_ (.of_room hsz hp ?_)
    · split
      · rw [List.length_append]; omega
      · exact hL
    · rw [hrest]
      split
      · rw [List.length_append, List.length_singleton]; omega
      · omega

end

end DM.Lemmas.CoupleC40
