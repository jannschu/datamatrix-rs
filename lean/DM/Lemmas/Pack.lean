import DM.Lemmas.Blocks
/-
Positional arithmetic behind the packed modes: the three base-40 values that
C40 / Text / X12 put into two codewords (`packed`), two bit fields in one codeword as EDIFACT has them (`field`, and
`byte_or` for the encoder's `|`). About variables: the callers put in 40, 4, 16, 64.
-/
namespace DM.Lemmas.Pack

theorem digits3 (m a b c : Nat) (hb : b < m) (hc : c < m) :
    ((a * m + b) * m + c) / (m * m) = a ∧ ((a * m + b) * m + c) / m % m = b ∧
    ((a * m + b) * m + c) % (m * m) / m = b ∧ ((a * m + b) * m + c) % m = c := by
  obtain ⟨d1, r1⟩ := div_mod_block (a * m + b) hc
  obtain ⟨d2, r2⟩ := div_mod_block a hb
  refine ⟨by rw [← Nat.div_div_eq_div_mul, d1, d2], by rw [d1, r2], ?_, r1⟩
  rw [Nat.mod_mul_right_div_self, d1, r2]

/-- the 16-bit value written for three values below 40 is `v + 1`, where `v` has them as its base-40 digits: the
crate's decoder reads the middle one as `% 1600 / 40`, the reference decoder as `/ 40 % 40` -/
theorem packed (a b c : Nat) (ha : a < 40) (hb : b < 40) (hc : c < 40) :
    ∃ v, 1600 * a + 40 * b + c + 1 = v + 1 ∧ v < 64000 ∧
      v / 1600 = a ∧ v / 40 % 40 = b ∧ v % 1600 / 40 = b ∧ v % 40 = c :=
  ⟨(a * 40 + b) * 40 + c, by omega, by omega, digits3 40 a b c hb hc⟩

theorem field (m a b : Nat) (hb : b < m) (hab : a * m + b < 256) :
    (a * m + b) % 256 / m = a ∧ (a * m + b) % 256 % m = b := by
  rw [Nat.mod_eq_of_lt hab]
  exact div_mod_block a hb

theorem byte_or (k a b : Nat) (hk : k ≤ 8) (hb : b < 2 ^ k) :
    (a * 2 ^ k) % 256 ||| b = (a % 2 ^ (8 - k) * 2 ^ k + b) % 256 := by
  have h256 : 256 = 2 ^ (8 - k) * 2 ^ k := by rw [← Nat.pow_add, Nat.sub_add_cancel hk]
  have hlt : a % 2 ^ (8 - k) * 2 ^ k + b < 2 ^ (8 - k) * 2 ^ k :=
    Nat.lt_of_lt_of_le (Nat.add_lt_add_left hb _)
      (by rw [← Nat.succ_mul]; exact Nat.mul_le_mul_right _ (Nat.mod_lt _ (Nat.two_pow_pos _)))
  rw [h256, Nat.mul_mod_mul_right, ← Nat.shiftLeft_eq, ← Nat.shiftLeft_add_eq_or_of_lt hb, Nat.shiftLeft_eq,
    Nat.mod_eq_of_lt hlt]

end DM.Lemmas.Pack
