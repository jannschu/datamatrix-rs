import DM.Lemmas.SpecX12Gen
import DM.Lemmas.SpecPureSeg
/-
The pure X12 plan against the reference decoder (continues `SpecX12`, same namespace): what the encoder writes
(`run_x12_shape`: latch, triples, UNLATCH or not, ASCII rest, padding; over `x12Encode_genP` and `SpecPure.pure_seg_shape`) and
the decoder's run on it with the stream read as one of three endings (`x12_core`, over `SpecPure.spec_run_seg`).
-/
namespace DM.Lemmas.SpecX12
open DM.Model DM.Lemmas DM.Lemmas.AsciiRT DM.Lemmas.SpecStep DM.Lemmas.SpecAscii DM.Spec.Stream
open DM.Spec.Build (packTriples x12Val)
open DM.Lemmas.Complete (X12Native packTriples_length filterMap_native_length)
open DM.Lemmas.EncRT DM.Lemmas.MainRT DM.Lemmas.X12RT

theorem run_x12_shape (list : List Sym) (pre body cw : List Nat) (sym : Sym) (hne : body ≠ [])
    (h : Enc.run list pre body [(body.length, .x12), (0, .x12)] = .ok (cw, sym)) :
    ∃ n un L, 3 * n ≤ body.length ∧ body.length < 3 * n + 3 ∧ X12Native (body.take (3 * n)) ∧ cw.length = dataCw sym ∧
      L = pre.length + 1 + 2 * n + (if un then 1 else 0) + (asciiEnc (body.drop (3 * n))).length ∧
      cw.take L = pre ++ 238 :: packTriples ((body.take (3 * n)).filterMap x12Val) ++ (if un then [254] else []) ++
        asciiEnc (body.drop (3 * n)) ∧
      (un = false → L = dataCw sym ∧ (asciiEnc (body.drop (3 * n))).length ≤ 1) ∧ Pads.Padded cw L := by
  obtain ⟨s3, sE, k, he2, hm2, hsym, hpad⟩ := SpecPure.pure_run_start list pre body cw sym .x12 238 hne rfl h
  have henc : Enc.x12Encode (SpecPure.entered list pre body .x12 238) = .ok s3 := he2
  obtain ⟨hnear, hnm3, hkey⟩ := x12Encode_stay (by simp [SpecPure.entered]) henc
  obtain ⟨X, p, un, L, ⟨n, hbl, hnat, rfl⟩, hpos3, hp, hL, hsize, htake, hfull, hpd⟩ :=
    SpecPure.pure_seg_shape
      (x12Encode_genP (fun X b => ∃ n, b.length = 3 * n ∧ X12Native b ∧ X = packTriples (b.filterMap x12Val))
        (fun n b hl hn => ⟨n, hl, hn, rfl⟩) list body 0 pre _ s3 rfl rfl rfl (Nat.zero_le _) rfl rfl
        (C40Gen.planOKE_zero body .x12 _ (by simp [SpecPure.entered])) henc)
      hnm3 (fun hA => (hkey.resolve_right fun hx => by rw [hx.1] at hA; cases hA).2) hm2 hsym hpad
  obtain rfl : p = 3 * n := by rw [← hbl, List.length_take]; omega
  rw [hpos3] at hnear
  rw [packTriples_length n _ (by rw [filterMap_native_length _ hnat, hbl])] at hL
  exact ⟨n, un, L, hp, hnear, hnat, hsize, hL, htake, hfull, hpd⟩

inductive X12Ending | exact | single | unlatch
  deriving DecidableEq, Repr

theorem x12_core (list : List Sym) (pre body cw : List Nat) (sym : Sym) (hb : ByteList body) (hne : body ≠ [])
    (h : Enc.run list pre body [(body.length, .x12), (0, .x12)] = .ok (cw, sym)) :
    ∃ (sF : DM.Spec.Stream.St) (e : X12Ending) (T rest : List Nat),
      DM.Spec.Stream.run cw.toArray (3 * cw.length + 4) { i := pre.length } = .ok sF ∧ sF.out = body.toArray ∧
      sF.trace = Array.replicate (3 * (body.length / 3)) .x12 ++ Array.replicate (body.length % 3) .ascii ∧
      sF.latches = #[(pre.length, .x12)] ∧ sF.ecis = #[] ∧
      X12Native (body.take (3 * (body.length / 3))) ∧ cw.length = dataCw sym ∧
      T = pre ++ [238] ++ packTriples ((body.take (3 * (body.length / 3))).filterMap x12Val) ∧
      T.length = pre.length + 1 + 2 * (body.length / 3) ∧ rest = asciiEnc (body.drop (3 * (body.length / 3))) ∧
      ((e = .exact ∧ body.length % 3 = 0 ∧ cw = T ∧ sF.padAt = none) ∨
       (e = .single ∧ rest.length = 1 ∧ cw = T ++ rest ∧ sF.padAt = none) ∨
       (e = .unlatch ∧ cw.take (T.length + 1 + rest.length) = T ++ [254] ++ rest ∧
          T.length + 1 + rest.length ≤ dataCw sym ∧
          sF.padAt = (if T.length + 1 + rest.length = dataCw sym then none else some (T.length + 1 + rest.length)))) ∧
      ∃ Y, cw = T ++ Y := by
  obtain ⟨n, un, L, hn1, hn2, hnat, hlen, hL, htake, hun, hpd⟩ := run_x12_shape list pre body cw sym hne h
  have hLle := hpd.le
  obtain rfl : n = body.length / 3 := by omega
  have hbl : (body.take (3 * (body.length / 3))).length = 3 * (body.length / 3) := by rw [List.length_take]; omega
  have hPl := packTriples_length (body.length / 3) _ (by rw [filterMap_native_length _ hnat, hbl])
  rw [← hlen] at hun
  obtain ⟨sF, hrun, ho, ht, hl, he, hpa⟩ := SpecPure.spec_run_seg (Q := SpecSegX12) .x12 238 X12Tail (fun _ _ => .unlatch)
    (fun _ _ c hc hsz => .single c hc hsz) (fun _ _ hsz => .exact hsz) (fun hseg => dec_x12 hseg) hb
    (specSegX12_pack _ _ hbl hnat) hn1 (by rw [hPl]; exact hL) htake hun hpd
  obtain ⟨T, hT⟩ : ∃ T, T = pre ++ [238] ++ packTriples ((body.take (3 * (body.length / 3))).filterMap x12Val) := ⟨_, rfl⟩
  have hT' : pre ++ 238 :: packTriples ((body.take (3 * (body.length / 3))).filterMap x12Val) = T := by rw [hT]; simp
  have hTl : T.length = pre.length + 1 + 2 * (body.length / 3) := by
    rw [← hT']; simp only [List.length_append, List.length_cons, hPl]; omega
  rw [hT'] at htake
  have hmod : body.length - 3 * (body.length / 3) = body.length % 3 := by omega
  rw [hmod] at ht
  have hY : cw = cw.take L ++ cw.drop L := (List.take_append_drop _ _).symm
  refine ⟨sF, if un then .unlatch else if (asciiEnc (body.drop (3 * (body.length / 3)))).length = 0 then .exact else .single,
    T, _, hrun, ho, ht, hl, he, hnat, hlen, hT, hTl, rfl, ?_, ?_⟩
  · cases un with
    | true =>
      have hL' : T.length + 1 + (asciiEnc (body.drop (3 * (body.length / 3)))).length = L := by
        rw [hL, hTl]; simp only [↓reduceIte]
      rw [hL', ← hlen]
      exact Or.inr (Or.inr ⟨rfl, htake, hLle, hpa⟩)
    | false =>
      obtain ⟨hLc, h1⟩ := hun rfl
      rw [hLc, List.take_length] at htake
      simp only [Bool.false_eq_true, ↓reduceIte, List.append_nil] at htake ⊢
      rw [if_pos hLc] at hpa
      by_cases h0 : (asciiEnc (body.drop (3 * (body.length / 3)))).length = 0
      · have hnil := AsciiSize.asciiSize_zero _ (asciiEnc_size _ ▸ h0)
        have := congrArg List.length hnil
        simp only [List.length_drop, List.length_nil] at this
        rw [if_pos h0]
        exact Or.inl ⟨rfl, by omega, by rw [htake, hnil]; simp [asciiEnc], hpa⟩
      · rw [if_neg h0]
        exact Or.inr (Or.inl ⟨rfl, by omega, htake, hpa⟩)
  · rw [htake, List.append_assoc, List.append_assoc] at hY
    exact ⟨_, hY⟩

end DM.Lemmas.SpecX12
