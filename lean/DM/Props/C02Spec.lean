import DM.Lemmas.SpecAsciiPure
import DM.Lemmas.SpecB256Pure
import DM.Lemmas.SpecFuel
import DM.Lemmas.TestSymbols
/-!
# C02 — conformant output, against the reference decoder

The round trip through the *independent* decoder `DM.Spec.Stream.decode` (written from the
encodation rules of ISO/IEC 16022 §5.2, not from the crate) for a message planned entirely in ASCII
(`ascii_hdr`, instances `spec_ascii_roundtrip*`) or in Base 256 (`b256_hdr`, instances `spec_b256_roundtrip`, `_header`),
bare or behind the header codewords FNC1 (232) and Macro 05 / 06 (236 / 237); `spec_decode_finished`: the
reference decoder's fuel always suffices.
`run_eq_of_check`, `run30_eq_of_check`: how the test vectors of this and the other `C02Spec*` files let the kernel
run the encoder model (the symbol list of the examples is evaluated once, `symbols30`).
-/
namespace DM.Props.C02Spec
open DM.Model DM.Lemmas DM.Lemmas.AsciiRT DM.Lemmas.SpecStep DM.Lemmas.SpecAscii DM.Lemmas.MainRT
open DM.Lemmas.SpecB256 DM.Lemmas.Complete
open DM.Spec.Stream (decode Decoded macroHead macroTrail unrand253)

theorem run_eq_of_check {r : Enc.R (List Nat × Sym)} {cw : List Nat} {sym : Sym}
    (h : (match r with | .ok (c, s) => c == cw && s == sym | .error _ => false) = true) : r = .ok (cw, sym) := by
  match r, h with
  | .ok (c, s), h =>
    simp only [Bool.and_eq_true, beq_iff_eq] at h
    rw [h.1, h.2]

theorem run30_eq_of_check {pre body cw : List Nat} {plan : List (Nat × Enc.EMode)} {sym : Sym}
    (h : (match Enc.run (List.range 30) pre body plan with | .ok (c, s) => c == cw && s == sym | .error _ => false) = true) :
    Enc.run (symbolList (List.range 30)) pre body plan = .ok (cw, sym) := by
  rw [symbols30]
  exact run_eq_of_check h

/-- the two forms of the pure ASCII plan: "ASCII until the end", and the planner's form -/
def AsciiPlan (body : List Nat) (plan : List (Nat × Enc.EMode)) : Prop :=
  plan = [(0, .ascii)] ∨ plan = [(body.length, .ascii), (0, .ascii)]

theorem ascii_core (list : List Sym) (pre body cw : List Nat) (sym : Sym) (plan : List (Nat × Enc.EMode))
    (hplan : AsciiPlan body plan) (hb : ∀ b ∈ body, b < 256) (h : Enc.run list pre body plan = .ok (cw, sym)) :
    cw.length = dataCw sym ∧ cw.take (pre.length + (asciiEnc body).length) = pre ++ asciiEnc body ∧
    Pads.Padded cw (pre.length + (asciiEnc body).length) ∧
    DM.Spec.Stream.run cw.toArray (3 * cw.length + 4) { i := pre.length } =
      .ok (asciiFinal cw.length body
        (if pre.length + (asciiEnc body).length = dataCw sym then none else some (pre.length + (asciiEnc body).length))) := by
  obtain ⟨sE', hmain, hsym, hpad⟩ := EncRT.run_unfoldP list pre body cw plan sym h
  obtain ⟨hcw, hmode⟩ := mainLoop_asciiP list pre body plan hplan _ sE' hmain
  have hle := DM.Lemmas.SymbolList.fbe_some_ge list _ sym hsym
  have hL : sE'.cw.length = pre.length + (asciiEnc body).length := by rw [hcw]; simp
  obtain ⟨hlen, htake, hpd⟩ := SpecPure.pad_shape sE'.cw cw _ (dataCw sym) hle (Or.inl (by rw [hmode]; decide)) hpad
  rw [hL] at htake hpd
  rw [hcw] at htake
  exact ⟨hlen, htake, hpd, by rw [spec_run_ascii cw pre body hb _ rfl htake hpd, hlen]⟩

/-- **ASCII round trip through the reference decoder, behind each header** (`pre` = none, FNC1, Macro 05,
Macro 06): the statements below are its four instances. -/
theorem ascii_hdr (list : List Sym) (pre body cw : List Nat) (sym : Sym) (plan : List (Nat × Enc.EMode))
    (hpre : pre = [] ∨ pre = [232] ∨ pre = [236] ∨ pre = [237])
    (hplan : AsciiPlan body plan) (hb : ∀ b ∈ body, b < 256) (h : Enc.run list pre body plan = .ok (cw, sym)) :
    ∃ d, decode cw = .ok d ∧
      d.bytes = (if macOf pre = 0 then body else macroHead (macOf pre) ++ body ++ macroTrail) ∧ d.body = body ∧
      d.fnc1 = (pre == [232]) ∧ d.macro = macOf pre ∧ d.ecis = [] ∧
      d.latches = [] ∧ d.trace = List.replicate body.length .ascii ∧ (∀ m ∈ d.trace, m = .ascii) ∧
      cw.length = dataCw sym ∧ cw.take (pre.length + (asciiEnc body).length) = pre ++ asciiEnc body ∧
      d.padAt = (if pre.length + (asciiEnc body).length = dataCw sym then none
        else some (pre.length + (asciiEnc body).length)) := by
  obtain ⟨hlen, htake, hpd, hrun⟩ := ascii_core list pre body cw sym plan hplan hb h
  obtain ⟨hpfx, hhd⟩ := pfx_headOK htake (fun c hc => by have := asciiEnc_head body hb c hc; omega) hpd
  refine ⟨_, decode_behind pre cw _ hpre hpfx (fun hp => by subst hp; exact hhd) hrun, ?_, ?_, rfl, rfl, rfl, rfl, ?_, ?_, hlen, htake, rfl⟩
  · simp [mkDecoded, asciiFinal]
  · simp [mkDecoded, asciiFinal]
  · simp [mkDecoded, asciiFinal]
  · intro m hm
    simp [mkDecoded, asciiFinal] at hm
    exact hm.2

/-- **ASCII round trip through the reference decoder.** For the pure ASCII plan (in either form),
every message of bytes and every symbol list: whatever the encoder returns, the reference decoder
accepts; it reads the message, all of it carried by ASCII encodation, without latch, ECI, FNC1 or
Macro; the stream is `asciiEnc body` followed by padding that fills the symbol, and the decoder
meets the first pad codeword exactly where the encoder's own codewords end (`none` when they fill
the symbol). -/
theorem spec_ascii_roundtrip (list : List Sym) (body cw : List Nat) (sym : Sym) (plan : List (Nat × Enc.EMode))
    (hplan : AsciiPlan body plan) (hb : ∀ b ∈ body, b < 256) (h : Enc.run list [] body plan = .ok (cw, sym)) :
    ∃ d, decode cw = .ok d ∧ d.bytes = body ∧ d.body = body ∧ d.fnc1 = false ∧ d.macro = 0 ∧ d.ecis = [] ∧
      d.latches = [] ∧ d.trace = List.replicate body.length .ascii ∧ (∀ m ∈ d.trace, m = .ascii) ∧
      cw.length = dataCw sym ∧ cw.take (asciiEnc body).length = asciiEnc body ∧
      d.padAt = (if (asciiEnc body).length = dataCw sym then none else some (asciiEnc body).length) := by
  obtain ⟨d, h1, h2, h3, h4, h5, h6, h7, h8, h9, h10, h11, h12⟩ := ascii_hdr list [] body cw sym plan (Or.inl rfl) hplan hb h
  rw [List.length_nil, Nat.zero_add] at h11 h12
  exact ⟨d, h1, h2, h3, h4, h5, h6, h7, h8, h9, h10, h11, h12⟩

/-- Non-vacuity: "A1234é" fills the 5-codeword symbol exactly (planner's form of the plan), "A1234éé"
needs padding; the kernel also runs the reference decoder on the second stream: it returns the
message and meets the first pad at codeword 7. -/
example : Enc.run (symbolList (List.range 30)) [] [65, 49, 50, 51, 52, 233] [(6, .ascii), (0, .ascii)] =
    .ok ([66, 142, 164, 235, 106], 1) := run30_eq_of_check (by decide +kernel)
theorem run_padded : Enc.run (symbolList (List.range 30)) [] [65, 49, 50, 51, 52, 233, 233] [(0, .ascii)] =
    .ok ([66, 142, 164, 235, 106, 235, 106, 129], 3) := run30_eq_of_check (by decide +kernel)
example : Enc.run (symbolList (List.range 30)) [] [65, 49, 50, 51, 52, 233, 233] [(0, .ascii)] =
    .ok ([66, 142, 164, 235, 106, 235, 106, 129], 3) := run_padded
example : (decode [66, 142, 164, 235, 106, 235, 106, 129]).toOption.map (fun d => (d.body, d.padAt, d.latches)) =
    some ([65, 49, 50, 51, 52, 233, 233], some 7, []) := by decide +kernel

/-- … and the theorem applied to that run. -/
example : ∃ d, decode [66, 142, 164, 235, 106, 235, 106, 129] = .ok d ∧ d.body = [65, 49, 50, 51, 52, 233, 233] ∧
    d.padAt = some 7 := by
  obtain ⟨d, h1, _, h3, _, _, _, _, _, _, _, _, h12⟩ :=
    spec_ascii_roundtrip (symbolList (List.range 30)) [65, 49, 50, 51, 52, 233, 233] _ _ _ (Or.inl rfl) (by decide)
      run_padded
  exact ⟨d, h1, h3, by rw [h12]; decide +kernel⟩

/-- **The same behind FNC1** (GS1: first codeword 232). -/
theorem spec_ascii_roundtrip_fnc1 (list : List Sym) (body cw : List Nat) (sym : Sym) (plan : List (Nat × Enc.EMode))
    (hplan : AsciiPlan body plan) (hb : ∀ b ∈ body, b < 256) (h : Enc.run list [232] body plan = .ok (cw, sym)) :
    ∃ d, decode cw = .ok d ∧ d.bytes = body ∧ d.body = body ∧ d.fnc1 = true ∧ d.macro = 0 ∧ d.ecis = [] ∧
      d.latches = [] ∧ d.trace = List.replicate body.length .ascii ∧ (∀ m ∈ d.trace, m = .ascii) ∧
      cw.length = dataCw sym ∧ cw.take (1 + (asciiEnc body).length) = 232 :: asciiEnc body ∧
      d.padAt = (if 1 + (asciiEnc body).length = dataCw sym then none else some (1 + (asciiEnc body).length)) := by
  exact ascii_hdr list [232] body cw sym plan (Or.inr (Or.inl rfl)) hplan hb h

/-- Non-vacuity: GS1 data "012345A" behind FNC1. -/
example : Enc.run (symbolList (List.range 30)) [232] [48, 49, 50, 51, 52, 53, 65] [(0, .ascii)] =
    .ok ([232, 131, 153, 175, 66], 1) := run30_eq_of_check (by decide +kernel)
example : (decode [232, 131, 153, 175, 66]).toOption.map (fun d => (d.body, d.fnc1, d.padAt)) =
    some ([48, 49, 50, 51, 52, 53, 65], true, none) := by decide +kernel

/-- **The same behind Macro 05** (first codeword 236): the decoder supplies header and trailer. -/
theorem spec_ascii_roundtrip_macro05 (list : List Sym) (body cw : List Nat) (sym : Sym) (plan : List (Nat × Enc.EMode))
    (hplan : AsciiPlan body plan) (hb : ∀ b ∈ body, b < 256) (h : Enc.run list [236] body plan = .ok (cw, sym)) :
    ∃ d, decode cw = .ok d ∧ d.bytes = macroHead 5 ++ body ++ macroTrail ∧ d.body = body ∧ d.fnc1 = false ∧
      d.macro = 5 ∧ d.ecis = [] ∧
      d.latches = [] ∧ d.trace = List.replicate body.length .ascii ∧ (∀ m ∈ d.trace, m = .ascii) ∧
      cw.length = dataCw sym ∧ cw.take (1 + (asciiEnc body).length) = 236 :: asciiEnc body ∧
      d.padAt = (if 1 + (asciiEnc body).length = dataCw sym then none else some (1 + (asciiEnc body).length)) := by
  exact ascii_hdr list [236] body cw sym plan (Or.inr (Or.inr (Or.inl rfl))) hplan hb h

/-- Non-vacuity: body "AÈ" behind the Macro 05 codeword, one pad. -/
example : Enc.run (symbolList (List.range 30)) [236] [65, 200] [(0, .ascii)] = .ok ([236, 66, 235, 73, 129], 1) := by
  exact run30_eq_of_check (by decide +kernel)
example : (decode [236, 66, 235, 73, 129]).toOption.map (fun d => (d.bytes, d.body, d.macro, d.padAt)) =
    some ([91, 41, 62, 30, 48, 53, 29, 65, 200, 30, 4], [65, 200], 5, some 4) := by decide +kernel

/-- **The same behind Macro 06** (first codeword 237). -/
theorem spec_ascii_roundtrip_macro06 (list : List Sym) (body cw : List Nat) (sym : Sym) (plan : List (Nat × Enc.EMode))
    (hplan : AsciiPlan body plan) (hb : ∀ b ∈ body, b < 256) (h : Enc.run list [237] body plan = .ok (cw, sym)) :
    ∃ d, decode cw = .ok d ∧ d.bytes = macroHead 6 ++ body ++ macroTrail ∧ d.body = body ∧ d.fnc1 = false ∧
      d.macro = 6 ∧ d.ecis = [] ∧
      d.latches = [] ∧ d.trace = List.replicate body.length .ascii ∧ (∀ m ∈ d.trace, m = .ascii) ∧
      cw.length = dataCw sym ∧ cw.take (1 + (asciiEnc body).length) = 237 :: asciiEnc body ∧
      d.padAt = (if 1 + (asciiEnc body).length = dataCw sym then none else some (1 + (asciiEnc body).length)) := by
  exact ascii_hdr list [237] body cw sym plan (Or.inr (Or.inr (Or.inr rfl))) hplan hb h

/-- Non-vacuity: Macro 06, exact fit (planner's form) and one pad. -/
example : Enc.run (symbolList (List.range 30)) [237] [65, 200, 66, 66, 66, 66] [(6, .ascii), (0, .ascii)] =
    .ok ([237, 66, 235, 73, 67, 67, 67, 67], 3) := run30_eq_of_check (by decide +kernel)
example : Enc.run (symbolList (List.range 30)) [237] [65, 200, 66, 66, 66] [(5, .ascii), (0, .ascii)] =
    .ok ([237, 66, 235, 73, 67, 67, 67, 129], 3) := run30_eq_of_check (by decide +kernel)

/-- the macro prefix model (`DM.Model.macroPrefix`) and the reference decoder agree on header and trailer -/
example : macroHead 5 = HEAD05 ∧ macroHead 6 = HEAD06 ∧ macroTrail = TRAIL := by decide

/-! ## Base 256

`b256Hdr body toEnd` is the length field (`[0]` = "to the end of the symbol", one codeword up to
249 bytes, two codewords up to 1555), `randFrom 2 F` the 255-state randomisation of the field `F`
standing at codeword positions 2, 3, … (`DM.Lemmas.Complete`). -/

def hdrMacro (c : Nat) : Nat := if c = 236 then 5 else if c = 237 then 6 else 0

theorem hdr_fields (c : Nat) (hc : c = 232 ∨ c = 236 ∨ c = 237) (body : List Nat) :
    ([c] = [] ∨ [c] = [232] ∨ [c] = [236] ∨ [c] = [237]) ∧ ([c] == [232]) = (c == 232) ∧ macOf [c] = hdrMacro c ∧
    (if macOf [c] = 0 then body else macroHead (macOf [c]) ++ body ++ macroTrail) =
      (if c = 232 then body else macroHead (hdrMacro c) ++ body ++ macroTrail) := by
  rcases hc with rfl | rfl | rfl <;> exact ⟨by simp, rfl, rfl, rfl⟩

theorem b256_core (list : List Sym) (pre body cw : List Nat) (sym : Sym) (hb : ∀ b ∈ body, b < 256) (hne : body ≠ [])
    (h : Enc.run list pre body [(body.length, .base256), (0, .base256)] = .ok (cw, sym)) :
    ∃ toEnd L, L = pre.length + 1 + (b256Hdr body toEnd).length + body.length ∧ cw.length = dataCw sym ∧
      cw.take L = pre ++ [231] ++ randFrom (pre.length + 2) (b256Hdr body toEnd ++ body) ∧
      (toEnd = true → L = dataCw sym) ∧ (toEnd = false → body.length ≤ 1555) ∧ Pads.Padded cw L ∧
      DM.Spec.Stream.run cw.toArray (3 * cw.length + 4) { i := pre.length } =
        .ok (b256Final pre.length cw.length body (if L = dataCw sym then none else some L)) := by
  obtain ⟨toEnd, L, hL, hlen, htake, hend, hmax, hpd⟩ := run_b256_shape list pre body cw sym hb hne h
  have hrun := spec_run_b256 cw pre body toEnd hb L hL htake (by rw [hlen]; exact hend)
    (fun ht => ⟨List.length_pos_iff.mpr hne, hmax ht⟩) hpd
  rw [hlen] at hrun
  exact ⟨toEnd, L, hL, hlen, htake, hend, hmax, hpd, by rw [hlen]; exact hrun⟩

/-- **Base 256 round trip through the reference decoder, behind each header** (`pre` = none, FNC1, Macro 05,
Macro 06): the two statements below are its instances. -/
theorem b256_hdr (list : List Sym) (pre body cw : List Nat) (sym : Sym)
    (hpre : pre = [] ∨ pre = [232] ∨ pre = [236] ∨ pre = [237]) (hb : ∀ b ∈ body, b < 256) (hne : body ≠ [])
    (h : Enc.run list pre body [(body.length, .base256), (0, .base256)] = .ok (cw, sym)) :
    ∃ d toEnd L, L = pre.length + 1 + (b256Hdr body toEnd).length + body.length ∧
      decode cw = .ok d ∧ d.body = body ∧ d.fnc1 = (pre == [232]) ∧ d.macro = macOf pre ∧
      d.bytes = (if macOf pre = 0 then body else macroHead (macOf pre) ++ body ++ macroTrail) ∧ d.ecis = [] ∧
      d.latches = [(pre.length, .base256)] ∧ d.trace = List.replicate body.length .base256 ∧
      (∀ m ∈ d.trace, m = .base256) ∧
      cw.length = dataCw sym ∧ cw.take L = pre ++ [231] ++ randFrom (pre.length + 2) (b256Hdr body toEnd ++ body) ∧
      (toEnd = true → L = dataCw sym) ∧ (toEnd = false → body.length ≤ 1555) ∧
      d.padAt = (if L = dataCw sym then none else some L) := by
  obtain ⟨toEnd, L, hL, hlen, htake, hend, hmax, hpd, hrun⟩ := b256_core list pre body cw sym hb hne h
  have hXL : pre.length + (231 :: randFrom (pre.length + 2) (b256Hdr body toEnd ++ body)).length = L := by
    rw [hL, List.length_cons, randFrom_length, List.length_append]; omega
  obtain ⟨hpfx, hhd⟩ := pfx_headOK (X := 231 :: randFrom (pre.length + 2) (b256Hdr body toEnd ++ body))
    (by rw [hXL, htake, List.append_assoc]; rfl) (headOK_cons 231 _ (by omega)) (by rw [hXL]; exact hpd)
  refine ⟨_, toEnd, L, hL, decode_behind pre cw _ hpre hpfx (fun hp => by subst hp; exact hhd) hrun, ?_, rfl, rfl, ?_, rfl, ?_, ?_, ?_,
    hlen, htake, hend, hmax, rfl⟩
  · simp [mkDecoded, b256Final]
  · simp [mkDecoded, b256Final]
  · simp [mkDecoded, b256Final]
  · simp [mkDecoded, b256Final]
  · intro m hm
    simp [mkDecoded, b256Final] at hm
    exact hm.2

/-- **Base 256 round trip through the reference decoder.** For a non-empty message planned entirely
in Base 256: the reference decoder accepts what the encoder returns and reads the message, every
byte carried by Base 256, after the single latch at codeword 0; the stream is the latch, the
randomised field (length in one of its three forms, then the data) and padding; the "to the end
of the symbol" form is used only when the field fills the symbol; the first pad codeword is met
exactly behind the field. -/
theorem spec_b256_roundtrip (list : List Sym) (body cw : List Nat) (sym : Sym) (hb : ∀ b ∈ body, b < 256)
    (hne : body ≠ []) (h : Enc.run list [] body [(body.length, .base256), (0, .base256)] = .ok (cw, sym)) :
    ∃ d toEnd L, L = 1 + (b256Hdr body toEnd).length + body.length ∧
      decode cw = .ok d ∧ d.bytes = body ∧ d.body = body ∧ d.fnc1 = false ∧ d.macro = 0 ∧ d.ecis = [] ∧
      d.latches = [(0, .base256)] ∧ d.trace = List.replicate body.length .base256 ∧ (∀ m ∈ d.trace, m = .base256) ∧
      cw.length = dataCw sym ∧ cw.take L = [231] ++ randFrom 2 (b256Hdr body toEnd ++ body) ∧
      (toEnd = true → L = dataCw sym) ∧ (toEnd = false → body.length ≤ 1555) ∧
      d.padAt = (if L = dataCw sym then none else some L) := by
  obtain ⟨d, toEnd, L, hL, h1, h2, h3, h4, h5, h6, h7, h8, h9, h10⟩ := b256_hdr list [] body cw sym (Or.inl rfl) hb hne h
  exact ⟨d, toEnd, L, hL, h1, h5, h2, h3, h4, h6, h7, h8, h9, h10⟩

/-- **Base 256 behind a header codeword** `c` = 232 (FNC1), 236 (Macro 05) or 237 (Macro 06): the
latch now stands at codeword 1 and the randomisation starts at position 3. -/
theorem spec_b256_roundtrip_header (c : Nat) (hc : c = 232 ∨ c = 236 ∨ c = 237) (list : List Sym) (body cw : List Nat)
    (sym : Sym) (hb : ∀ b ∈ body, b < 256) (hne : body ≠ [])
    (h : Enc.run list [c] body [(body.length, .base256), (0, .base256)] = .ok (cw, sym)) :
    ∃ d toEnd L, L = 2 + (b256Hdr body toEnd).length + body.length ∧
      decode cw = .ok d ∧ d.body = body ∧ d.fnc1 = (c == 232) ∧ d.macro = hdrMacro c ∧
      d.bytes = (if c = 232 then body else macroHead (hdrMacro c) ++ body ++ macroTrail) ∧ d.ecis = [] ∧
      d.latches = [(1, .base256)] ∧ d.trace = List.replicate body.length .base256 ∧ (∀ m ∈ d.trace, m = .base256) ∧
      cw.length = dataCw sym ∧ cw.take L = c :: 231 :: randFrom 3 (b256Hdr body toEnd ++ body) ∧
      (toEnd = true → L = dataCw sym) ∧ (toEnd = false → body.length ≤ 1555) ∧
      d.padAt = (if L = dataCw sym then none else some L) := by
  obtain ⟨hpre, f1, f2, f3⟩ := hdr_fields c hc body
  obtain ⟨d, toEnd, L, hL, hd, a1, a2, a3, a4, rest⟩ := b256_hdr list [c] body cw sym hpre hb hne h
  exact ⟨d, toEnd, L, by rw [hL]; rfl, hd, a1, a2.trans f1, a3.trans f2, a4.trans f3, rest⟩

/-- Non-vacuity: the "to the end of the symbol" form, an explicit one-codeword length with padding,
and a 250-byte message (two-codeword length, filling the 280-codeword symbol); the kernel runs
the reference decoder on the first two streams. -/
example : Enc.run (symbolList (List.range 30)) [] [200, 201, 202] [(3, .base256), (0, .base256)] =
    .ok ([231, 44, 137, 32, 182], 1) := run30_eq_of_check (by decide +kernel)
example : Enc.run (symbolList (List.range 30)) [] [200, 201] [(2, .base256), (0, .base256)] =
    .ok ([231, 46, 137, 32, 129], 1) := run30_eq_of_check (by decide +kernel)
example : (decode [231, 44, 137, 32, 182]).toOption.map (fun d => (d.body, d.padAt, d.latches, d.trace)) =
    some ([200, 201, 202], none, [(0, .base256)], [.base256, .base256, .base256]) := by decide +kernel
example : (decode [231, 46, 137, 32, 129]).toOption.map (fun d => (d.body, d.padAt, d.latches)) =
    some ([200, 201], some 4, [(0, .base256)]) := by decide +kernel
example : (match Enc.run master [] (List.replicate 250 7) [(250, .base256), (0, .base256)] with
    | .ok (cw, sym) => cw.take 3 == [231, 38, 193] && cw.length == 280 && sym == 39
    | .error _ => false) = true := by decide +kernel

/-- Non-vacuity: two bytes behind FNC1 ("to the end of the symbol" form at position 3) and five
bytes behind Macro 06; the kernel runs the reference decoder on the first stream. -/
example : Enc.run (symbolList (List.range 30)) [232] [200, 201] [(2, .base256), (0, .base256)] =
    .ok ([232, 231, 193, 31, 181], 1) := run30_eq_of_check (by decide +kernel)
example : Enc.run (symbolList (List.range 30)) [237] [200, 201, 202, 203, 204] [(5, .base256), (0, .base256)] =
    .ok ([237, 231, 193, 31, 181, 76, 227, 121], 3) := run30_eq_of_check (by decide +kernel)
example : (decode [232, 231, 193, 31, 181]).toOption.map (fun d => (d.body, d.fnc1, d.padAt, d.latches)) =
    some ([200, 201], true, none, [(1, .base256)]) := by decide +kernel

/-- **The empty message, whatever the plan**: the main loop does not look at the plan (`SpecPure.run_nil`), the stream is
padding only, and the reference decoder meets the first pad codeword at position 0. The pure plans of every mode are
instances for `body = []`. -/
theorem spec_nil_roundtrip (list : List Sym) (plan : List (Nat × Enc.EMode)) (cw : List Nat) (sym : Sym)
    (h : Enc.run list [] [] plan = .ok (cw, sym)) :
    ∃ d, decode cw = .ok d ∧ d.bytes = [] ∧ d.body = [] ∧ d.fnc1 = false ∧ d.macro = 0 ∧ d.ecis = [] ∧
      d.latches = [] ∧ d.trace = [] ∧ cw.length = dataCw sym ∧
      d.padAt = (if 0 = dataCw sym then none else some 0) ∧ (0 < dataCw sym → cw.getD 0 0 = 129) := by
  rw [SpecPure.run_nil list [] plan [(0, .ascii)]] at h
  obtain ⟨d, h1, h2, h3, h4, h5, h6, h7, h8, _, h10, _, h12⟩ :=
    spec_ascii_roundtrip list [] cw sym _ (Or.inl rfl) (by simp) h
  obtain ⟨_, _, a4, _⟩ := ascii_core list [] [] cw sym _ (Or.inl rfl) (by simp) h
  exact ⟨d, h1, h2, h3, h4, h5, h6, h7, h8, h10, h12, fun hlt => a4.first (h10 ▸ hlt)⟩

/-- the empty message under the Base 256 plan is the empty ASCII message: padding only -/
theorem spec_b256_roundtrip_nil (list : List Sym) (cw : List Nat) (sym : Sym)
    (h : Enc.run list [] [] [(([] : List Nat).length, .base256), (0, .base256)] = .ok (cw, sym)) :
    ∃ d, decode cw = .ok d ∧ d.bytes = [] ∧ d.body = [] ∧ d.fnc1 = false ∧ d.macro = 0 ∧ d.ecis = [] ∧
      d.latches = [] ∧ d.trace = [] ∧ cw.length = dataCw sym ∧
      d.padAt = (if 0 = dataCw sym then none else some 0) := by
  obtain ⟨d, h1, h2, h3, h4, h5, h6, h7, h8, h9, h10, _⟩ := spec_nil_roundtrip list _ cw sym h
  exact ⟨d, h1, h2, h3, h4, h5, h6, h7, h8, h9, h10⟩

/-- Non-vacuity: the empty message in the 3-codeword symbol (the repository's `test_empty`). -/
example : Enc.run (symbolList (List.range 30)) [] [] [(([] : List Nat).length, .base256), (0, .base256)] =
    .ok ([129, 175, 70], 0) := run30_eq_of_check (by decide +kernel)

/-! ## The reference decoder itself: its fuel always suffices

`DM.Spec.Stream.run` takes fuel and returns its current state when the fuel is used up. Every step
decreases `2 · (codewords left) + [mode ≠ ASCII]` (`SpecStep.step_measure`), so with the fuel
`decode` supplies this never happens: every result of the reference decoder — on any codeword
stream, not only on encoder output — comes from a run that reached the end of the stream. -/

theorem spec_decode_finished (cwl : List Nat) (d : Decoded) (h : decode cwl = .ok d) :
    ∃ s i0, i0 ≤ 1 ∧ DM.Spec.Stream.run cwl.toArray (3 * cwl.length + 4) { i := i0 } = .ok s ∧
      DM.Spec.Stream.step cwl.toArray s = .ok none ∧
      d.body = s.out.toList ∧ d.trace = s.trace.toList ∧ d.latches = s.latches.toList ∧ d.ecis = s.ecis.toList ∧
      d.padAt = s.padAt :=
  decode_finished cwl d h

/-- Non-vacuity: a stream the reference decoder accepts (C40 "AIM", unlatch, padding). -/
example : (decode [230, 91, 11, 254, 129]).toOption.map (fun d => (d.body, d.padAt)) = some ([65, 73, 77], some 4) := by
  decide +kernel

end DM.Props.C02Spec
