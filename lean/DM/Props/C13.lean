import Batteries.Lean.Except
import DM.Lemmas.Trace
import DM.Lemmas.TestSymbols
import DM.Props.Planner
/-!
# C13 / C18 — the encoder latches only into modes the plan names

Encoder side of "disabled modes are never used".  `Props/Planner.lean` proves that the plan the
optimiser returns names only enabled modes (`plan_modes_enabled`).  Here: for every plan within
the side condition of the round-trip theorem (`PlanOK`: no EDIFACT entry, no latch to a non-ASCII
mode planned for the last four characters), whatever the encoder model returns splits into
segments — one per call of a mode encoder — such that

* at the start of every segment the decoder model, run on the whole stream, is at the top of its
  ASCII loop and has produced exactly the characters in front of the segment's start position
  (so the segment starts are positions "in ASCII context", and what follows the last segment is
  padding),
* a segment written in ASCII mode consists of ASCII codewords only (value + 1, digit pairs,
  Upper Shift): no latch codeword occurs inside it,
* every other segment starts with a latch codeword, and that latch is the latch of a mode the
  plan names.
-/
namespace DM.Props.C13
open DM.Model DM.Model.Enc DM.Model.Dec DM.Gen DM.Lemmas DM.Lemmas.DecRun DM.Lemmas.AsciiRT DM.Lemmas.Complete
open DM.Lemmas.EncRT DM.Lemmas.X12RT DM.Lemmas.C40RT DM.Lemmas.C40Gen DM.Lemmas.MainRT DM.Lemmas.PlanProv DM.Lemmas.Trace

theorem latch_ne_254 {m : EMode} {l : Nat} (h : m.latch = some l) : l ≠ 254 := by
  cases m <;> simp [EMode.latch] at h <;> omega

theorem niceTail_flat (plan : List (Nat × EMode)) (pads : List Nat) (hp : NiceTail pads) :
    ∀ (gs : List Seg), (∀ g ∈ gs, SegOK plan g) → NiceTail (flatCw gs ++ pads) := by
  intro gs
  induction gs with
  | nil => intro _; simpa [flatCw] using hp
  | cons g t ih =>
    intro hok
    have hg := hok g (by simp)
    have ht := ih (fun x hx => hok x (by simp [hx]))
    unfold SegOK at hg
    simp only [flatCw, Seg.cw]
    cases hl : g.latch with
    | some l =>
      rw [hl] at hg
      obtain ⟨p, m, _, hm⟩ := hg
      simp only [List.cons_append]
      exact niceTail_cons l _ (latch_ne_254 hm)
    | none =>
      rw [hl] at hg
      simp only []
      cases hX : g.X with
      | nil => simpa using ht
      | cons x xs =>
        simp only [List.cons_append]
        apply niceTail_cons
        have := hg x (by rw [hX]; simp)
        unfold AsciiCw at this
        omega

theorem segOK_noLatch {plan : List (Nat × EMode)} {g : Seg} (h : SegOK plan g) (hl : g.latch = none) :
    ∀ c ∈ g.X, c ≠ 230 ∧ c ≠ 231 ∧ c ≠ 238 ∧ c ≠ 239 ∧ c ≠ 240 := by
  intro c hc
  unfold SegOK at h
  rw [hl] at h
  have := h c hc
  unfold AsciiCw at this
  omega

/-- what `run_segments` states about one particular list of segments -/
def SegmentsOK (pre out0 body cw : List Nat) (plan : List (Nat × EMode)) (segs : List Seg) (pads : List Nat) : Prop :=
  cw = pre ++ flatCw segs ++ pads ∧ (∀ g ∈ segs, SegOK plan g) ∧ NiceTail pads ∧
  ∀ (k : Nat) (hk : k < segs.length),
    decRun .ascii { rest := cw.drop pre.length, eaten := pre.length, out := out0, ecis := [] } =
    decRun .ascii { rest := flatCw (segs.drop k) ++ pads, eaten := pre.length + (flatCw (segs.take k)).length,
                    out := out0 ++ body.take segs[k].start, ecis := [] }

theorem segments_of_TR (pre out0 : List Nat) (list : List Sym) (body cw : List Nat) (plan : List (Nat × EMode)) (sym : Sym)
    (sE : St) (segs : List Seg)
    (hsym : firstBigEnough list sE.cw.length = some sym)
    (hpad : addPadding sE.cw (sE.mode == .ascii) (dataCw sym) = some cw)
    (miE : MI false pre out0 list body sE) (hmf : sE.hasMore = false) (tr : TR pre out0 list body plan sE segs) :
    ∃ pads, SegmentsOK pre out0 body cw plan segs pads := by
  have hpads : ∃ pads, cw = sE.cw ++ pads ∧ NiceTail pads ∧ (ExactFit list sE.cw.length → pads = []) := by
    cases miE.phase with
    | endgame more _ _ _ _ _ _ => rw [hmf] at more; cases more
    | ediAscii he _ _ _ _ _ _ _ _ => cases he
    | final he _ _ _ _ _ => cases he
    | done _ _ _ fit =>
      exact ⟨[], by rw [padded_fit fit hsym hpad, List.append_nil], by simp [NiceTail], fun _ => rfl⟩
    | normal _ pend _ more =>
      rw [ascii_at_end pend.latch more hmf] at hpad
      exact ⟨_, padded_ascii hsym hpad, niceTail_pads _ _, fun fit =>
        List.append_right_eq_self.mp ((padded_ascii hsym hpad).symm.trans (padded_fit fit hsym hpad))⟩
  obtain ⟨pads, hcw, hnice, hexact⟩ := hpads
  refine ⟨pads, by rw [hcw, tr.cw], tr.ok, hnice, ?_⟩
  intro k hk
  obtain ⟨b, hs, hb'⟩ := tr.walk k hk
  have hsplit : flatCw segs = flatCw (segs.take k) ++ flatCw (segs.drop k) := by
    rw [← flatCw_append, List.take_append_drop]
  have hrest : cw.drop pre.length = (pre ++ flatCw (segs.take k)).drop pre.length ++ (flatCw (segs.drop k) ++ pads) := by
    rw [hcw, tr.cw, hsplit]
    simp
  have htail : NiceTail (flatCw (segs.drop k) ++ pads) :=
    niceTail_flat plan pads hnice _ (fun g hg => tr.ok g (List.mem_of_mem_drop hg))
  have hlen : b = true → (flatCw (segs.drop k) ++ pads).length ≤ 1 := by
    intro hbt
    obtain ⟨h1, h2, _, h4⟩ := hb' hbt
    have hd : segs.drop k = [segs[k]] := by
      rw [List.drop_eq_getElem_cons hk, List.drop_eq_nil_of_le (by omega)]
    rw [hd, hexact h4]
    simpa [flatCw] using h2
  rw [hrest, hs.2.2 _ ⟨hlen, htail⟩]
  simp

theorem mi_init (pre out0 : List Nat) (list : List Sym) (body : List Nat) (plan : List (Nat × EMode)) (hplan : PlanOK plan) :
    MI false pre out0 list body { input := body, pos := 0, mode := .ascii, plan := plan, newMode := none, cw := pre, list := list } :=
  ⟨rfl, rfl, Nat.zero_le _, by intro c hc; simp at hc,
    .normal (sync_init pre out0 body) (Or.inl ⟨rfl, rfl⟩) (planOKE_of_planOK body hplan) (fun hne => absurd rfl hne),
    fun _ => ne_of_planOK hplan⟩

theorem tr_init (pre out0 : List Nat) (list : List Sym) (body : List Nat) (plan : List (Nat × EMode)) :
    TR pre out0 list body plan { input := body, pos := 0, mode := .ascii, plan := plan, newMode := none, cw := pre, list := list } [] :=
  ⟨by simp [flatCw], by intro g hg; simp at hg, pv_init plan .ascii, by intro k hk; simp at hk⟩

theorem run_trace (pre out0 : List Nat) (list : List Sym) (body cw : List Nat) (plan : List (Nat × EMode)) (sym : Sym)
    {J : St → List Seg → Prop}
    (hJ : ∀ s s' segs X, J s segs → encodeMode (latched s) = .ok s' → J s' (segs ++ [(⟨s.pos, s.newMode, X⟩ : Seg)]))
    (hJ0 : J { input := body, pos := 0, mode := .ascii, plan := plan, newMode := none, cw := pre, list := list } [])
    (hb : ByteList body) (hplan : PlanOK plan) (h : run list pre body plan = .ok (cw, sym)) :
    ∃ (sE : St) (segs : List Seg) (pads : List Nat),
      SegmentsOK pre out0 body cw plan segs pads ∧ sE.hasMore = false ∧ J sE segs := by
  obtain ⟨sE, hmain, hsym, hpad⟩ := run_unfoldP list pre body cw plan sym h
  have mi0 := mi_init pre out0 list body plan hplan
  obtain ⟨miE, hmf⟩ := mainLoop_MI false pre out0 list body hb _ _ 0 sE hmain mi0
  obtain ⟨segs, tr, j⟩ := mainLoop_TR pre out0 list body hb plan hJ _ _ 0 sE [] hmain mi0 (tr_init pre out0 list body plan) hJ0
  obtain ⟨pads, hp⟩ := segments_of_TR pre out0 list body cw plan sym sE segs hsym hpad miE hmf tr
  exact ⟨sE, segs, pads, hp, hmf, j⟩

/-- **The segment structure of every successful encoding** (plans within `PlanOK`). -/
theorem run_segments (pre out0 : List Nat) (list : List Sym) (body cw : List Nat) (plan : List (Nat × EMode)) (sym : Sym)
    (hb : ByteList body) (hplan : PlanOK plan) (h : run list pre body plan = .ok (cw, sym)) :
    ∃ (segs : List Seg) (pads : List Nat),
      cw = pre ++ flatCw segs ++ pads ∧ (∀ g ∈ segs, SegOK plan g) ∧ NiceTail pads ∧
      ∀ (k : Nat) (hk : k < segs.length),
        decRun .ascii { rest := cw.drop pre.length, eaten := pre.length, out := out0, ecis := [] } =
        decRun .ascii { rest := flatCw (segs.drop k) ++ pads, eaten := pre.length + (flatCw (segs.take k)).length,
                        out := out0 ++ body.take segs[k].start, ecis := [] } :=
  have ⟨_, segs, pads, hp, _⟩ := run_trace pre out0 list body cw plan sym (J := fun _ _ => True)
    (fun _ _ _ _ _ _ => trivial) trivial hb hplan h
  ⟨segs, pads, hp⟩

/-- **C13 (encoder half).** Every latch codeword at a segment start is the latch of a mode named
by the plan; no latch codeword occurs inside a segment written in ASCII mode. The statement itself
asks of the segments only `cw = pre ++ flatCw segs ++ pads` (which `segs = []` meets); that they are
the calls of the mode encoders, each starting where the decoder is in ASCII context, is said by
`run_segments`, whose segments the proof takes. -/
theorem latches_planned (pre : List Nat) (list : List Sym) (body cw : List Nat) (plan : List (Nat × EMode)) (sym : Sym)
    (hb : ByteList body) (hplan : PlanOK plan) (h : run list pre body plan = .ok (cw, sym)) :
    ∃ (segs : List Seg) (pads : List Nat), cw = pre ++ flatCw segs ++ pads ∧
      ∀ g ∈ segs, (∀ l, g.latch = some l → ∃ p m, (p, m) ∈ plan ∧ m.latch = some l) ∧
        (g.latch = none → ∀ c ∈ g.X, c ≠ 230 ∧ c ≠ 231 ∧ c ≠ 238 ∧ c ≠ 239 ∧ c ≠ 240) := by
  obtain ⟨segs, pads, h1, h2, _, _⟩ := run_segments pre [] list body cw plan sym hb hplan h
  refine ⟨segs, pads, h1, fun g hg => ⟨fun l hl => ?_, segOK_noLatch (h2 g hg)⟩⟩
  have := h2 g hg
  unfold SegOK at this
  rw [hl] at this
  exact this

/-- **C13 / C18, both halves together.** If the plan is the optimiser's answer for the mode set
`modes` (planner model) and lies within `PlanOK`, every latch at a segment start of the encoder
model's output is the latch of a mode enabled in `modes` (the segments as in `latches_planned`:
tied to the decoder by `run_segments` only). -/
theorem latches_enabled (data : List Nat) (written : Nat) (modes : Nat) (perms : List (List Nat)) (o : Plan.Outcome)
    (pre : List Nat) (list : List Sym) (body cw : List Nat) (plan : List (Nat × EMode)) (sym : Sym)
    (hopt : Plan.optimize data written list modes perms = .ok o) (hp : o.plan = some plan)
    (hb : ByteList body) (hplan : PlanOK plan) (h : run list pre body plan = .ok (cw, sym)) :
    ∃ (segs : List Seg) (pads : List Nat), cw = pre ++ flatCw segs ++ pads ∧
      ∀ g ∈ segs, ∀ l, g.latch = some l → ∃ m, Plan.enabledMode modes m = true ∧ m.latch = some l := by
  obtain ⟨segs, pads, h1, h2⟩ := latches_planned pre list body cw plan sym hb hplan h
  refine ⟨segs, pads, h1, fun g hg l hl => ?_⟩
  obtain ⟨p, m, hm, hlat⟩ := (h2 g hg).1 l hl
  exact ⟨m, DM.Props.Planner.plan_modes_enabled data written list modes perms o plan hopt hp (p, m) hm, hlat⟩

/-- the run of the encoder model used as an example here and in `Props/C18.lean` -/
theorem run_mixed :
    run (symbolList (List.range 30)) []
      [65,66,67,68,69,70,71,72,73,49,50,51,52,53,54,97,98,99,100,101,102,103]
      [(22, .c40), (13, .ascii), (7, .text), (0, .text)] =
    .ok ([230, 89, 233, 109, 36, 128, 95, 254, 142, 164, 186, 239, 89, 233, 109, 36, 254, 104], 7) := by
  rw [symbols30]
  decide +kernel

/-- Non-vacuity: a mixed plan within `PlanOK` (C40 for nine letters, ASCII for six digits, Text for
seven lower-case letters) on which the encoder model succeeds; its output has the three segments
`230 …`, `142 164 186`, `239 … 254 104`. -/
example : PlanOK [(22, .c40), (13, .ascii), (7, .text), (0, .text)] ∧
    run (symbolList (List.range 30)) []
      [65,66,67,68,69,70,71,72,73,49,50,51,52,53,54,97,98,99,100,101,102,103]
      [(22, .c40), (13, .ascii), (7, .text), (0, .text)] =
    .ok ([230, 89, 233, 109, 36, 128, 95, 254, 142, 164, 186, 239, 89, 233, 109, 36, 254, 104], 7) :=
  ⟨by unfold PlanOK; decide, run_mixed⟩

end DM.Props.C13
