import DM.Lemmas.ErrPattern
import DM.Props.C06
import DM.Lemmas.RSCleanWord
/-!
# C09 — what "a valid codeword of the symbol's interleaved Reed–Solomon code" means, and how far
apart valid words are

`Valid s data ecc` (every interleaved block has zero table-free syndromes — the oracle that the
exploration check of C09 applies to every word the decoder leaves behind) is proved equivalent to
the property's own wording "re-encoding the data part reproduces the error-correction part"
(`valid_iff_reencode`).  `valid_distance`: two valid words that differ in at most `k` codewords
per block are equal, so any miscorrection lands at distance > k from every other valid word.
`valid_fixed`: a valid word passes the decoder unchanged.  `hamming` counts the set `diffSet` (`hamming_eq_card`, both
in `Lemmas/ErrPattern.lean`).

That the word left behind by a successful `decode` is valid is `decode_sound` in `C09Sound.lean`.
-/
namespace DM.Props.C09
open DM.Gen DM.Model DM.Spec DM.Lemmas

/-- interleaved block `b`: data part followed by the same stride of the error part -/
def block (s : Sym) (data ecc : List Nat) (b : Nat) : List Nat :=
  strided data b (row s).blocks ++ strided ecc b (row s).blocks

/-- every interleaved block is a codeword (zero syndromes at 2^1 … 2^k, table-free arithmetic) -/
def Valid (s : Sym) (data ecc : List Nat) : Prop :=
  ∀ b, b < (row s).blocks → isCodeword (block s data ecc b) (row s).eccPer = true

theorem eq_of_hamming_eq_zero {a b : List Nat} (hlen : a.length = b.length) (h : hamming a b = 0) : a = b := by
  refine ext_getD 0 hlen fun i hi => ?_
  by_contra hne
  rw [hamming_eq_card, Finset.card_eq_zero] at h
  exact Finset.notMem_empty i (h ▸ mem_diffSet_iff.mpr ⟨hi, hne⟩)

/-- the difference of two codewords is an error pattern all of whose power sums vanish; with at most `k` terms it
is empty (`sparse_zero`) -/
theorem block_distance (a b : List Nat) (k : Nat) (ha : Bytes a) (hb : Bytes b)
    (hlen : a.length = b.length) (hn : a.length ≤ 255) (hk : k < 254)
    (hca : isCodeword a k = true) (hcb : isCodeword b k = true) (hd : hamming a b ≤ k) : a = b := by
  obtain ⟨I, E, hIc, hI, hsyn⟩ := ErrPattern.error_pattern a b k ha hb hlen hk hca
  have hz := sparse_zero (fun p => α ^ p) k I E (hIc ▸ hd)
    (fun i hi j hj h => alpha_pow_inj (lt_of_lt_of_le (hI i hi).1 hn) (lt_of_lt_of_le (hI j hj).1 hn) h)
    (fun i _ => alpha_pow_ne_zero i)
    (fun j hj => (hsyn j hj).symm.trans ((isCodeword_iff b hb k hk).mp hcb j hj))
  exact eq_of_hamming_eq_zero hlen (hIc ▸ Finset.card_eq_zero.mpr
    (Finset.eq_empty_of_forall_notMem fun p hp => (hI p hp).2 (hz p hp)))

theorem hamming_self (a : List Nat) : hamming a a = 0 := by
  rw [hamming_eq_card, Finset.card_eq_zero, Finset.eq_empty_iff_forall_notMem]
  exact fun i hi => (mem_diffSet_iff.mp hi).2 rfl

theorem hamming_le_one (a a' : List Nat) (q : Nat)
    (h : ∀ j, j ≠ q → a.getD j 0 = a'.getD j 0) : hamming a a' ≤ 1 := by
  rw [hamming_eq_card, ← Finset.card_singleton q]
  refine Finset.card_le_card fun j hj => Finset.mem_singleton.mpr ?_
  by_contra hne
  exact (mem_diffSet_iff.mp hj).2 (h j hne)

/-- where `a` and `b` differ, one of them differs from `r` -/
theorem hamming_triangle (a b r : List Nat) (h : a.length = b.length) : hamming a b ≤ hamming a r + hamming b r := by
  simp only [hamming_eq_card]
  refine le_trans (Finset.card_le_card fun i hi => ?_) (Finset.card_union_le _ _)
  obtain ⟨hi, hne⟩ := mem_diffSet_iff.mp hi
  rw [Finset.mem_union, mem_diffSet_iff, mem_diffSet_iff]
  by_cases e : a.getD i 0 = r.getD i 0
  · exact Or.inr ⟨h ▸ hi, fun e' => hne (e.trans e'.symm)⟩
  · exact Or.inl ⟨hi, e⟩

/-- positions that embed one-to-one and keep the entries do not lose differences -/
theorem hamming_le_of_embed (a b a' b' : List Nat) (f : Nat → Nat)
    (hinj : ∀ i j, i < a.length → j < a.length → f i = f j → i = j)
    (hlt : ∀ i, i < a.length → f i < a'.length)
    (hval : ∀ i, i < a.length → a.getD i 0 = a'.getD (f i) 0 ∧ b.getD i 0 = b'.getD (f i) 0) :
    hamming a b ≤ hamming a' b' := by
  simp only [hamming_eq_card]
  refine Finset.card_le_card_of_injOn f (fun i hi => ?_) fun i hi j hj =>
    hinj i j (mem_diffSet_iff.mp hi).1 (mem_diffSet_iff.mp hj).1
  obtain ⟨hi, hne⟩ := mem_diffSet_iff.mp hi
  exact mem_diffSet_iff.mpr ⟨hlt i hi, by rwa [← (hval i hi).1, ← (hval i hi).2]⟩

theorem block_parts (s : Sym) (hs : s < numSizes) (d1 e1 d2 e2 : List Nat)
    (hl1 : d1.length = dataCw s) (hl2 : d2.length = dataCw s)
    (hel1 : e1.length = (row s).blocks * (row s).eccPer) (hel2 : e2.length = (row s).blocks * (row s).eccPer)
    (h : ∀ b, b < (row s).blocks → block s d1 e1 b = block s d2 e2 b) : d1 = d2 ∧ e1 = e2 := by
  have R := rowShape s hs
  have hsplit : ∀ b, b < (row s).blocks →
      strided d1 b (row s).blocks = strided d2 b (row s).blocks ∧
      strided e1 b (row s).blocks = strided e2 b (row s).blocks := by
    intro b hb
    have := h b hb
    unfold block at this
    exact List.append_inj this (by rw [strided_length, strided_length, hl1, hl2])
  exact ⟨strided_ext d1 d2 _ R.blocks_pos (by omega) (fun b hb => (hsplit b hb).1),
    strided_ext e1 e2 _ R.blocks_pos (by omega) (fun b hb => (hsplit b hb).2)⟩

theorem block_bytes {s : Sym} {d e : List Nat} (hd : Bytes d) (he : Bytes e) (b : Nat) :
    Bytes (block s d e b) :=
  (strided_bytes hd b _).append (strided_bytes he b _)

theorem block_length (s : Sym) (d e : List Nat) (b : Nat) (hb : b < (row s).blocks)
    (hel : e.length = (row s).blocks * (row s).eccPer) :
    (block s d e b).length = (strided d b (row s).blocks).length + (row s).eccPer := by
  unfold block
  rw [List.length_append, strided_length_full e b _ _ hb hel]

/-- **Distance of the symbol's code.** Two valid words of one symbol size that differ in at most
`k` codewords in each interleaved block (`k` = error codewords per block) are the same word. -/
theorem valid_distance (s : Sym) (hs : s < numSizes) (d1 e1 d2 e2 : List Nat)
    (hd1 : Bytes d1) (he1 : Bytes e1) (hd2 : Bytes d2) (he2 : Bytes e2)
    (hl1 : d1.length = dataCw s) (hl2 : d2.length = dataCw s)
    (hel1 : e1.length = (row s).blocks * (row s).eccPer) (hel2 : e2.length = (row s).blocks * (row s).eccPer)
    (hv1 : Valid s d1 e1) (hv2 : Valid s d2 e2)
    (hclose : ∀ b, b < (row s).blocks → hamming (block s d1 e1 b) (block s d2 e2 b) ≤ (row s).eccPer) :
    d1 = d2 ∧ e1 = e2 := by
  have R := rowShape s hs
  apply block_parts s hs d1 e1 d2 e2 hl1 hl2 hel1 hel2
  intro b hb
  have hlen : (block s d1 e1 b).length = (block s d2 e2 b).length := by
    rw [block_length s d1 e1 b hb hel1, block_length s d2 e2 b hb hel2, strided_length,
      strided_length, hl1, hl2]
  exact block_distance _ _ _ (block_bytes hd1 he1 b) (block_bytes hd2 he2 b) hlen
    (by rw [block_length s d1 e1 b hb hel1]; exact strided_data_len R d1 hl1 b) R.k_lt
    (hv1 b hb) (hv2 b hb) (hclose b hb)

theorem hamming_append (a a' b b' : List Nat) (h : a.length = a'.length) :
    hamming (a ++ b) (a' ++ b') = hamming a a' + hamming b b' := by
  unfold hamming
  rw [List.length_append, List.range_add, List.filter_append, List.length_append, List.filter_map,
    List.length_map]
  congr 2
  · apply List.filter_congr
    intro i hi
    have hi := List.mem_range.mp hi
    rw [getD_append, getD_append, if_pos hi, if_pos (h ▸ hi)]
  · apply List.filter_congr
    intro i _
    simp only [Function.comp]
    rw [getD_append, getD_append, ← h, if_neg (by omega), if_neg (by omega), Nat.add_sub_cancel_left]

theorem hamming_same_data (sd x y : List Nat) (k : Nat) (hx : x.length = k) :
    hamming (sd ++ x) (sd ++ y) ≤ k := by
  rw [hamming_append _ _ _ _ rfl, hamming_self, Nat.zero_add, ← hx]
  exact le_trans (List.length_filter_le _ _) (by rw [List.length_range])

/-- **"Valid codeword" as the property words it.** For a word of the right shape, all interleaved
blocks have zero syndromes iff re-encoding its data part reproduces its error-correction part. -/
theorem valid_iff_reencode (s : Sym) (hs : s < numSizes) (data ecc : List Nat)
    (hd : Bytes data) (he : Bytes ecc) (hl : data.length = dataCw s)
    (hel : ecc.length = (row s).blocks * (row s).eccPer) :
    Valid s data ecc ↔ encodeError s data = .ok ecc := by
  obtain ⟨ecc', henc, hlen', hb', hcw'⟩ := C06.encode_error_conformant s hs data hd hl
  have hel' : ecc'.length = (row s).blocks * (row s).eccPer := by rw [hlen']; simp [C12.toStd]
  constructor
  · intro hv
    have := valid_distance s hs data ecc data ecc' hd he hd hb' hl hl hel hel' hv hcw'
      (fun b hb => hamming_same_data _ _ _ _ (strided_length_full ecc b _ _ hb hel))
    rw [henc, this.2]
  · intro h
    rw [henc] at h
    cases h
    exact hcw'

theorem valid_fixed (s : Sym) (hs : s < numSizes) (data ecc : List Nat)
    (hd : Bytes data) (he : Bytes ecc) (hl : data.length = dataCw s)
    (hel : ecc.length = (row s).blocks * (row s).eccPer) (hv : Valid s data ecc) :
    RS.decode s (data ++ ecc) = .ok (data ++ ecc) :=
  C01.clean_word_unchanged s hs data ecc hd hl he hel hv

/-- Non-vacuity: the 10x10 codeword of C06's example is valid; one changed codeword is not. -/
example : Valid 0 [23, 40, 11] [255, 207, 37, 244, 81] := by
  intro b hb
  have : b = 0 := by
    have : (row 0).blocks = 1 := by decide +kernel
    omega
  subst this
  decide +kernel
example : ¬ Valid 0 [23, 40, 12] [255, 207, 37, 244, 81] := by
  intro h
  have := h 0 (by decide +kernel)
  revert this
  decide +kernel

end DM.Props.C09
