import DM.Props.C18Couple
/-!
# C13, second clause — the instrumented run on the optimiser's plan

`trace_planned`: on the plan the optimiser returns (within
`planOK`) the instrumented loop succeeds or answers `tooMuch`, and the calls a successful run records are the segments of
the plan, one call per segment, except that the last segment may be split into a call in the planned mode and one ASCII
call for at most `tailMax mode` characters (`trace_final`: the same for a run that is known to succeed).  The chain of calls
is the one `CoupleMain.run_planned` builds (`EncRT.Calls`, read by the instrumented loop through `Calls.trace_eq`); `RecOK`, its
record of the calls, becomes `Recorded` for the plan handed to the encoder.
Namespace: `C13Tail`.
-/
namespace DM.Props.C13Tail
open DM.Model.PlanSide
open DM.Model DM.Model.Plan DM.Model.Enc DM.Lemmas.PlanInv DM.Lemmas.Couple DM.Lemmas.CoupleReach
open DM.Lemmas DM.Lemmas.AsciiRT DM.Lemmas.EncRT DM.Lemmas.CoupleMain

/-- **The instrumented loop is the main loop**: it fails where `mainLoop` fails, with the same error,
and otherwise returns the state `mainLoop` returns. -/
theorem traceLoop_fst : ∀ (f : Nat) (s : St) (nw : Nat) (tr : List Seg),
    (traceLoop f s nw tr).map Prod.fst = mainLoop f s nw := by
  intro f
  induction f with
  | zero => intro s nw tr; rfl
  | succ f ih =>
    intro s nw tr
    by_cases hm : s.hasMore = true
    · rw [traceLoop_unfold f s nw tr hm, mainLoop_unfold f s nw hm]
      cases encodeMode (latched s) with
      | error e => rfl
      | ok s' =>
        simp only []
        split
        · rfl
        · split
          · split
            · rfl
            · exact ih _ _ _
          · exact ih _ _ _
    · have hm' : s.hasMore = false := by simpa using hm
      rw [traceLoop_end f s nw tr hm', mainLoop_end f s nw hm']
      rfl

theorem main_ok_traceLoop {f : Nat} {s sE : St} {nw : Nat} (tr : List Seg)
    (h : mainLoop f s nw = .ok sE) : ∃ out, traceLoop f s nw tr = .ok (sE, out) := by
  obtain ⟨m, nw', tr', hc, hf, hlt⟩ := Calls.of_main f .nil h
  obtain ⟨g, rfl⟩ : ∃ g, f = 0 + m + (g + 1) := ⟨f - m - 1, by omega⟩
  exact ⟨tr ++ tr', by rw [hc.trace_eq, traceLoop_end _ _ _ _ hf]⟩

/-- the plan `P` (for a message of `n` characters) assigns the stretch `[a, b)` to the mode `m`: two
consecutive entries `(n - a, m)`, `(n - b, _)`; or `a = 0`, `m` = ASCII and `P` begins with `(n - b, _)`
(the leading ASCII entry is not in the list when there are no prefix codewords) — in which case ASCII
is an enabled mode (`AsciiOn`) -/
def PlanSeg (AsciiOn : Prop) (P : List (Nat × EMode)) (n a b : Nat) (m : EMode) : Prop :=
  (∃ A m' t, P = A ++ (n - a, m) :: (n - b, m') :: t) ∨
  (a = 0 ∧ m = .ascii ∧ AsciiOn ∧ ∃ m' t, P = (n - b, m') :: t)

theorem planSeg_fin {AsciiOn : Prop} (W n a b : Nat) (m m' : EMode) (A t : List (Nat × EMode)) (hn : 0 < n)
    (hroot : (A ++ (n - a, m) :: (n - b, m') :: t).head? = some (n, .ascii) → AsciiOn) :
    PlanSeg AsciiOn (finPlan W n (A ++ (n - a, m) :: (n - b, m') :: t)) n a b m := by
  unfold finPlan
  split
  · rename_i hc
    cases A with
    | nil =>
      right
      have hh := hc.2
      simp only [List.nil_append, List.head?_cons, Option.some.injEq, Prod.mk.injEq] at hh
      exact ⟨by omega, hh.2, hroot hc.2, m', t, rfl⟩
    | cons x A' => left; exact ⟨A', m', t, rfl⟩
  · left; exact ⟨A, m', t, rfl⟩

def Recorded (AsciiOn : Prop) (P : List (Nat × EMode)) (n p : Nat) (segs : List Seg) : Prop :=
  Tiles 0 p segs ∧ ∀ e ∈ segs, e.1 < e.2.1 → PlanSeg AsciiOn P n e.1 e.2.1 e.2.2

theorem tiles_snoc : ∀ (segs : List Seg) (a b c : Nat) (m : EMode), Tiles a b segs → b ≤ c →
    Tiles a c (segs ++ [(b, c, m)]) := by
  intro segs
  induction segs with
  | nil =>
    intro a b c m h hbc
    simp only [Tiles] at h
    subst h
    exact ⟨rfl, hbc, rfl⟩
  | cons e t ih =>
    intro a b c m h hbc
    obtain ⟨x, y, mm⟩ := e
    obtain ⟨h1, h2, h3⟩ := h
    exact ⟨h1, h2, ih y b c m h3 hbc⟩

theorem Recorded.nil (AsciiOn : Prop) (P : List (Nat × EMode)) (n : Nat) : Recorded AsciiOn P n 0 [] :=
  ⟨rfl, fun _ he => nomatch he⟩

theorem Recorded.snoc {AsciiOn : Prop} {P : List (Nat × EMode)} {n p q : Nat} {m : EMode} {segs : List Seg}
    (h : Recorded AsciiOn P n p segs) (hpq : p ≤ q) (hseg : p < q → PlanSeg AsciiOn P n p q m) :
    Recorded AsciiOn P n q (segs ++ [(p, q, m)]) := by
  refine ⟨tiles_snoc segs 0 p q m h.1 hpq, fun x hx => ?_⟩
  rcases List.mem_append.mp hx with hx | hx
  · exact h.2 x hx
  · simp only [List.mem_singleton] at hx
    subst hx
    exact hseg

theorem recorded_of_recOK {AsciiOn : Prop} (W : Nat) {L : List (Nat × EMode)} {n p : Nat} {tr : List Seg} (hn : 0 < n)
    (hroot : L.head? = some (n, .ascii) → AsciiOn) (h : RecOK L n p tr) : Recorded AsciiOn (finPlan W n L) n p tr := by
  induction h with
  | nil => exact Recorded.nil _ _ _
  | snoc _ hpq hseg ih =>
    refine ih.snoc hpq fun hlt => ?_
    obtain ⟨A, m', t, hL⟩ := hseg hlt
    subst hL
    exact planSeg_fin W n _ _ _ m' A t hn hroot

/-- what `trace_final` says about the recorded calls `tr` of a run on the plan `P` for `n` characters:
all calls but the last one or two are segments of the plan; the last segment `[p, n)` of the plan, of
mode `m`, is written by one call in mode `m` for `[p, q)` and, if `q < n`, one ASCII call for `[q, n)`,
of at most `tailMax m` characters (so `m` is C40, Text, X12 or EDIFACT) -/
def TraceShape (AsciiOn : Prop) (P : List (Nat × EMode)) (n : Nat) (tr : List Seg) : Prop :=
  ∃ segs p q m, tr = segs ++ (p, q, m) :: (if q < n then [(q, n, EMode.ascii)] else []) ∧
    Recorded AsciiOn P n p segs ∧ p ≤ q ∧ q ≤ n ∧ p < n ∧ PlanSeg AsciiOn P n p n m ∧
    (q < n → n - q ≤ tailMax m)

theorem trace_planned {AsciiOn : Prop} {body : List Nat} {list : List Sym}
    (pre : List Nat) (hb : ByteList body) (hne : body ≠ []) (best : GPlan) (plan : List (Nat × EMode))
    (hfin : Final body list pre.length best)
    (hplan : plan = finPlan pre.length body.length (best.switches ++ [(0, best.current)]))
    (hroot : (best.switches ++ [(0, best.current)]).head? = some (body.length, .ascii) → AsciiOn)
    (hok : planOK body plan = true) :
    (∃ sE tr, traceLoop (2 * body.length + 8) (initSt list pre body plan) 0 [] = .ok (sE, tr) ∧
      TraceShape AsciiOn plan body.length tr) ∨
    traceLoop (2 * body.length + 8) (initSt list pre body plan) 0 [] = .error .tooMuch := by
  subst hplan
  have hpos : 0 < body.length := List.length_pos_iff.mpr hne
  obtain ⟨g0, p, w, m, j, gk, r, hh, hst, hpj, hj, hs, hre⟩ := hfin
  obtain ⟨hck, hcur, hsw, _, _⟩ := stepsTo_core j p g0 gk hst (hist_core hh).1
  obtain ⟨bsw, _, bcur, _, _, _⟩ := step_some_spec hck hs
  have hm0 := (hist_core hh).2
  rw [bsw, hsw, bcur, hcur, hm0] at hroot hok ⊢
  generalize hLdef : g0.switches ++ [(0, m)] = L at hroot hok ⊢
  obtain ⟨A, hA⟩ := hist_last hh
  have hplt : p < body.length := by omega
  have hseg : PlanSeg AsciiOn (finPlan pre.length body.length L) body.length p body.length m := by
    have hLA : L = A ++ (body.length - p, m) :: (body.length - body.length, m) :: [] := by
      rw [← hLdef, hA, Nat.sub_self]; simp
    rw [hLA]
    exact planSeg_fin _ body.length p body.length m m A [] hpos (by rw [← hLA]; exact hroot)
  obtain ⟨st0, hst0, hrun⟩ := run_planned pre rfl DM.Lemmas.CoupleGate.switchPlan_all DM.Props.C18Couple.switchEnc_all
    DM.Props.C18Couple.endSegSym_all hb hpos L (planOK_finPlan body _ _ _ hok) hh hst hpj hj hs hre hLdef.symm
  rw [(hst0.loops_eq _ _).2]
  rcases hrun with ⟨sE, used, nw, tr0, q, hc, hm, hu, hrec, hpq, hq, htail, -⟩ | ⟨s, used, nw, tr, hc, hm, he, hu, -⟩
  · obtain ⟨f, hf⟩ : ∃ f, 2 * body.length + 8 = used + (f + 1) := ⟨2 * body.length + 8 - used - 1, by omega⟩
    refine Or.inl ⟨sE, _, by rw [hf, hc.trace_eq (f + 1) [], List.nil_append, traceLoop_end f sE nw _ hm], tr0, p, q, m, rfl,
      recorded_of_recOK _ hpos hroot hrec, hpq, hq, hplt, hseg, htail⟩
  · obtain ⟨f, hf⟩ : ∃ f, 2 * body.length + 8 = used + 1 + f := ⟨2 * body.length + 8 - used - 1, by omega⟩
    exact Or.inr (by rw [hf]; exact hc.trace_err hm he f [])

theorem trace_final {AsciiOn : Prop} {body : List Nat} {list : List Sym}
    (pre : List Nat) (hb : ByteList body) (hne : body ≠ []) (best : GPlan) (plan : List (Nat × EMode))
    (hfin : Final body list pre.length best)
    (hplan : plan = finPlan pre.length body.length (best.switches ++ [(0, best.current)]))
    (hroot : (best.switches ++ [(0, best.current)]).head? = some (body.length, .ascii) → AsciiOn)
    (hok : planOK body plan = true) {sE : St} {tr : List Seg}
    (hrun : traceLoop (2 * body.length + 8) (initSt list pre body plan) 0 [] = .ok (sE, tr)) :
    TraceShape AsciiOn plan body.length tr := by
  rcases trace_planned (AsciiOn := AsciiOn) pre hb hne best plan hfin hplan hroot hok with ⟨sE', tr', h1, h2⟩ | h
  · rw [hrun] at h1
    cases h1
    exact h2
  · rw [hrun] at h
    cases h

end DM.Props.C13Tail
