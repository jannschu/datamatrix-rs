import DM.Lemmas.C10AB
import DM.Lemmas.TestSymbols
import DM.Lemmas.C10Plan
import DM.Lemmas.PlannedRun
import DM.Lemmas.ReachNorm
import DM.Model.PlannerAuto
/-!
# C10, second sentence: "never a larger symbol than plain ASCII encodation would need"

**The sentence is false for the planner model** (and so, as far as the model is faithful, for the crate):
`ascii_bound_false` (`aaaaaaaaa` + 5 × `123456a`, all six modes: Text throughout at 32 codewords, plain ASCII
needs 29). Mechanism: `unbeatableStrike` of the C40/Text plan (runs of ≤ 6 digits separated by one base-set
character never reach the count 7) keeps the plan "unbeatable" for the whole message, so `add_switches` is never
called on it; after nine letters its `switchCost` (96) is below the cost of the ASCII plan (108), which
dominance removes; from then on Text pays 56 twelfths per `123456a` where ASCII pays 48, so no `+ constant`
variant holds either. The same with `A` and C40 (mode sets 3, 7).

What is proved - for every message, symbol list, `written` offset and every valid log of sort permutations
(any order of equal-cost candidates), each as an invariant of the list of live plans that every round of the
loop keeps (`PlanRounds.optimize_rounds`; (a) and (b') need the costs modulo 12, `ReachNorm.rounds_normG`):

* `plan_exists` (a), ASCII enabled: some live plan is not `C10Plan.Bad` (`Lemmas/C10Plan.lean`).
* `ascii_only_cost` (b), ASCII alone: the potential `C10Pot.phi` of every live plan is `12 * asciiSize body`.
* `never_worse_than_ascii_ab` (b'), ASCII and Base 256 alone, any length (also beyond the 250-byte length-field
  boundary): some live plan has `C10Pot.phi ≤ 12 * asciiSize body` (`Lemmas/C10AB.lean`). Base 256 plans need not
  survive, so the tie between a plan with 250+ and one with fewer bytes does no harm.
* `never_larger_symbol_of_bound`: the corollary with the coupling theorem (`predicted_size_suffices_gate`)
  for any run in which the cost bound holds; `ascii_only_symbol`, `never_larger_symbol_ab` instantiate it.

Not proved: the bound for mode sets with X12 or EDIFACT but without C40 and Text (no counterexample is known).
Their look-aheads (`x12Init`, `ediInit`) make a plan "unbeatable" only for the last ≤ 2 / ≤ 4 characters, so
the unbounded loss above cannot occur; but in that end game the potential argument breaks: a plan in its
ASCII end has no ASCII child, and it can be removed by a cheaper plan of the same mode whose own finish is
12 twelfths dearer (e.g. `AAAAAA11`, modes 9: the X12 plan from the start, in its ASCII end at 78 with
final cost 84 = plain ASCII, against the X12 plan latched after one character at 72 whose own end costs
96; there the plan that stayed in ASCII survives and saves the bound).
-/
namespace DM.Props.C10Ascii
open DM.Model DM.Model.Plan DM.Model.Enc DM.Model.PlanSide DM.Lemmas DM.Lemmas.PlanInv DM.Lemmas.PlanLoop
open DM.Lemmas.C10Pot DM.Lemmas.C10Prune DM.Lemmas.C10Norm DM.Lemmas.C10AB DM.Lemmas.C10Plan

/-- **(a)** Whenever ASCII is enabled, `optimize` returns a plan (never "no plan"), whatever other modes are enabled. -/
theorem plan_exists (body : List Nat) (w : Nat) (list : List Sym) (modes : Nat) (perms : List (List Nat))
    (o : Outcome) (hasc : enabledMode modes .ascii = true)
    (h : optimize body w list modes perms = .ok o) : ∃ plan, o.plan = some plan := by
  have hcur : (CoupleReach.startPlan body list w).current ≠ .x12 := by
    simp [CoupleReach.startPlan, GPlan.current, newPlan, PlanImpl.mode]
  refine PlanRounds.optimize_rounds hasc (ReachNorm.rounds_normG fun _ _ _ _ => round_plan hasc)
    ⟨?_, Or.inl ⟨_, List.mem_singleton.mpr rfl, hcur⟩, _, List.mem_singleton.mpr rfl, nonx12_good hcur⟩ h
  intro g hg
  rw [List.mem_singleton.mp hg]
  exact ReachNorm.reach_start body list w

/-- **(b)** If ASCII is the only enabled mode, the planner returns a plan and predicts exactly the size of
plain ASCII encodation. -/
theorem ascii_only_cost (body : List Nat) (w : Nat) (list : List Sym) (modes : Nat) (perms : List (List Nat))
    (o : Outcome) (hasc : enabledMode modes .ascii = true)
    (honly : ∀ m, enabledMode modes m = true → m = .ascii)
    (h : optimize body w list modes perms = .ok o) :
    (∃ plan, o.plan = some plan) ∧ o.cost12 = 12 * asciiSize body := by
  obtain ⟨plan, hplan⟩ := plan_exists body w list modes perms o hasc h
  refine ⟨⟨plan, hplan⟩, PlanRounds.optimize_rounds hasc (fun _ _ _ _ => round_pure honly) ?_ h plan hplan⟩
  intro g hg
  rw [List.mem_singleton.mp hg]
  exact ⟨rfl, phi_start body list w⟩

/-- For any run of the planner in which the cost bound holds: within `planOK`, if prefix + plain ASCII
size fit the listed symbol `pa`, the encoder model succeeds on the planner's plan, in a symbol no larger
than `pa`. -/
theorem never_larger_symbol_of_bound (body pre : List Nat) (list : List Sym) (modes : Nat) (perms : List (List Nat))
    (o : Outcome) (plan : List (Nat × EMode)) (pa : Sym) (hb : ByteList body)
    (hopt : Plan.optimize body pre.length list modes perms = .ok o) (hp : o.plan = some plan)
    (hok : planOK body plan = true) (hbound : o.cost12 ≤ 12 * asciiSize body)
    (hfit : firstBigEnough list (pre.length + asciiSize body) = some pa) :
    ∃ cw sym, Enc.run list pre body plan = .ok (cw, sym) ∧ dataCw sym ≤ dataCw pa := by
  have hle : pre.length + o.cost12 / 12 ≤ pre.length + asciiSize body := by omega
  rcases PlannedRun.predicted_size_suffices_gate body pre list modes perms o plan hb hopt hp hok with
    ⟨h1, _⟩ | ⟨_, cw, sym, h2, h3⟩ | ⟨_, _, h3⟩
  · subst h1
    simp [firstBigEnough] at hfit
  · refine ⟨cw, sym, h2, ?_⟩
    cases hps : firstBigEnough list (pre.length + o.cost12 / 12) with
    | none => rw [SymbolList.fbe_none_mono _ _ _ hps hle] at hfit; cases hfit
    | some ps => exact Nat.le_trans (h3 ps hps) (SymbolList.fbe_some_le _ _ _ _ _ hps hfit hle)
  · rw [SymbolList.fbe_none_mono _ _ _ h3 hle] at hfit
    cases hfit

/-- ASCII as the only mode: the encoder never refuses what plain ASCII fits. -/
theorem ascii_only_symbol (body pre : List Nat) (list : List Sym) (modes : Nat) (perms : List (List Nat))
    (o : Outcome) (plan : List (Nat × EMode)) (pa : Sym) (hb : ByteList body)
    (hasc : enabledMode modes .ascii = true) (honly : ∀ m, enabledMode modes m = true → m = .ascii)
    (hopt : Plan.optimize body pre.length list modes perms = .ok o) (hp : o.plan = some plan)
    (hok : planOK body plan = true)
    (hfit : firstBigEnough list (pre.length + asciiSize body) = some pa) :
    ∃ cw sym, Enc.run list pre body plan = .ok (cw, sym) ∧ dataCw sym ≤ dataCw pa :=
  never_larger_symbol_of_bound body pre list modes perms o plan pa hb hopt hp hok
    (Nat.le_of_eq (ascii_only_cost body pre.length list modes perms o hasc honly hopt).2) hfit

/-- **(b')** If ASCII and Base 256 are the only enabled modes (ASCII enabled), the planner returns a plan
whose predicted cost is at most the cost of plain ASCII encodation. -/
theorem never_worse_than_ascii_ab (body : List Nat) (w : Nat) (list : List Sym) (modes : Nat)
    (perms : List (List Nat)) (o : Outcome) (hasc : enabledMode modes .ascii = true)
    (honly : ∀ m, enabledMode modes m = true → m = .ascii ∨ m = .base256)
    (h : optimize body w list modes perms = .ok o) :
    (∃ plan, o.plan = some plan) ∧ o.cost12 ≤ 12 * asciiSize body := by
  refine ⟨plan_exists body w list modes perms o hasc h,
    PlanRounds.optimize_rounds hasc (ReachNorm.rounds_normG fun _ _ _ _ _ => round_ab hasc honly)
      ⟨?_, _, List.mem_singleton.mpr rfl, ?_⟩ h⟩
  · intro g hg
    rw [List.mem_singleton.mp hg]
    exact ReachNorm.reach_start body list w
  · exact Nat.le_of_eq (phi_start body list w)

/-- ASCII and Base 256 only: within `planOK`, the encoder never refuses what plain ASCII fits and never
uses a larger symbol. -/
theorem never_larger_symbol_ab (body pre : List Nat) (list : List Sym) (modes : Nat) (perms : List (List Nat))
    (o : Outcome) (plan : List (Nat × EMode)) (pa : Sym) (hb : ByteList body)
    (hasc : enabledMode modes .ascii = true)
    (honly : ∀ m, enabledMode modes m = true → m = .ascii ∨ m = .base256)
    (hopt : Plan.optimize body pre.length list modes perms = .ok o) (hp : o.plan = some plan)
    (hok : planOK body plan = true)
    (hfit : firstBigEnough list (pre.length + asciiSize body) = some pa) :
    ∃ cw sym, Enc.run list pre body plan = .ok (cw, sym) ∧ dataCw sym ≤ dataCw pa :=
  never_larger_symbol_of_bound body pre list modes perms o plan pa hb hopt hp hok
    (never_worse_than_ascii_ab body pre.length list modes perms o hasc honly hopt).2 hfit

/-- `aaaaaaaaa123456a123456a123456a123456a123456a` -/
def cexBody : List Nat :=
  [97, 97, 97, 97, 97, 97, 97, 97, 97, 49, 50, 51, 52, 53, 54, 97, 49, 50, 51, 52, 53, 54, 97, 49, 50, 51, 52, 53, 54, 97,
   49, 50, 51, 52, 53, 54, 97, 49, 50, 51, 52, 53, 54, 97]
def cexList : List Sym := symbolList (List.range 30)

/-- the first 30 sizes stand in `Ord` order already -/
theorem cexList_eq : cexList = List.range 30 := symbols30

/-- All modes, the 30 standard sizes, sort permutations of a stable sort: the planner model predicts 32
codewords (Text throughout) where plain ASCII needs 29. -/
theorem refuted_cost : (match optimize cexBody 0 cexList 63 (permsFor cexBody 0 cexList 63) with
    | .ok o => o.plan == some [(44, EMode.text), (0, EMode.text)] && o.cost12 == 384
    | .error _ => false) = true ∧ enabledMode 63 .ascii = true ∧ 12 * asciiSize cexBody = 348 := by
  rw [cexList_eq]; decide +kernel

/-- The encoder model, run on the plan of `refuted_cost`, uses the symbol with 32 data codewords where plain ASCII
fits the one with 30. -/
theorem refuted_symbol :
    (match Enc.run cexList [] cexBody [(44, EMode.text), (0, EMode.text)] with
     | .ok (cw, sym) => cw.length == 32 && dataCw sym == 32
     | .error _ => false) = true ∧
    (firstBigEnough cexList (asciiSize cexBody)).map dataCw = some 30 := by rw [cexList_eq]; decide +kernel

/-- **The second sentence of C10 does not hold for the models.** There are a message, a symbol list, a mode
set with ASCII enabled and a valid log of sort permutations (those of `refuted_cost`) for which the planner's
predicted cost exceeds the cost of plain ASCII encodation and the encoder model, run on the planner's plan, ends
in a larger symbol than the one plain ASCII encodation fits. -/
theorem ascii_bound_false :
    ∃ (body : List Nat) (list : List Sym) (modes : Nat) (perms : List (List Nat)) (o : Outcome)
      (plan : List (Nat × EMode)) (cw : List Nat) (sym pa : Sym),
      enabledMode modes .ascii = true ∧ optimize body 0 list modes perms = .ok o ∧ o.plan = some plan ∧
      12 * asciiSize body < o.cost12 ∧ Enc.run list [] body plan = .ok (cw, sym) ∧
      firstBigEnough list (asciiSize body) = some pa ∧ dataCw pa < dataCw sym := by
  obtain ⟨h1, h2, h3⟩ := refuted_cost
  obtain ⟨h4, h5⟩ := refuted_symbol
  cases ho : optimize cexBody 0 cexList 63 (permsFor cexBody 0 cexList 63) with
  | error e => rw [ho] at h1; cases h1
  | ok o =>
    rw [ho] at h1
    simp only [Bool.and_eq_true, beq_iff_eq] at h1
    cases hr : Enc.run cexList [] cexBody [(44, EMode.text), (0, EMode.text)] with
    | error e => rw [hr] at h4; cases h4
    | ok res =>
      obtain ⟨cw, sym⟩ := res
      rw [hr] at h4
      simp only [Bool.and_eq_true, beq_iff_eq] at h4
      cases hf : firstBigEnough cexList (asciiSize cexBody) with
      | none => rw [hf] at h5; cases h5
      | some pa =>
        rw [hf] at h5
        simp only [Option.map_some, Option.some.injEq] at h5
        refine ⟨cexBody, cexList, 63, _, o, _, cw, sym, pa, h2, ho, h1.1, ?_, hr, ?_, ?_⟩
        · rw [h1.2]; omega
        · exact hf
        · rw [h5, h4.2]; decide

/-- the same with C40 (upper case) and only ASCII + C40 enabled: 37 bytes, 27 against 25 codewords -/
example : (match optimizeAuto ([65, 65, 65, 65, 65, 65, 65, 65, 65, 49, 50, 51, 52, 53, 54, 65, 49, 50, 51, 52, 53, 54, 65,
      49, 50, 51, 52, 53, 54, 65, 49, 50, 51, 52, 53, 54, 65]) 0 cexList 3 with
    | .ok o => o.cost12 == 324
    | .error _ => false) = true ∧
    12 * asciiSize ([65, 65, 65, 65, 65, 65, 65, 65, 65, 49, 50, 51, 52, 53, 54, 65, 49, 50, 51, 52, 53, 54, 65,
      49, 50, 51, 52, 53, 54, 65, 49, 50, 51, 52, 53, 54, 65]) = 300 := by rw [cexList_eq]; decide +kernel

/-- `ascii_only_cost` applies: mode set 1, "A1234b" (4 codewords) -/
example : enabledMode 1 .ascii = true ∧ (∀ m, enabledMode 1 m = true → m = .ascii) ∧
    (match optimize [65, 49, 50, 51, 52, 98] 0 cexList 1 (permsFor [65, 49, 50, 51, 52, 98] 0 cexList 1) with
     | .ok o => o.plan == some [(0, EMode.ascii)] && o.cost12 == 48
     | .error _ => false) = true := by
  refine ⟨by decide, ?_, by rw [cexList_eq]; decide +kernel⟩
  intro m
  cases m <;> decide

/-- `never_worse_than_ascii_ab` applies and is not trivial: mode set 33, three bytes ≥ 128 then "A12": the
planner takes Base 256 for four bytes and ASCII for the digit pair, 7 codewords against 8 in plain ASCII -/
example : enabledMode 33 .ascii = true ∧ (∀ m, enabledMode 33 m = true → m = .ascii ∨ m = .base256) ∧
    (match optimizeAuto [200, 201, 202, 65, 49, 50] 0 cexList 33 with
     | .ok o => o.plan.isSome && o.cost12 == 84
     | .error _ => false) = true ∧ 12 * asciiSize [200, 201, 202, 65, 49, 50] = 96 := by
  refine ⟨by decide, ?_, by rw [cexList_eq]; decide +kernel, by decide +kernel⟩
  intro m
  cases m <;> decide

/-- `plan_exists` with all modes, on an input where X12 plans die inside a triple -/
example : (match optimizeAuto [65, 65, 65, 65, 65, 65, 65, 97, 49, 49] 0 cexList 63 with
     | .ok o => o.plan.isSome
     | .error _ => false) = true := by rw [cexList_eq]; decide +kernel

/-- `plan_exists` without X12 (ASCII, C40, Text, EDIFACT, Base 256 = 55) -/
example : enabledMode 55 .ascii = true ∧ enabledMode 55 .x12 = false ∧
    (match optimizeAuto [65, 66, 67, 200, 49, 50, 97] 0 cexList 55 with
     | .ok o => o.plan.isSome
     | .error _ => false) = true := by rw [cexList_eq]; decide +kernel

end DM.Props.C10Ascii
