import DM.Lemmas.SymbolList
import DM.Spec.Table7
import DM.Lemmas.Sorted
import DM.Lemmas.Pairwise
/-!
# C12 — symbol catalogue and symbol-list filters match the standards

`Gen.sizes` is regenerated from the crate on every run; every `decide` below is
re-checked by the kernel against the current code.
-/
namespace DM.Props.C12
open DM.Gen DM.Model DM.Spec DM.Lemmas

/-- Catalogue row in the vocabulary of the standard. -/
def toStd (r : SizeRow) : StdRow :=
  ⟨r.height, r.width, r.extraH + 1, r.extraV + 1, r.dataCw, r.blocks * r.eccPer, r.blocks⟩

/-- Full statement of the catalogue part: the non-DMRE rows are exactly Table 7, the DMRE
rows exactly the ISO 21471 table (as sets, without repetition), with the flags agreeing. -/
def catalogueOK : Bool :=
  sizes.length == 48 &&
  sizes.all (fun r => if r.dmre then dmre.contains (toStd r) else table7.contains (toStd r)) &&
  table7.all (fun q => (sizes.filter fun r => !r.dmre && toStd r == q).length == 1) &&
  dmre.all (fun q => (sizes.filter fun r => r.dmre && toStd r == q).length == 1) &&
  sizes.all (fun r => r.padding == hasFixedCorner (toStd r)) &&
  sizes.all (fun r => r.square == (r.width == r.height))

theorem catalogue_eq_standard : catalogueOK = true := by decide +kernel

theorem row_mem {s : Sym} (hs : s < numSizes) : row s ∈ sizes := by
  rw [row, List.getD_eq_getElem?_getD, List.getElem?_eq_getElem hs]
  exact List.getElem_mem hs

/-- Every catalogue row is a row of the standard tables (Prop form). -/
theorem row_in_standard (r : SizeRow) (h : r ∈ sizes) :
    (r.dmre = true → toStd r ∈ dmre) ∧ (r.dmre = false → toStd r ∈ table7) := by
  have h0 := catalogue_eq_standard
  simp only [catalogueOK, Bool.and_eq_true] at h0
  have := List.all_eq_true.mp h0.1.1.1.1.2 r h
  constructor
  · intro hd; simpa [hd] using this
  · intro hd; simpa [hd] using this

theorem square_eq (s : Sym) (hs : s < numSizes) : (row s).square = ((row s).width == (row s).height) := by
  have h0 := catalogue_eq_standard
  simp only [catalogueOK, Bool.and_eq_true] at h0
  exact beq_iff_eq.mp (List.all_eq_true.mp h0.2 _ (row_mem hs))

/-- Module budget: the mapping matrix has exactly 8 modules per codeword, plus the
four fixed modules of 12/16/20/24. -/
theorem module_budget :
    ∀ s, s < numSizes →
      contentWidth s * contentHeight s = 8 * totalCw s + (if (row s).padding then 4 else 0) := by
  decide +kernel

/-- No two sizes share their outer dimensions (`try_from_bits` finds the size by them). -/
theorem dims_injective :
    (sizes.map fun r => (r.width, r.height)).Nodup := by decide +kernel

theorem capacity_consistent :
    ∀ s, s < numSizes → (row s).capMax = 2 * dataCw s ∧
      (row s).capMin + (if dataCw s ≤ 250 then 2 else 3) = dataCw s := by
  decide +kernel

def symLt (a b : Sym) : Bool := keyLt (ordKey a) (ordKey b)

theorem insertSym_eq (s : Sym) (l : List Sym) : insertSym s l = insertBy symLt s l := by
  induction l with
  | nil => rfl
  | cons t ts ih => simp only [insertSym, insertBy, symLt, ih]; rfl

theorem symbolList_eq (wl : List Sym) :
    symbolList wl = wl.foldl (fun acc s => insertBy symLt s acc) [] := by
  unfold symbolList
  congr 1
  funext acc s
  exact insertSym_eq s acc

/-- The dumped iteration orders are the model's: the one evaluation of the insertion sort (`default_list_eq` below follows
from `list_is_sorted_sublist`). -/
theorem all_list_eq : allList = master := by decide +kernel
theorem extended_list_eq : extendedList = master := all_list_eq

/-- the crate's table is in `Ord` order -/
theorem master_eq_range : master = List.range numSizes := all_list_eq.symm

theorem master_length : master.length = 48 := congrArg List.length master_eq_range

theorem mem_master (s : Sym) : s ∈ master ↔ s < numSizes := by
  rw [master_eq_range, List.mem_range]

theorem extended_eq_all :
    master.length = 48 ∧ master.Nodup ∧ ∀ s, s < numSizes → s ∈ master :=
  ⟨master_length, master_eq_range ▸ List.nodup_range, fun s => (mem_master s).mpr⟩

theorem symLt_trans {a b c : Sym} : symLt a b = true → symLt b c = true → symLt a c = true := by
  simp only [symLt, keyLt, Bool.or_eq_true, Bool.and_eq_true, decide_eq_true_eq, beq_iff_eq]
  omega

/-- Each size is below the next in the table (47 comparisons); the order being transitive, below all later ones. -/
theorem master_sorted : master.Pairwise (fun a b => symLt a b = true) := by
  have hs : ∀ i, i < 47 → symLt i (i + 1) = true := by decide +kernel
  rw [master_eq_range]
  exact List.pairwise_lt_range.imp_of_mem fun _ hb h =>
    rel_of_step (R := fun a b => symLt a b = true) symLt_trans hs _ _ h (Nat.le_of_lt_succ (List.mem_range.mp hb))

/-- The `Ord` key separates all 48 sizes (otherwise a `BTreeSet` would silently drop one). -/
theorem ord_key_injective :
    ∀ a, a < numSizes → ∀ b, b < numSizes → symLt a b = false → symLt b a = false → a = b :=
  fun a ha b hb => eq_of_pairwise master_sorted ((mem_master a).mpr ha) ((mem_master b).mpr hb)

theorem symLt_strict : StrictTotalOn symLt (fun s => s < numSizes) where
  irrefl := by
    intro a _
    simp [symLt, keyLt]
  trans := fun _ _ _ _ _ _ => symLt_trans
  tri := fun a b ha hb => ord_key_injective a ha b hb

/-- **Every** white-list iterates as the master order restricted to its members. -/
theorem list_is_sorted_sublist (wl : List Sym) (hw : ∀ s ∈ wl, s < numSizes) :
    symbolList wl = master.filter (fun s => wl.contains s) := by
  have hf := foldl_insertBy symLt_strict wl hw [] (by simp) List.Pairwise.nil
  rw [symbolList_eq]
  apply sorted_ext symLt_strict _ _ hf.1
  · intro x hx
    exact (mem_master x).mp (List.mem_filter.mp hx).1
  · exact hf.2.1
  · exact master_sorted.sublist List.filter_sublist
  · intro x
    rw [hf.2.2 x, List.mem_filter]
    simp only [List.not_mem_nil, or_false, List.contains_iff_mem]
    constructor
    · intro hx; exact ⟨(mem_master x).mpr (hw x hx), hx⟩
    · intro hx; exact hx.2

/-- the default white-list filters the table, which is in order already -/
theorem default_list_eq : defaultList = defaultSyms := by
  unfold defaultSyms
  rw [list_is_sorted_sublist _ fun s hs => List.mem_range.mp (List.mem_filter.mp hs).1, master_eq_range]
  decide +kernel

/-- The default list is exactly the 30 symbols of ISO/IEC 16022 (the extended list is all 48:
`extended_list_eq`, `extended_eq_all`). -/
theorem default_eq_iso16022 :
    defaultSyms.length = 30 ∧ defaultSyms.Nodup ∧
    (∀ s ∈ defaultSyms, toStd (row s) ∈ table7) ∧
    (∀ q ∈ table7, ∃ s ∈ defaultSyms, toStd (row s) = q) := by
  rw [← default_list_eq]
  decide +kernel

/-- the `Ord` key begins with the capacity -/
theorem dataCw_le_of_symLt {a b : Sym} (h : symLt a b = true) : dataCw a ≤ dataCw b := by
  rcases Bool.or_eq_true_iff.mp h with h | h
  · exact Nat.le_of_lt (of_decide_eq_true h)
  · exact Nat.le_of_eq (beq_iff_eq.mp (Bool.and_eq_true_iff.mp h).1)

/-- A list iterates in order of non-decreasing data capacity. -/
theorem master_capacity_sorted : master.Pairwise (fun a b => dataCw a ≤ dataCw b) :=
  master_sorted.imp dataCw_le_of_symLt

theorem iter_nondecreasing_capacity (wl : List Sym) (hw : ∀ s ∈ wl, s < numSizes) :
    (symbolList wl).Pairwise (fun a b => dataCw a ≤ dataCw b) := by
  rw [list_is_sorted_sublist wl hw]
  exact master_capacity_sorted.sublist List.filter_sublist

/-! ## Filters keep exactly the symbols satisfying the predicate -/

theorem filter_width_spec (lo hi : Bound) (l : List Sym) (s : Sym) :
    s ∈ enforceWidthIn lo hi l ↔ s ∈ l ∧ rangeContains lo hi (row s).width = true := by
  simp [enforceWidthIn, List.mem_filter]

theorem filter_height_spec (lo hi : Bound) (l : List Sym) (s : Sym) :
    s ∈ enforceHeightIn lo hi l ↔ s ∈ l ∧ rangeContains lo hi (row s).height = true := by
  simp [enforceHeightIn, List.mem_filter]

theorem filter_square_spec (l : List Sym) (s : Sym) (hs : s < numSizes) :
    s ∈ enforceSquare l ↔ s ∈ l ∧ (row s).width = (row s).height := by
  simp [enforceSquare, List.mem_filter, square_eq s hs]

theorem filter_rect_spec (l : List Sym) (s : Sym) (hs : s < numSizes) :
    s ∈ enforceRectangular l ↔ s ∈ l ∧ (row s).width ≠ (row s).height := by
  simp [enforceRectangular, List.mem_filter, square_eq s hs]

/-- `rangeContains` is the mathematical interval. -/
theorem rangeContains_spec (lo hi : Bound) (x : Nat) :
    rangeContains lo hi x = true ↔
      (match lo with | .unbounded => True | .included n => n ≤ x | .excluded n => n < x) ∧
      (match hi with | .unbounded => True | .included n => x ≤ n | .excluded n => x < n) := by
  cases lo <;> cases hi <;> simp [rangeContains]

/-- Filters preserve the order (hence compositions of filters are filters of the master order). -/
theorem filters_preserve_order (p : Sym → Bool) (l : List Sym)
    (h : l.Pairwise (fun a b => symLt a b = true)) :
    (l.filter p).Pairwise (fun a b => symLt a b = true) :=
  h.sublist List.filter_sublist

/-! ## The symbol picked is the first of the order that is large enough -/

theorem first_big_enough_spec (l : List Sym) (n : Nat) (s : Sym)
    (hl : l.Pairwise (fun a b => dataCw a ≤ dataCw b))
    (h : firstBigEnough l n = some s) :
    s ∈ l ∧ n ≤ dataCw s ∧ ∀ s' ∈ l, n ≤ dataCw s' → dataCw s ≤ dataCw s' := by
  refine ⟨SymbolList.fbe_mem h, SymbolList.fbe_some_ge l n s h, fun s' hs' hn => ?_⟩
  -- `s'` holds `n`, so it does not stand in front of `s`; behind `s` the list is sorted
  obtain ⟨_, as, bs, rfl, has⟩ := SymbolList.fbe_eq_some_iff.mp h
  rcases List.mem_append.mp hs' with h1 | h1
  · exact absurd (has s' h1) (Nat.not_lt.mpr hn)
  · rcases List.mem_cons.mp h1 with rfl | h2
    · exact Nat.le_refl _
    · exact (List.pairwise_cons.mp (List.pairwise_append.mp hl).2.1).1 s' h2

theorem first_big_enough_none (l : List Sym) (n : Nat) (h : firstBigEnough l n = none) :
    ∀ s ∈ l, dataCw s < n :=
  SymbolList.fbe_eq_none_iff.mp h

/-- Non-vacuity: the hypotheses are met by the default list and a real request. -/
example : firstBigEnough defaultSyms 13 = some 6 ∧ dataCw 6 = 16 := by decide +kernel

end DM.Props.C12
