import DM.Lemmas.CoupleMain
import DM.Lemmas.CoupleAscii
import DM.Lemmas.CoupleB256
import DM.Lemmas.CoupleX12
import DM.Lemmas.CoupleEdi
import DM.Lemmas.CoupleC40
import DM.Lemmas.TestSymbols
import Batteries.Lean.Except
/-!
# C18 (last sentence) / C11 (encoder half) — the planner / encoder coupling, assembled

"The encoder never needs a larger symbol than the size the planner predicted for its chosen plan"
(C18: `predicted_size_suffices_planOK`), and "no assertion of the encoder fires on the planner's own plan" (C11, encoder
half: `encoder_no_panic_planOK`).

`Lemmas/CoupleMain.lean` composes per-mode facts along the switch list of the plan `Plan.optimize`
returns: the planner halves `CoupleGate.switchPlan_all` and the encoder halves `switchEnc_all`, `endSegSym_all`, which this
file collects from `Lemmas/CoupleAscii.lean`, `CoupleB256.lean`, `CoupleX12.lean`, `CoupleEdi.lean` and `CoupleC40.lean`.
The theorems' only hypothesis beyond "`plan` is the plan `optimize` returns for the byte string `body`"
is the decidable condition `PlanSide.planOK body plan = true`: no switch out of C40 / Text at one of
the last two positions of a message that ends with two digits, other than the final switch to ASCII
exactly two characters before the end.  (For plans outside `planOK` the encoder's two-digit special
cases override the plan; `CoupleC40.switchSeg_c40_false` is a counterexample to the unrestricted
per-segment statement.)
-/
namespace DM.Props.C18Couple
open DM.Model DM.Model.Plan DM.Model.Enc DM.Lemmas DM.Lemmas.AsciiRT DM.Lemmas.Couple DM.Lemmas.CoupleMain DM.Model.PlanSide

theorem lateSwitchSeg_of_ne (m : EMode) (h1 : m ≠ .c40) (h2 : m ≠ .text) : LateSwitchSeg m := by
  intro body list p w k g0 gk ac ctx' s _ _ _ hc
  rcases hc with hc | hc
  · exact absurd hc h1
  · exact absurd hc h2

theorem switchSegX_ascii : SwitchSegX .ascii := switchSegX_of_switchSeg _ CoupleAscii.switchSeg_ascii
theorem switchSegX_base256 : SwitchSegX .base256 := switchSegX_of_switchSeg _ CoupleB256.switchSeg_base256
theorem switchSegX_x12 : SwitchSegX .x12 := switchSegX_of_switchSeg _ CoupleX12.switchSeg_x12
theorem switchSegX_edifact : SwitchSegX .edifact := switchSegX_of_switchSeg _ CoupleEdi.switchSeg_edifact

theorem lateSwitchSeg_ascii : LateSwitchSeg .ascii := lateSwitchSeg_of_ne _ (by decide) (by decide)
theorem lateSwitchSeg_base256 : LateSwitchSeg .base256 := lateSwitchSeg_of_ne _ (by decide) (by decide)
theorem lateSwitchSeg_x12 : LateSwitchSeg .x12 := lateSwitchSeg_of_ne _ (by decide) (by decide)
theorem lateSwitchSeg_edifact : LateSwitchSeg .edifact := lateSwitchSeg_of_ne _ (by decide) (by decide)

theorem endSegSym_ascii : EndSegSym .ascii := endSegSym_of_endSegS CoupleAscii.endSegS_ascii
theorem endSegSym_base256 : EndSegSym .base256 := endSegSym_of_endSegS CoupleB256.endSegS_base256
theorem endSegSym_x12 : EndSegSym .x12 := endSegSym_of_endSegS CoupleX12.endSegS_x12
theorem endSegSym_edifact : EndSegSym .edifact := endSegSym_of_endSegS CoupleEdi.endSegS_edifact

theorem segProgress_ascii : SegProgress .ascii := segProgress_of_switchPlan CoupleAscii.switchPlan_ascii
theorem segProgress_base256 : SegProgress .base256 := segProgress_of_switchPlan CoupleB256.switchPlan_base256
theorem segProgress_x12 : SegProgress .x12 := segProgress_of_switchPlan CoupleX12.switchPlan_x12
theorem segProgress_edifact : SegProgress .edifact := segProgress_of_switchPlan CoupleEdi.switchPlan_edifact

/-- **What is known about the C40 / Text plan and encoder** (`c40Facts` below, from `Lemmas/CoupleC40.lean`), in the
shape of `Lemmas/CoupleMain.lean`. -/
structure C40Facts : Prop where
  sX_c40 : SwitchSegX .c40
  sX_text : SwitchSegX .text
  late_c40 : LateSwitchSeg .c40
  late_text : LateSwitchSeg .text
  end_c40 : EndSegSym .c40
  end_text : EndSegSym .text
  prog_c40 : SegProgress .c40
  prog_text : SegProgress .text

/-! ### C40 / Text: the proofs

`Lemmas/CoupleC40.lean` states its results for `cmode text` (`text = false`: C40, `text = true`: Text) and
with its own side conditions `digitSplit` / `digitTail`.  `lateDigits body r` (`r` characters remain, `r ∈ {1, 2}`, the message ends with two digits)
is exactly "`digitSplit` or `digitTail`" at the switch position. -/

theorem lateDigits_of_twoDigits (body : List Nat) (a r : Nat) (h1 : a + 2 = body.length)
    (h2 : twoDigitsComing (body.drop a) = true) (hr : r = 1 ∨ r = 2) : lateDigits body r = true := by
  obtain ⟨d1, d2⟩ := CoupleC40.two_digits_last h1 h2
  have e1 : body.length - 2 = a := by omega
  have e2 : body.length - 1 = a + 1 := by omega
  have e3 : 2 ≤ body.length := by omega
  unfold lateDigits
  rw [e1, e2, d1, d2]
  rcases hr with rfl | rfl <;> simp [e3]

theorem twoDigits_of_lateDigits (body : List Nat) (a r : Nat) (h1 : a + 2 = body.length)
    (h : lateDigits body r = true) : twoDigitsComing (body.drop a) = true := by
  have e1 : body.length - 2 = a := by omega
  have e2 : body.length - 1 = a + 1 := by omega
  simp only [lateDigits, Bool.and_eq_true, e1, e2] at h
  obtain ⟨⟨_, d1⟩, d2⟩ := h
  have ha : a < body.length := by omega
  have ha1 : a + 1 < body.length := by omega
  rw [List.drop_eq_getElem_cons ha, List.drop_eq_getElem_cons ha1]
  simp only [twoDigitsComing, Bool.and_eq_true]
  simpa [List.getD, List.getElem?_eq_getElem ha, List.getElem?_eq_getElem ha1] using And.intro d1 d2

theorem no_digit_case (text : Bool) (body : List Nat) (p k : Nat)
    (h : lateDigits body (body.length - (p + k)) = false) :
    CoupleC40.digitSplit text body p k = false ∧ CoupleC40.digitTail body p k = false := by
  constructor
  · apply Bool.eq_false_iff.mpr
    intro hd
    obtain ⟨hk, h1, h2, _⟩ : 1 ≤ k ∧ CoupleC40.DigitExit text body p (k - 1) := of_decide_eq_true hd
    rw [lateDigits_of_twoDigits body (p + (k - 1)) _ h1 h2 (Or.inl (by omega))] at h
    cases h
  · apply Bool.eq_false_iff.mpr
    intro hd
    obtain ⟨h1, h2⟩ : p + k + 2 = body.length ∧ twoDigitsComing (body.drop (p + k)) = true := of_decide_eq_true hd
    rw [lateDigits_of_twoDigits body (p + k) _ h1 h2 (Or.inr (by omega))] at h
    cases h

theorem cmode_ne_ascii (text : Bool) : CoupleC40.cmode text ≠ .ascii := by cases text <;> decide

theorem switchSegX_cmode (text : Bool) : SwitchSegX (CoupleC40.cmode text) := by
  intro body list p w k g0 gk ac ctx' m' rest s hb hlt hk hside hpl hst hsp hsc hul hne henc
  have hk1 : 1 ≤ k := hk.resolve_right (cmode_ne_ascii text)
  obtain ⟨n1, n2⟩ := no_digit_case text body p k (hside (by cases text <;> simp [CoupleC40.cmode]))
  obtain ⟨a, b, _, c⟩ := CoupleC40.switchSegC40' text body list p w k g0 gk ac ctx' m' rest s hb hlt hk1 hpl hst hsp
    hsc hul hne henc n1 n2
  exact ⟨a, b, c⟩

theorem segProgress_cmode (text : Bool) : SegProgress (CoupleC40.cmode text) :=
  segProgress_of_switchPlan (CoupleC40.switchPlan_cmode text)

theorem lateSwitchSeg_cmode (text : Bool) : LateSwitchSeg (CoupleC40.cmode text) := by
  intro body list p w k g0 gk ac ctx' s hb hpk hk _ hld hpl hst hsp hsc hul henc
  have hr : body.length - (p + k) = 2 := by omega
  have ht : CoupleC40.digitTail body p k = true := by
    exact decide_eq_true ⟨hpk, twoDigits_of_lateDigits body (p + k) 2 hpk hld⟩
  obtain ⟨a, b, _, c⟩ := CoupleC40.switchSegC40Tail text body list p w k g0 gk ac ctx' s hb (by omega) hk hpl hst hsp
    hsc hul (by rw [hr]; exact henc) ht
  refine ⟨a, b, ?_⟩
  rcases c with ⟨s', c1, c2, c3, c4, c5, _, c7, c8, c9, c10⟩ | c
  · exact Or.inl ⟨s', c1, c2, c3, c4, c8, c9, c10, by omega, c5⟩
  · exact Or.inr c

theorem endSegSym_cmode (text : Bool) : EndSegSym (CoupleC40.cmode text) := by
  intro body list p w k g0 gk gE r s hb hpk hk hpl hst hs hre henc
  exact CoupleC40.endSegC40' text body list p w k g0 gk gE r s hb hpk (hk.resolve_right (cmode_ne_ascii text)) hpl hst
    hs hre henc

theorem c40Facts : C40Facts where
  sX_c40 := switchSegX_cmode false
  sX_text := switchSegX_cmode true
  late_c40 := lateSwitchSeg_cmode false
  late_text := lateSwitchSeg_cmode true
  end_c40 := endSegSym_cmode false
  end_text := endSegSym_cmode true
  prog_c40 := segProgress_cmode false
  prog_text := segProgress_cmode true

theorem switchEnc_all : ∀ m, SwitchEnc m
  | .ascii => switchEnc_of_switchSeg CoupleAscii.switchSeg_ascii
  | .c40 => switchEnc_of_late (switchSegX_cmode false) (lateSwitchSeg_cmode false)
  | .text => switchEnc_of_late (switchSegX_cmode true) (lateSwitchSeg_cmode true)
  | .x12 => switchEnc_of_switchSeg CoupleX12.switchSeg_x12
  | .edifact => switchEnc_of_switchSeg CoupleEdi.switchSeg_edifact
  | .base256 => switchEnc_of_switchSeg CoupleB256.switchSeg_base256

theorem endSegSym_all : ∀ m, EndSegSym m
  | .ascii => endSegSym_ascii
  | .c40 => endSegSym_cmode false
  | .text => endSegSym_cmode true
  | .x12 => endSegSym_x12
  | .edifact => endSegSym_edifact
  | .base256 => endSegSym_base256

/-- **C18, last sentence: the predicted size suffices** (for plans within `planOK`).

Let `plan` be the plan the optimiser returns for `body` after `pre.length` prefix codewords, and
`o.cost12 / 12` the codewords it predicts.  Then one of the following (mutually exclusive) cases describes the encoder's run
on that plan:
1. the symbol list is empty: the encoder answers `listEmpty`;
2. the message has more characters than the largest listed symbol holds as digit pairs: the encoder
   answers `tooMuch` before it looks at the plan;
3. the encoder succeeds, and the symbol it chooses is no larger than the symbol
   `first_symbol_big_enough_for` returns for prefix + predicted codewords (if it returns one);
4. the encoder answers `tooMuch`, and prefix + predicted codewords fit no listed symbol either. -/
theorem predicted_size_suffices_planOK
    (body pre : List Nat) (list : List Sym) (modes : Nat) (perms : List (List Nat)) (o : Outcome)
    (plan : List (Nat × EMode)) (hb : ByteList body)
    (hopt : Plan.optimize body pre.length list modes perms = .ok o) (hp : o.plan = some plan)
    (hok : planOK body plan = true) :
    (list = [] ∧ Enc.run list pre body plan = .error .listEmpty) ∨
    (list ≠ [] ∧ maxCapacity list < body.length ∧ Enc.run list pre body plan = .error .tooMuch) ∨
    (list ≠ [] ∧ body.length ≤ maxCapacity list ∧ ∃ cw sym, Enc.run list pre body plan = .ok (cw, sym) ∧
      ∀ ps, firstBigEnough list (pre.length + o.cost12 / 12) = some ps → dataCw sym ≤ dataCw ps) ∨
    (list ≠ [] ∧ body.length ≤ maxCapacity list ∧ Enc.run list pre body plan = .error .tooMuch ∧
      firstBigEnough list (pre.length + o.cost12 / 12) = none) :=
  CoupleMain.predicted_size_suffices_of_modes CoupleGate.switchPlan_all switchEnc_all endSegSym_all body pre list modes perms o plan hb
    hopt hp hok

/-- **C11, encoder half: on the optimiser's own plan (within `planOK`) the encoder model reaches none of
its panic sites and does not run out of fuel.** -/
theorem encoder_no_panic_planOK
    (body pre : List Nat) (list : List Sym) (modes : Nat) (perms : List (List Nat)) (o : Outcome)
    (plan : List (Nat × EMode)) (hb : ByteList body)
    (hopt : Plan.optimize body pre.length list modes perms = .ok o) (hp : o.plan = some plan)
    (hok : planOK body plan = true) :
    (∀ site, Enc.run list pre body plan ≠ .error (.panic site)) ∧ Enc.run list pre body plan ≠ .error .fuel :=
  CoupleMain.encoder_no_panic_of_modes CoupleGate.switchPlan_all switchEnc_all endSegSym_all body pre list modes perms o plan hb hopt hp
    hok

/-! ### non-vacuity

The hypotheses of the two theorems are satisfiable on a message for which the
optimiser returns a mixed plan: the bytes of `"ABCDEFGHI"`, six bytes ≥ 200 and `"123456"` after one
prefix codeword (232, FNC1), the 30 standard sizes, ASCII + X12 + Base 256 enabled (`modes = 41`), and the
sort permutations a stable sort by cost produces.
The optimiser plans X12 for the nine letters, Base 256 for the six bytes and ASCII for the digits at
19 codewords (`228 / 12`); the encoder, run on that plan, returns 22 codewords = 1 prefix + 19 + 2 pad
in symbol 9 (22 data codewords), the symbol predicted for 1 + 19 codewords — case 3 of
`predicted_size_suffices_planOK`. -/

deriving instance DecidableEq for Outcome

def exBody : List Nat := [65, 66, 67, 68, 69, 70, 71, 72, 73, 200, 201, 202, 203, 204, 205, 49, 50, 51, 52, 53, 54]
def exPre : List Nat := [232]
def exList : List Sym := symbolList (List.range 30)
def exModes : Nat := 41
def exPerms : List (List Nat) :=
  [[0, 2, 1], [0, 3, 2, 1, 4, 5, 6], [0, 3, 4, 2, 1, 5, 6, 8, 9, 7, 10], [3, 0, 6, 2, 4, 1, 7, 8, 10, 11, 9, 12, 5],
   [0, 4, 1, 3, 5, 2, 7, 8, 10, 11, 9, 12, 6], [0, 1, 3, 2, 4, 5, 7, 8, 6, 9], [0, 1, 3, 5, 2, 4, 6, 7, 9, 10, 8, 11],
   [0, 1, 4, 7, 3, 6, 2, 5, 8, 9, 11, 12, 14, 15, 10, 13, 16], [0, 1, 4, 7, 3, 6, 2, 5, 8, 9, 11, 12, 14, 15, 10, 13, 16],
   [0, 1], [0, 2, 1, 3], [2, 0, 3, 1], [0, 1], [0, 1], [0, 1], [1, 0, 2], [0, 2, 1, 4, 3], [0, 2, 1, 3], [0, 2, 1, 3],
   [0, 2, 1, 3], [0, 1, 2, 3], [0]]
def exPlan : List (Nat × EMode) := [(21, .x12), (12, .base256), (6, .ascii), (0, .ascii)]
def exOutcome : Outcome := { plan := some exPlan, cost12 := 228, steps := 152, maxLive := 7 }

theorem exList_eq : exList = List.range 30 := symbols30

theorem exOptimize : Plan.optimize exBody exPre.length exList exModes exPerms = .ok exOutcome := by rw [exList_eq]; decide +kernel
theorem exPlanOK : planOK exBody exPlan = true := by decide +kernel
theorem maxCapacity_exList : maxCapacity exList = 160 := by rw [exList_eq]; decide +kernel
theorem exFit : firstBigEnough exList (exPre.length + exOutcome.cost12 / 12) = some 9 := by rw [exList_eq]; decide +kernel

example :
    ByteList exBody ∧
    Plan.optimize exBody exPre.length exList exModes exPerms = .ok exOutcome ∧
    exOutcome.plan = some exPlan ∧
    planOK exBody exPlan = true ∧
    exList ≠ [] ∧ exBody.length ≤ maxCapacity exList ∧
    Enc.run exList exPre exBody exPlan =
      .ok ([232, 238, 89, 233, 109, 36, 128, 95, 254, 231, 116, 204, 98, 249, 143, 38, 188, 142, 164, 186, 129, 118], 9) ∧
    firstBigEnough exList (exPre.length + exOutcome.cost12 / 12) = some 9 :=
  ⟨by decide, exOptimize, rfl, exPlanOK, by rw [exList_eq]; decide, by rw [maxCapacity_exList]; decide, by rw [exList_eq]; decide +kernel, exFit⟩

/-- the theorems apply to this instance (their hypotheses have the shape established above) -/
example (hc : C40Facts) :
    (∀ site, Enc.run exList exPre exBody exPlan ≠ .error (.panic site)) ∧
      Enc.run exList exPre exBody exPlan ≠ .error .fuel :=
  encoder_no_panic_planOK exBody exPre exList exModes exPerms exOutcome exPlan (by decide) exOptimize rfl exPlanOK

/-! A second instance, with C40 and Text segments: the bytes of `"ABCDEFGHIabcdefghi12"`, no prefix
codewords, ASCII + C40 + Text enabled (`modes = 7`).  The optimiser plans C40 for the nine upper-case
letters and Text for the rest at 17 codewords (`204 / 12`), which asks for symbol 7 (18 data codewords);
the encoder ends the Text segment with the two digits as one ASCII codeword and needs 16 codewords only:
symbol 6 — smaller than predicted, as the theorem allows. -/

def ex2Body : List Nat := [65, 66, 67, 68, 69, 70, 71, 72, 73, 97, 98, 99, 100, 101, 102, 103, 104, 105, 49, 50]
def ex2Modes : Nat := 7
def ex2Perms : List (List Nat) :=
  [[0, 2, 1], [0, 3, 2, 1], [0, 3, 4, 2, 1], [3, 0, 4, 2, 1], [0, 1, 3, 2, 4, 5, 6], [0, 1, 3, 2, 4, 5, 6], [0, 1, 3, 2],
   [0, 1, 3, 2, 4, 5, 6], [0, 1, 3, 2], [0, 1, 2], [0, 3, 6, 4, 1, 5, 2], [0, 3, 6, 4, 5, 1, 2], [6, 3, 0, 4, 1, 5, 2],
   [0, 1, 2, 4, 3, 5, 6], [0, 1, 2, 4, 3, 5, 6], [0, 1, 2, 3, 4, 5, 6], [0, 1, 2, 3, 4, 5, 6], [0, 1, 2, 3], [0], [0], [0]]
def ex2Plan : List (Nat × EMode) := [(20, .c40), (11, .text), (0, .text)]

theorem ex2Fit : firstBigEnough exList 17 = some 7 := by rw [exList_eq]; decide +kernel

example : ∃ o,
    ByteList ex2Body ∧
    Plan.optimize ex2Body ([] : List Nat).length exList ex2Modes ex2Perms = .ok o ∧
    o.plan = some ex2Plan ∧ o.cost12 = 204 ∧
    planOK ex2Body ex2Plan = true ∧
    exList ≠ [] ∧ ex2Body.length ≤ maxCapacity exList ∧
    Enc.run exList [] ex2Body ex2Plan =
      .ok ([230, 89, 233, 109, 36, 128, 95, 254, 239, 89, 233, 109, 36, 128, 95, 142], 6) ∧
    firstBigEnough exList (([] : List Nat).length + o.cost12 / 12) = some 7 ∧
    dataCw 6 = 16 ∧ dataCw 7 = 18 := by
  refine ⟨{ plan := some ex2Plan, cost12 := 204, steps := 105, maxLive := 3 }, by decide, ?_, rfl, rfl,
    by decide +kernel, by rw [exList_eq]; decide, by rw [maxCapacity_exList]; decide, by rw [exList_eq]; decide +kernel, ex2Fit,
    by decide +kernel, by decide +kernel⟩
  rw [exList_eq]
  decide +kernel

end DM.Props.C18Couple
