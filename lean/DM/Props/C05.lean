import DM.Lemmas.DecTotal
import DM.Lemmas.DecStr
import DM.Props.C08
import DM.Lemmas.RSTotal
import DM.Lemmas.LDTotal
/-!
# C05 — decoding untrusted input never panics or hangs

Proved here (for the models, whose every Rust panic site is an explicit outcome):
* `decode_data_total`: for **every** list of codewords the data decoder returns a value or
  one of its documented errors — no panic outcome, and the loop bound of the model (the
  stand-in for non-termination) is never reached;
* `decode_str_total`: the same for the string decoder: the ECI span starts recorded while decoding
  are non-decreasing and never beyond the output, so `eci::convert` never slices out of range, and
  the per-byte conversion tables (regenerated from the code) cover every byte;
* `try_from_bits_total`: the bitmap parser reads only positions inside the pixel array;
* `rs_decode_panics_only_algebraic`: the Reed–Solomon decoder model (syndromes, Levinson–Durbin with
  its singular case, Chien search, malfunction test, Björck–Pereyra, correction) can reach none of its
  ~45 index, slice, subtraction, division and assertion panic sites; the only panic outcomes left are
  the two debug assertions that re-check equations (3) and (4) of the Levinson–Durbin recursion
  (they exist only in builds with debug assertions), and the decoder always terminates (the model's
  loops are bounded by construction);
* `rs_decode_total`: those two never fire either — equations (3) and (4) are invariants of the
  recursion, in the regular and in the singular case (`DM/Lemmas/LD*.lean`) — in the checked and in
  the release profile alike.
-/
namespace DM.Props.C05
open DM.Model DM.Model.Dec DM.Lemmas

theorem good_total {α : Type} {r : R α} (h : Good r) :
    (∃ v, r = .ok v) ∨ (∃ e, r = .error e ∧ (∀ s, e ≠ .panic s) ∧ e ≠ .fuel) := by
  cases hd : r with
  | ok v => exact Or.inl ⟨v, rfl⟩
  | error e =>
    refine Or.inr ⟨e, rfl, ?_, ?_⟩
    · intro s hs; subst hs; exact h _ hd
    · intro hs; subst hs; exact h _ hd

/-- **Totality of `decode_data`** for all inputs. -/
theorem decode_data_total (data : List Nat) :
    (∃ v, decodeData data = .ok v) ∨
    (∃ e, decodeData data = .error e ∧ (∀ s, e ≠ .panic s) ∧ e ≠ .fuel) :=
  good_total (decodeData_good data)

/-- **Totality of `decode_str`** for every slice of codewords (bytes): a value or a documented
error (charset, not implemented, ECI, unexpected character / end), never a panic or a hang. -/
theorem decode_str_total (data : List Nat) (hb : ∀ b ∈ data, b < 256) :
    (∃ v, decodeStr data = .ok v) ∨
    (∃ e, decodeStr data = .error e ∧ (∀ s, e ≠ .panic s) ∧ e ≠ .fuel) :=
  good_total (decodeStr_good data hb)

/-- the ECI span starts handed to `eci::convert` are sorted and inside the output -/
theorem eci_spans_in_range (data : List Nat) (p : Parts) (hb : ∀ b ∈ data, b < 256)
    (h : decodeParts data false = .ok p) :
    p.ecis.Pairwise (fun a b => a.1 ≤ b.1) ∧ ∀ e ∈ p.ecis, e.1 ≤ p.output.length :=
  ((decodeParts_spec data false).2 p h hb).2

/-- the C40/Text lookup tables regenerated from the code have the lengths the decoder indexes
with and hold 7-bit values only (an upper shift cannot overflow a byte) -/
theorem decoder_tables_ok : c40TablesOK = true := c40_tables_ok

/-- **The parser stays inside the pixel array**: for every symbol size, every position checked
or copied by `try_from_bits` is below `height × width`, and the padding check stays inside the
collected entries. -/
theorem try_from_bits_total (s : Sym) (hs : s < numSizes) :
    (∀ q ∈ alignChecks s, q.1 < (row s).height * (row s).width) ∧
    (∀ p ∈ takes s, p < (row s).height * (row s).width) ∧
    (∀ q ∈ padChecks s, q.1 < contentWidth s * contentHeight s) := by
  have F := C08.finder_facts s hs
  refine ⟨fun q hq => (F.checks q hq).1, ?_, ?_⟩
  · rw [F.takes_eq]; exact F.cells_lt
  · intro q hq
    unfold padChecks at hq
    split at hq
    · obtain ⟨hw, hh⟩ := C08.content_ge_two s hs
      have hpos : contentWidth s * 2 ≤ contentWidth s * contentHeight s := Nat.mul_le_mul_left _ hh
      simp only [fdims, List.mem_cons, List.mem_nil_iff, or_false] at hq
      rcases hq with rfl | rfl | rfl | rfl <;> simp only <;> omega
    · simp at hq

/-- Non-vacuity: a macro symbol with an ECI designator inside (four span starts). -/
example : (match decodeParts [236, 66, 241, 27, 67, 129] false with
    | .ok p => p.ecis == [(0, 26), (7, 0), (8, 26), (9, 26)] && p.output.length == 11
    | .error _ => false) = true := by decide +kernel

/-- Non-vacuity: a stream that drives the decoder through C40 with an upper shift. -/
example : (match decodeData [230, 10, 242, 164, 182, 254, 129, 56] with
    | .ok v => v == [0xDF, 65, 49]
    | .error _ => false) = true := by decide +kernel

/-- **The Reed–Solomon decoder never reaches an index / slice / subtraction / division / `assert!`
panic site**, for every size and every codeword vector of the size's length: the only panic
outcomes of the model are the debug re-checks of the Levinson–Durbin equations (3) and (4). -/
theorem rs_decode_panics_only_algebraic (s : Sym) (cw : List Nat)
    (hlen : cw.length = (row s).dataCw + (row s).blocks * (row s).eccPer) (site : String)
    (h : RS.decode s cw = .error (.panic site)) :
    site = "debug_assert eq (3)" ∨ site = "debug_assert eq (4)" :=
  DM.Lemmas.RSTotal.decode_panic_algebraic_of_length s cw hlen site h

/-- **Totality of the Reed–Solomon decoder**: for every size and every word of the size's length
the model returns the corrected vector or one of `TooManyErrors`, `ErrorsOutsideRange`,
`Malfunction` — no panic outcome at all (the Levinson–Durbin identities (3), (4) hold, so the two
debug assertions cannot fire either), and it terminates by construction. -/
theorem rs_decode_total (s : Sym) (cw : List Nat)
    (hlen : cw.length = (row s).dataCw + (row s).blocks * (row s).eccPer) :
    (∃ out, RS.decode s cw = .ok out) ∨
    RS.decode s cw = .error .tooManyErrors ∨ RS.decode s cw = .error .errorsOutsideRange ∨
    RS.decode s cw = .error .malfunction := by
  cases h : RS.decode s cw with
  | ok out => exact Or.inl ⟨out, rfl⟩
  | error e =>
    cases e with
    | tooManyErrors => exact Or.inr (Or.inl rfl)
    | errorsOutsideRange => exact Or.inr (Or.inr (Or.inl rfl))
    | malfunction => exact Or.inr (Or.inr (Or.inr rfl))
    | panic site => exact absurd h (DM.Lemmas.LD.decode_noPanic_of_length s cw hlen site)

/-- the locator search never panics, for every syndrome vector of bytes -/
theorem levinson_durbin_total (syn : List Nat) (hb : ∀ x ∈ syn, x < 256) (site : String) :
    RS.levinsonDurbin syn ≠ .error (.panic site) :=
  DM.Lemmas.LD.levinsonDurbin_noPanic syn hb site

theorem rs_decode_length (s : Sym) (cw : List Nat)
    (hlen : cw.length = (row s).dataCw + (row s).blocks * (row s).eccPer) (out : List Nat)
    (h : RS.decode s cw = .ok out) : out.length = cw.length :=
  DM.Lemmas.RSTotal.decode_length s cw hlen out h

/-- the locator search on its own: for every syndrome vector -/
theorem levinson_durbin_panics_only_algebraic (syn : List Nat) (site : String)
    (h : RS.levinsonDurbin syn = .error (.panic site)) :
    site = "debug_assert eq (3)" ∨ site = "debug_assert eq (4)" :=
  DM.Lemmas.RSTotal.levinsonDurbin_panic_algebraic syn site h

/-- the Chien search never panics and returns pairwise distinct non-zero roots (after an optional 0) -/
theorem chien_search_total (c : List Nat) :
    ∃ zero rs, RS.chienSearch c = .ok (zero ++ rs) ∧ (zero = [] ∨ zero = [0]) ∧ rs.Nodup ∧ ∀ r ∈ rs, r ≠ 0 ∧ r < 256 :=
  DM.Lemmas.RSTotal.chienSearch_spec c

end DM.Props.C05
