import DM.Lemmas.PathCheck
import DM.Model.Pixels
/-!
# C17 — the vector path renders exactly the dark modules

`checker_sound` (in `DM/Lemmas/PathCheck.lean`) is the certified part: whenever the
executable checker `pathOK` accepts the path returned by the implementation for a bitmap,
the path is well formed (axis-parallel non-zero segments, closed sub-paths, moves after a
close, inside the bounding box) and its even–odd fill is exactly the bitmap. The check runs
`pathOK` (compiled from the same definition) on every path the implementation returns.
`path_model_ok` (the Lean model of the implementation's Hierholzer walk always produces an
accepted path) is proved in `DM/Props/C17b.lean`.
-/
namespace DM.Props.C17
open DM.Lemmas DM.Model DM.Spec.Fill

/-- **Certified checker** (restated): acceptance implies that filling the path with the
even–odd rule blackens exactly the dark modules. -/
theorem path_checker_sound (bits : List Bool) (w : Nat) (segs : List Seg)
    (hok : pathOK bits w segs = true) :
    ∃ ve he, edges w (if w = 0 then 0 else bits.length / w) segs = some (ve, he) ∧
      ∀ x y, x < w → y < (if w = 0 then 0 else bits.length / w) →
        dark ve x y = bits.getD (y * w + x) false :=
  checker_sound bits w segs hok

/-- An accepted path is well formed: it executes without leaving the box, with non-zero
axis-parallel lines only, and ends closed (this is what `edges … = some _` means). -/
theorem accepted_is_wellformed (bits : List Bool) (w : Nat) (segs : List Seg)
    (hok : pathOK bits w segs = true) :
    (edges w (if w = 0 then 0 else bits.length / w) segs).isSome = true := by
  obtain ⟨ve, he, h, _⟩ := checker_sound bits w segs hok
  simp [h]

/-- `pixels()` yields the coordinates of the dark modules and nothing else. -/
theorem pixels_exact (bits : List Bool) (w : Nat) (x y : Nat) :
    (x, y) ∈ pixels bits w ↔ ∃ i, i < bits.length ∧ bits.getD i false = true ∧ x = i % w ∧ y = i / w := by
  unfold pixels
  simp only [List.mem_map, List.mem_filter, Prod.mk.injEq]
  constructor
  · rintro ⟨⟨b, i⟩, ⟨hm, hb⟩, h1, h2⟩
    have := List.mem_zipIdx hm
    simp only [Nat.zero_add] at this
    refine ⟨i, ?_, ?_, h1.symm, h2.symm⟩
    · omega
    · simp only at hb
      have h3 := this.2.2
      simp only [Nat.sub_zero] at h3
      simp [List.getD_eq_getElem?_getD, List.getElem?_eq_getElem (show i < bits.length by omega), ← h3, hb]
  · rintro ⟨i, hi, hb, rfl, rfl⟩
    refine ⟨(true, i), ⟨?_, rfl⟩, rfl, rfl⟩
    rw [List.mem_iff_getElem]
    refine ⟨i, by simpa using hi, ?_⟩
    simp [List.getD_eq_getElem?_getD, List.getElem?_eq_getElem hi] at hb
    simp [hb]

/-- Non-vacuity: a 2×2 checker pattern with its two unit squares. -/
example : pathOK [true, false, false, true] 2
    [.h 1, .v 1, .h (-1), .z, .m 1 1, .h 1, .v 1, .h (-1), .z] = true := by decide +kernel

end DM.Props.C17
