import DM.Props.C01
import DM.Lemmas.PlannedRun
/-!
# C01 / C18 / C11 — planner, encoder and decoder models composed

`Props/C01.lean` proves the data-level round trip for the encoder model under *any* plan within a
side condition on the plan, `Props/C18Couple.lean` proves that on the plan the planner model returns
(within the side condition `planOK`) the encoder model succeeds in a symbol no larger than predicted.
Composed: for every message, symbol list, mode set and every sequence of sort permutations, if the
planner model answers with a plan inside both decidable side conditions and its predicted cost fits a
listed symbol, then the encoder model — run on that very plan — produces a codeword stream in a symbol
no larger than the predicted one, and the decoder model maps that stream back to the message.

No hypothesis speaks about the encoder's outcome: success is a conclusion.  The two side
conditions are evaluated by the sweep on every plan the implementation uses (`S.planok`,
`roundtrip_theorem_covers_plan*` in the evidence).
-/
namespace DM.Props.C01Planner
open DM.Model DM.Model.Plan DM.Model.Enc DM.Model.PlanSide DM.Lemmas DM.Lemmas.AsciiRT

/-- **Planner → encoder → decoder on the models.** -/
theorem planned_roundtrip (body : List Nat) (list : List Sym) (modes : Nat) (perms : List (List Nat)) (o : Outcome)
    (plan : List (Nat × EMode)) (ps : Sym) (hb : ByteList body)
    (hopt : Plan.optimize body 0 list modes perms = .ok o) (hp : o.plan = some plan)
    (hok : planOK body plan = true) (hrt : DM.Lemmas.C40Gen.planOKEb body plan = true)
    (hgate : body.length ≤ maxCapacity list)
    (hfit : firstBigEnough list (o.cost12 / 12) = some ps) :
    ∃ cw sym, Enc.run list [] body plan = .ok (cw, sym) ∧ dataCw sym ≤ dataCw ps ∧
      DM.Model.Dec.decodeData cw = .ok body := by
  obtain ⟨cw, sym, hrun, hsz⟩ := PlannedRun.planned_run_nogate body [] list modes perms o plan ps hb hopt hp hok
    (by rw [List.length_nil, Nat.zero_add]; exact hfit)
  exact ⟨cw, sym, hrun, hsz, DM.Props.C01.mixed_roundtrip_Eb list body cw plan sym hb hrt hrun⟩

/-- Non-vacuity: the second example of `Props/C18Couple.lean` (C40, then Text to the end, the message ends
with two digits that the Text encoder hands to ASCII) satisfies every hypothesis of `planned_roundtrip`
— the planner model's answer is evaluated there — and the conclusion is what evaluation gives. -/
example :
    planOK DM.Props.C18Couple.ex2Body DM.Props.C18Couple.ex2Plan = true ∧
    DM.Lemmas.C40Gen.planOKEb DM.Props.C18Couple.ex2Body DM.Props.C18Couple.ex2Plan = true ∧
    DM.Props.C18Couple.ex2Body.length ≤ maxCapacity DM.Props.C18Couple.exList ∧
    firstBigEnough DM.Props.C18Couple.exList (204 / 12) = some 7 ∧
    DM.Model.Dec.decodeData [230, 89, 233, 109, 36, 128, 95, 254, 239, 89, 233, 109, 36, 128, 95, 142] =
      .ok DM.Props.C18Couple.ex2Body := by
  refine ⟨by decide +kernel, by decide +kernel, by rw [DM.Props.C18Couple.maxCapacity_exList]; decide,
    DM.Props.C18Couple.ex2Fit, by decide +kernel⟩

end DM.Props.C01Planner
