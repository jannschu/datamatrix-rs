import DM.Lemmas.PathWalk
import DM.Lemmas.PathCompress
import DM.Lemmas.PathGraphImp
import DM.Lemmas.PathCheck
/-!
# C17 (second part) — the model of `Bitmap::path()` always produces an accepted path

`path_model_ok`: for every bitmap with positive width, complete rows, dimensions that fit `i16`
and a dark top-left module, the model `DM.Model.Path.path` returns a path (it never reaches the
`expect`, never runs out of fuel) and the certified checker `pathOK` accepts it; with
`checker_sound` the even–odd fill of the returned path is exactly the bitmap
(`path_model_fill`). That the model returns a path at all holds for every bitmap, dark top-left module or not
(`path_total_all`, from `tours_main_all`: the closed walks start at the first cell with an edge).

The top-left module has to be dark: the path is drawn from the corner (0, 0) and the first
sub-path starts at the first dark module in row-major order without a leading `Move`; the model
(like the implementation) then returns a path that `pathOK` rejects (see the `example` at the end).
Namespace: `C17`.
-/
namespace DM.Props.C17
open DM.Lemmas DM.Lemmas.PathP DM.Model.Path

theorem path_eq (bits : List Bool) (w : Nat) (hw : 0 < w)
    (hdims : w + 1 ≤ 32767 ∧ bits.length / w + 1 ≤ 32767) :
    path bits w =
      match (bitsToEdgeGraph bits.toArray w (bits.length / w)).edgeLeft with
      | (none, _) => .ok []
      | (some pos, g) =>
        match tours (2 * (w + 1) * (bits.length / w + 1) + 2) (2 * (w + 1) * (bits.length / w + 1) + 2) g pos 0 #[] with
        | .error e => .error e
        | .ok els => .ok (compress els.toList) := by
  unfold path
  have h0 : w ≠ 0 := by omega
  simp only [h0, if_false]
  rw [if_neg (by omega)]
  rfl

theorem height_pos (bits : List Bool) (w : Nat) (hlen : bits.length % w = 0)
    (htl : bits.head? = some true) : 0 < bits.length / w := by
  have hl : 0 < bits.length := by
    cases bits with
    | nil => simp at htl
    | cons b r => simp
  have := Nat.div_add_mod bits.length w
  rw [hlen] at this
  rcases Nat.eq_zero_or_pos (bits.length / w) with h0 | h0
  · rw [h0] at this; simp at this; omega
  · exact h0

theorem tours_main_all (bits : List Bool) (w h : Nat) (pos : Pos) (g : Graph)
    (hel : (bitsToEdgeGraph bits.toArray w h).edgeLeft = (some pos, g)) :
    ∃ els g', tours (2 * (w + 1) * (h + 1) + 2) (2 * (w + 1) * (h + 1) + 2) g pos 0 #[] = .ok els ∧
      EInvAt pos.startNode w h (bitsToEdgeGraph bits.toArray w h) g' els.toList ∧ ∀ e, has g' e = false := by
  obtain ⟨hhas, k, rfl, hk⟩ := edgeLeft_some _ (g0_WF _ w h) (g0_HintInv bits w h) pos g hel
  have hinv : EInvAt pos.startNode w h (bitsToEdgeGraph bits.toArray w h)
      { bitsToEdgeGraph bits.toArray w h with hint := k } (#[] : Array Micro).toList :=
    ⟨⟨g0_WF _ w h, g0_InBoxG bits w h, rfl, rfl, hk⟩, even_degree bits w h, trivial, trivial, rfl,
      fun m hm => by simp at hm, fun e => Nat.zero_add _⟩
  have hc := cnt_le (bitsToEdgeGraph bits.toArray w h) (g0_WF _ w h)
  have hc' : cnt { bitsToEdgeGraph bits.toArray w h with hint := k } < 2 * (w + 1) * (h + 1) + 2 := by
    show cnt (bitsToEdgeGraph bits.toArray w h) < _
    rw [Nat.mul_assoc]
    exact Nat.lt_add_right 1 (Nat.lt_succ_of_le hc)
  obtain ⟨els, he, g', hinv', hno⟩ :=
    tours_specAt pos.startNode w h _ _ _ _ pos 0 #[] hinv rfl rfl hhas hc' hc'
  exact ⟨els, g', he, hinv', hno⟩

/-- with a dark top-left module the first sub-path starts at the corner `O`, where `compress` starts -/
theorem tours_main (bits : List Bool) (w : Nat) (hw : 0 < w) (hlen : bits.length % w = 0)
    (htl : bits.head? = some true) :
    ∃ els g', tours (2 * (w + 1) * (bits.length / w + 1) + 2) (2 * (w + 1) * (bits.length / w + 1) + 2)
        { bitsToEdgeGraph bits.toArray w (bits.length / w) with hint := 0 }
        { i := 0, j := 0, dir := .right } 0 #[] = .ok els ∧
      EInv w (bits.length / w) (bitsToEdgeGraph bits.toArray w (bits.length / w)) g' els.toList ∧
      ∀ e, has g' e = false := by
  obtain ⟨els, g', he, hinv, hno⟩ := tours_main_all bits w _ _ _
    (g0_edgeLeft bits w _ hw (height_pos bits w hlen htl) htl)
  exact ⟨els, g', he, EInv_iff.mpr hinv, hno⟩

/-- `Bitmap::path()` never meets its `expect` and never runs out of fuel, whatever the bitmap -/
theorem path_total_all (bits : List Bool) (w : Nat) (hw : 0 < w)
    (hdims : w + 1 ≤ 32767 ∧ bits.length / w + 1 ≤ 32767) : ∃ segs, path bits w = .ok segs := by
  rw [path_eq bits w hw hdims]
  rcases hel : (bitsToEdgeGraph bits.toArray w (bits.length / w)).edgeLeft with ⟨_ | pos, g⟩
  · exact ⟨_, rfl⟩
  · obtain ⟨els, _, he, _⟩ := tours_main_all bits w _ pos g hel
    simp only [he]
    exact ⟨_, rfl⟩

theorem toNat_ite (b : Bool) : b.toNat = if b then 1 else 0 := by cases b <;> rfl

/-- the returned path passes the certified checker -/
theorem path_model_ok (bits : List Bool) (w : Nat) (hw : 0 < w) (hlen : bits.length % w = 0)
    (hdims : w + 1 ≤ 32767 ∧ bits.length / w + 1 ≤ 32767) (htl : bits.head? = some true) :
    ∃ segs, path bits w = .ok segs ∧ pathOK bits w (segs.map toFillSeg) = true := by
  obtain ⟨els, g', he, hinv, hno⟩ := tours_main bits w hw hlen htl
  have hp : path bits w = .ok (compress els.toList) := by
    rw [path_eq bits w hw hdims, g0_edgeLeft bits w _ hw (height_pos bits w hlen htl) htl]
    simp only [he]
  -- the micro steps draw every edge of the graph once and nothing else
  have hacc : ∀ e, (medges (0, 0) els.toList).count e =
      if has (bitsToEdgeGraph bits.toArray w (bits.length / w)) e then 1 else 0 := by
    intro e
    have := hinv.acc e
    rw [hno e, toNat_ite (has _ e)] at this
    exact this
  have hnodup : (medges (0, 0) els.toList).Nodup := by
    rw [List.nodup_iff_count]
    intro e
    rw [hacc e]
    split <;> omega
  obtain ⟨st, hrun, hclosed, hv, hhz⟩ := compress_spec w _ els.toList hinv.chain hinv.jumps hinv.closed
    hinv.box hnodup
  refine ⟨_, hp, pathOK_of_counts bits w (by omega) _ st.vEdges st.hEdges
    (by simp only [DM.Spec.Fill.edges, hrun, hclosed, if_true]) (fun x y => ?_) (fun x y => ?_)⟩
  · rw [hv x y, hacc, ← (bitsToEdgeGraph_spec bits w _ x y).1]
    rfl
  · rw [hhz x y, hacc, ← (bitsToEdgeGraph_spec bits w _ x y).2]
    rfl

/-- the model never reaches the `expect` and never runs out of fuel -/
theorem path_total (bits : List Bool) (w : Nat) (hw : 0 < w) (hlen : bits.length % w = 0)
    (hdims : w + 1 ≤ 32767 ∧ bits.length / w + 1 ≤ 32767) (htl : bits.head? = some true) :
    ∃ segs, path bits w = .ok segs :=
  path_total_all bits w hw hdims

/-- **C17 for the model**: drawing the returned path from the top-left corner and filling it
with the even–odd rule blackens exactly the dark modules; the path is well formed (this is what
`edges … = some _` says: axis-parallel non-zero segments, closed sub-paths, moves only after a
close, inside the bounding box). -/
theorem path_model_fill (bits : List Bool) (w : Nat) (hw : 0 < w) (hlen : bits.length % w = 0)
    (hdims : w + 1 ≤ 32767 ∧ bits.length / w + 1 ≤ 32767) (htl : bits.head? = some true) :
    ∃ segs ve he, path bits w = .ok segs ∧
      DM.Spec.Fill.edges w (bits.length / w) (segs.map toFillSeg) = some (ve, he) ∧
      ∀ x y, x < w → y < bits.length / w → DM.Spec.Fill.dark ve x y = bits.getD (y * w + x) false := by
  obtain ⟨segs, hp, hok⟩ := path_model_ok bits w hw hlen hdims htl
  obtain ⟨ve, he, h1, h2⟩ := checker_sound bits w _ hok
  have h0 : w ≠ 0 := by omega
  simp only [h0, if_false] at h1 h2
  exact ⟨segs, ve, he, hp, h1, h2⟩

/-- the graph the model works on is the one that `bitsToEdgeGraphImp`, the transcription of the
loops of `bits_to_edge_graph`, builds -/
theorem graph_is_imperative (bits : Array Bool) (width height : Nat) :
    bitsToEdgeGraphImp bits width height = bitsToEdgeGraph bits width height :=
  bitsToEdgeGraphImp_eq bits width height

/-- why the top-left module has to be dark: otherwise the first sub-path is drawn from the
corner (0, 0) although it starts elsewhere, and the checker rejects the result -/
example : (path [false, true, true, true] 2).toOption = some [.h 2, .v 2, .h (-2), .v (-1), .h 1, .z] ∧
    pathOK [false, true, true, true] 2
      ([Seg.h 2, .v 2, .h (-2), .v (-1), .h 1, .z].map toFillSeg) = false := by
  constructor <;> decide +kernel

end DM.Props.C17

