import Batteries.Lean.Except
import DM.Lemmas.NoLE
/-!
# C11 — the error classification of the encoder

The "only if" half of `run_listEmpty_iff` needs that none of the ~25 functions below `run` (main loop, the
six mode encoders, their end-of-data handlers) can produce that error: `Lemmas/NoLE.lean`.
Hence every other refusal of the model is `TooMuchOrIllegalData`, a modelled panic site or fuel
exhaustion; that the last two never occur is what the sweeps of C11 test on the code, what
`C18Couple.encoder_no_panic_planOK` proves for a run on the optimiser's plan, and what `optimize_total` proves
for the planner.
-/
namespace DM.Props.C11
open DM.Model DM.Model.Enc DM.Gen DM.Lemmas.NoLE DM.Lemmas.PlanProv

/-- **C11, classification.** The encoder answers `SymbolListEmpty` if and only if the supplied
symbol list is empty. -/
theorem run_listEmpty_iff (list : List Sym) (pre body : List Nat) (plan : List (Nat × EMode)) :
    run list pre body plan = .error .listEmpty ↔ list.isEmpty = true := by
  constructor
  · intro h
    by_cases hne : list.isEmpty = true
    · exact hne
    exfalso
    revert h
    show NoLE (run list pre body plan)
    unfold run
    rw [if_neg hne]
    refine nole_of_res (P := fun _ => True) (DM.Lemmas.EncStep.res_ite nofun ?_)
    dsimp only
    split
    · intro he; subst he; exact nole_mainLoop _ _ _ ‹_›
    · split
      · nofun
      · split
        · trivial
        · exact DM.Lemmas.EncStep.res_panic
  · intro h
    unfold run
    rw [if_pos h]


/-- every refusal other than `SymbolListEmpty` on a non-empty list -/
theorem run_error_nonempty (list : List Sym) (pre body : List Nat) (plan : List (Nat × EMode)) (e : EErr)
    (hne : list.isEmpty = false) (h : run list pre body plan = .error e) : e ≠ .listEmpty := by
  intro he
  subst he
  have := (run_listEmpty_iff list pre body plan).mp h
  rw [hne] at this
  cases this

example : run [] [] [65] [(0, .ascii)] = .error .listEmpty := by decide +kernel

end DM.Props.C11
