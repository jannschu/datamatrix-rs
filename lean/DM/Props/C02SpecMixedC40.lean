import DM.Props.C02SpecMixed
/-!
# C02 — conformant output against the reference decoder: plans over ASCII, Base 256, C40 and Text

`spec_mixed_roundtrip_abc`: `C02SpecMixed.spec_mixed_in` for these four modes. Side condition on the plan:
`C40Gen.PlanOK` restricted to the four modes (needed: a stale latch, see the last examples).
-/
namespace DM.Props.C02SpecMixedC40
open DM.Model DM.Lemmas DM.Lemmas.AsciiRT DM.Lemmas.SpecStep DM.Lemmas.SpecMain DM.Lemmas.MainRT DM.Lemmas.PlanProv
open DM.Lemmas.EncRT DM.Lemmas.C40Gen DM.Lemmas.SpecMainC40
open DM.Props.C02Spec (run30_eq_of_check)
open DM.Props.C02SpecMixed (HdrOK spec_mixed_in)
open DM.Spec.Stream (decode Decoded Mode macroHead macroTrail)

/-- **Mixed ASCII / Base 256 / C40 / Text round trip through the reference decoder.** For every plan
whose entries name only these four modes and plan no latch to a non-ASCII mode for the last four
characters, every message of bytes, every symbol list and each of the headers none / FNC1 /
Macro 05 / Macro 06: whatever the encoder returns, the reference decoder accepts and returns the
message; every byte is carried by one of the four encodations, every latch is a Base 256, C40 or
Text latch standing behind the header and in front of `L`, there is no ECI; the stream fills the symbol,
and the decoder meets the first pad codeword exactly at `L`, or `L` is the end of the symbol
(`L` is bound existentially, see `spec_frameB`). -/
theorem spec_mixed_roundtrip_abc (list : List Sym) (pre body cw : List Nat) (plan : List (Nat × Enc.EMode)) (sym : Sym)
    (hpre : HdrOK pre) (hb : ∀ b ∈ body, b < 256)
    (hplan : ∀ e ∈ plan, (e.2 = .ascii ∨ e.2 = .base256 ∨ e.2 = .c40 ∨ e.2 = .text) ∧ (e.2 ≠ .ascii → e.1 = 0 ∨ e.1 > 4))
    (h : Enc.run list pre body plan = .ok (cw, sym)) :
    ∃ d L, decode cw = .ok d ∧ d.body = body ∧
      d.bytes = (if macOf pre = 0 then body else macroHead (macOf pre) ++ body ++ macroTrail) ∧
      d.fnc1 = (pre == [232]) ∧ d.macro = macOf pre ∧ d.ecis = [] ∧ d.trace.length = body.length ∧
      (∀ m ∈ d.trace, m = .ascii ∨ m = .base256 ∨ m = .c40 ∨ m = .text) ∧
      (∀ l ∈ d.latches, (l.2 = .base256 ∨ l.2 = .c40 ∨ l.2 = .text) ∧ pre.length ≤ l.1 ∧ l.1 < L) ∧
      cw.length = dataCw sym ∧ cw.take pre.length = pre ∧ pre.length ≤ L ∧ L ≤ cw.length ∧
      (L < cw.length → cw.getD L 0 = 129) ∧ d.padAt = (if L = cw.length then none else some L) := by
  obtain ⟨d, L, a1, a2, a3, a4, a5, a6, a7, a8, a9, a10⟩ :=
    spec_mixed_in (fun m => m = .ascii ∨ m = .base256 ∨ m = .c40 ∨ m = .text)
      (fun m => m = .ascii ∨ m = .base256 ∨ m = .c40 ∨ m = .text) (Or.inl rfl) (Or.inl rfl)
      (fun _ => Or.inr (Or.inl rfl)) (fun _ => Or.inr (Or.inr (Or.inl rfl))) (fun _ => Or.inr (Or.inr (Or.inr rfl))) (by simp) (by simp)
      list pre body cw plan sym hpre hb (fun e he => (hplan e he).1)
      (Or.inl (planOKE_of_planOK body fun e he => ⟨(hplan e he).2, by rcases (hplan e he).1 with h | h | h | h <;> simp [h]⟩)) h
  exact ⟨d, L, a1, a2, a3, a4, a5, a6, a7, a8, fun l hl => ⟨(a9 l hl).1.resolve_left (a9 l hl).2.1, (a9 l hl).2.2⟩, a10⟩

/-! ### Non-vacuity

(a run has a name where the theorem is applied to it) -/

/-- "1" in ASCII, two bytes in Base 256, "ABCDEF" in C40 (two triples, UNLATCH at a planned switch),
"abcdefg" in Text (two triples, UNLATCH + backup: the last character as one ASCII codeword that
fills the symbol). -/
theorem run_abct : Enc.run (symbolList (List.range 30)) [] [49, 200, 201, 65, 66, 67, 68, 69, 70, 97, 98, 99, 100, 101, 102, 103]
    [(16, .ascii), (15, .base256), (13, .c40), (7, .text), (0, .text)] =
    .ok ([50, 231, 195, 31, 181, 230, 89, 233, 109, 36, 254, 239, 89, 233, 109, 36, 254, 104], 7) :=
  run30_eq_of_check (by decide +kernel)
example : Enc.run (symbolList (List.range 30)) [] [49, 200, 201, 65, 66, 67, 68, 69, 70, 97, 98, 99, 100, 101, 102, 103]
    [(16, .ascii), (15, .base256), (13, .c40), (7, .text), (0, .text)] =
    .ok ([50, 231, 195, 31, 181, 230, 89, 233, 109, 36, 254, 239, 89, 233, 109, 36, 254, 104], 7) :=
  run_abct
example : (decode [50, 231, 195, 31, 181, 230, 89, 233, 109, 36, 254, 239, 89, 233, 109, 36, 254, 104]).toOption.map
    (fun d => (d.body, d.padAt, d.latches)) =
    some ([49, 200, 201, 65, 66, 67, 68, 69, 70, 97, 98, 99, 100, 101, 102, 103], none,
      [(1, .base256), (5, .c40), (11, .text)]) := by decide +kernel

/-- … and the theorem applied to that run. -/
example : ∃ d, decode [50, 231, 195, 31, 181, 230, 89, 233, 109, 36, 254, 239, 89, 233, 109, 36, 254, 104] = .ok d ∧
    d.body = [49, 200, 201, 65, 66, 67, 68, 69, 70, 97, 98, 99, 100, 101, 102, 103] ∧ d.ecis = [] ∧
    ∀ l ∈ d.latches, l.2 = .base256 ∨ l.2 = .c40 ∨ l.2 = .text := by
  obtain ⟨d, L, h1, h2, _, _, _, h6, _, _, h9, _⟩ :=
    spec_mixed_roundtrip_abc (symbolList (List.range 30)) [] [49, 200, 201, 65, 66, 67, 68, 69, 70, 97, 98, 99, 100, 101, 102, 103] _
      [(16, .ascii), (15, .base256), (13, .c40), (7, .text), (0, .text)] _ (Or.inl rfl) (by decide) (by decide) run_abct
  exact ⟨d, h1, h2, h6, fun l hl => (h9 l hl).1⟩

/-- The ending without UNLATCH: behind the Text run one ASCII codeword ("2") fills the symbol. -/
example : Enc.run (symbolList (List.range 30)) [] [49, 65, 66, 67, 68, 69, 70, 71, 97, 98, 99, 100, 101, 102, 50]
    [(15, .ascii), (14, .c40), (7, .text), (1, .ascii), (0, .ascii)] =
    .ok ([50, 230, 89, 233, 109, 36, 125, 71, 254, 239, 89, 233, 109, 36, 254, 51], 6) := run30_eq_of_check (by decide +kernel)
example : (decode [50, 230, 89, 233, 109, 36, 125, 71, 254, 239, 89, 233, 109, 36, 254, 51]).toOption.map
    (fun d => (d.body, d.padAt, d.latches)) =
    some ([49, 65, 66, 67, 68, 69, 70, 71, 97, 98, 99, 100, 101, 102, 50], none, [(1, .c40), (9, .text)]) := by decide +kernel

/-- The exact end behind FNC1: two values and the fill value 0 in the last pair, no UNLATCH; the
decoder stops in C40 mode. -/
theorem run_fnc1 : Enc.run (symbolList (List.range 30)) [232] [65, 66, 67, 68, 69, 70, 71, 72] [(8, .c40), (0, .c40)] =
    .ok ([232, 230, 89, 233, 109, 36, 128, 73], 3) := run30_eq_of_check (by decide +kernel)
example : Enc.run (symbolList (List.range 30)) [232] [65, 66, 67, 68, 69, 70, 71, 72] [(8, .c40), (0, .c40)] =
    .ok ([232, 230, 89, 233, 109, 36, 128, 73], 3) := run_fnc1
example : ∃ d, decode [232, 230, 89, 233, 109, 36, 128, 73] = .ok d ∧ d.body = [65, 66, 67, 68, 69, 70, 71, 72] ∧
    d.fnc1 = true ∧ d.padAt = none := by
  obtain ⟨d, L, h1, h2, _, h4, _, _, _, _, _, h10, _, _, h13, _, h15⟩ :=
    spec_mixed_roundtrip_abc (symbolList (List.range 30)) [232] [65, 66, 67, 68, 69, 70, 71, 72] _
      [(8, .c40), (0, .c40)] _ (Or.inr (Or.inl rfl)) (by decide) (by decide) run_fnc1
  refine ⟨d, h1, h2, by rw [h4]; rfl, ?_⟩
  rw [h15]
  have hdec : (decode [232, 230, 89, 233, 109, 36, 128, 73]).toOption.map (fun d => d.padAt) = some none := by decide +kernel
  rw [h1] at hdec
  simp only [Except.toOption, Option.map_some, Option.some.injEq] at hdec
  rw [h15] at hdec
  exact hdec

/-- The side condition on the plan is needed: "ABCDEFG12" in C40 with a latch to Text
or to Base 256 planned for the last two characters — the C40 encoder, two digits left, commits itself
to ASCII without UNLATCH, the main loop then writes the stale latch: the stream decodes to another
message, or is rejected. -/
example : Enc.run (symbolList (List.range 30)) [] [65, 66, 67, 68, 69, 70, 71, 49, 50] [(9, .c40), (2, .text), (0, .text)] =
    .ok ([230, 89, 233, 109, 36, 125, 71, 239, 142, 129], 4) := run30_eq_of_check (by decide +kernel)
example : (decode [230, 89, 233, 109, 36, 125, 71, 239, 142, 129]).toOption.map (fun d => d.body) =
    some [65, 66, 67, 68, 69, 70, 71, 217, 57, 49] := by decide +kernel
example : Enc.run (symbolList (List.range 30)) [] [65, 66, 67, 68, 69, 70, 71, 49, 50] [(9, .c40), (2, .base256), (0, .base256)] =
    .ok ([230, 89, 233, 109, 36, 125, 71, 231, 142, 129], 4) := run30_eq_of_check (by decide +kernel)
example : (decode [230, 89, 233, 109, 36, 125, 71, 231, 142, 129]).toOption.isNone = true := by decide +kernel

end DM.Props.C02SpecMixedC40
