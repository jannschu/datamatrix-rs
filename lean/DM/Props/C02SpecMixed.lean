import DM.Lemmas.SpecMainAll
import DM.Props.C02Spec
/-!
# C02 — conformant output against the reference decoder: mixed plans

`spec_frameB`: the round trip through the independent decoder `DM.Spec.Stream.decode` for *every* plan, given an invariant
`R` of the encoder state that one round of the main loop keeps together with the main-loop invariant
(`SpecMainEdi.StepB`; the invariant `SMI` is described in `DM/Lemmas/SpecMain.lean`). `spec_mixed_in`: the frame over
`SpecMainAll.stepB_in`, with the set `S` of modes the plan may name as a parameter; the mixed round trips of this file and
of `C02SpecMixedX12`, `C02SpecMixedC40`, `C02SpecMixedEdi`, `C02SpecMixed5`, `C02SpecMixedE` are its instances.
A run can still fail in the encoder (`expected to call maybe_switch_mode earlier`: a digit pair across a planned switch,
e.g. body "123", plan `[(2, base256), (0, base256)]`); the theorems speak of the runs that succeed.
-/
namespace DM.Props.C02SpecMixed
open DM.Model DM.Lemmas DM.Lemmas.AsciiRT DM.Lemmas.SpecStep DM.Lemmas.SpecMain DM.Lemmas.MainRT DM.Lemmas.PlanProv
open DM.Lemmas.EncRT
open DM.Props.C02Spec (run30_eq_of_check)
open DM.Spec.Stream (decode Decoded Mode macroHead macroTrail)

/-- the header codewords written before the data: none, FNC1, Macro 05, Macro 06 -/
def HdrOK (pre : List Nat) : Prop := pre = [] ∨ pre = [232] ∨ pre = [236] ∨ pre = [237]

/-- **The frame.** Let `P` be a property of modes and `R` an invariant of the encoder state that every round of the main
loop keeps together with the main-loop invariant (`StepB`). Then for every symbol list, header, message and plan whose
initial state satisfies `R`: whatever the encoder returns, the reference decoder accepts, and it returns the message (with
header and trailer for Macro 05 / 06), no ECI, one trace entry per byte; all carrying modes and latches satisfy `P`; the
stream fills the symbol, every latch stands behind the header and in front of `L`, and the decoder meets the first pad
codeword exactly at `L`, or `L` is the end of the symbol (`L` is bound existentially: that the first `L` codewords are the
encoder's own holds of the witness and is not stated). -/
theorem spec_frameB (P : Mode → Prop) (list : List Sym) (pre body cw : List Nat) (plan : List (Nat × Enc.EMode)) (sym : Sym)
    (R : Enc.St → Prop) (hstep : DM.Lemmas.SpecMainEdi.StepB P list pre.length pre body R)
    (hR0 : R { input := body, pos := 0, mode := .ascii, plan := plan, newMode := none, cw := pre, list := list })
    (hpre : HdrOK pre) (h : Enc.run list pre body plan = .ok (cw, sym)) :
    ∃ d L, decode cw = .ok d ∧ d.body = body ∧
      d.bytes = (if macOf pre = 0 then body else macroHead (macOf pre) ++ body ++ macroTrail) ∧
      d.fnc1 = (pre == [232]) ∧ d.macro = macOf pre ∧ d.ecis = [] ∧ d.trace.length = body.length ∧
      (∀ m ∈ d.trace, P m) ∧ (∀ l ∈ d.latches, P l.2 ∧ l.2 ≠ .ascii ∧ pre.length ≤ l.1 ∧ l.1 < L) ∧
      cw.length = dataCw sym ∧ cw.take pre.length = pre ∧ pre.length ≤ L ∧ L ≤ cw.length ∧
      (L < cw.length → cw.getD L 0 = 129) ∧ d.padAt = (if L = cw.length then none else some L) := by
  obtain ⟨hlen, L, sF, h1, h2, hpfx, hhd, h129, hrun, hfin⟩ :=
    DM.Lemmas.SpecMainEdi.run_specB P list pre body cw plan sym R hstep hR0 h
  have hd := decode_behind pre cw sF hpre hpfx (fun hp => by subst hp; exact hhd) hrun
  refine ⟨_, L, hd, hfin.out, ?_, rfl, rfl, by simp [mkDecoded, hfin.ecis], hfin.trlen, hfin.trP, hfin.latP, hlen, hpfx,
    h1, h2, h129, hfin.padAt⟩
  simp only [mkDecoded, hfin.out]

/-- the frame over `ModeStep`: `R` is a closed property `Q` of the control part of the encoder state, and every mode
encoder preserves the invariant -/
theorem spec_frame (P : Mode → Prop) (Q : Key → Prop) (hQ : Closed Q) (hsteps : ∀ m, ModeStep P Q m)
    (list : List Sym) (pre body cw : List Nat) (plan : List (Nat × Enc.EMode)) (sym : Sym)
    (hpre : HdrOK pre) (hb : ∀ b ∈ body, b < 256) (hq : Q (plan, .ascii, none))
    (h : Enc.run list pre body plan = .ok (cw, sym)) :
    ∃ d L, decode cw = .ok d ∧ d.body = body ∧
      d.bytes = (if macOf pre = 0 then body else macroHead (macOf pre) ++ body ++ macroTrail) ∧
      d.fnc1 = (pre == [232]) ∧ d.macro = macOf pre ∧ d.ecis = [] ∧ d.trace.length = body.length ∧
      (∀ m ∈ d.trace, P m) ∧ (∀ l ∈ d.latches, P l.2 ∧ l.2 ≠ .ascii ∧ pre.length ≤ l.1 ∧ l.1 < L) ∧
      cw.length = dataCw sym ∧ cw.take pre.length = pre ∧ pre.length ≤ L ∧ L ≤ cw.length ∧
      (L < cw.length → cw.getD L 0 = 129) ∧ d.padAt = (if L = cw.length then none else some L) :=
  spec_frameB P list pre body cw plan sym (fun s => Q (key s))
    (fun s s' mi hq hmore he => ⟨hsteps s.mode list pre.length pre body s s' hb mi hq hmore rfl he,
      q_encodeMode hQ _ _ he (q_latched hQ s hq)⟩) hq hpre h

/-- **Every mixed plan, with the set of modes as a parameter.** `S` is the set of encoder modes the plan may name, `P` a
property that holds of the reference decoder's counterpart of every mode in `S`. Within `PlanOKE` (not asked for when `S`
holds ASCII and Base 256 only): whatever the encoder returns, the reference decoder accepts and returns the message, and
every carrying mode and every latch satisfies `P`. -/
theorem spec_mixed_in (P : Mode → Prop) (S : Enc.EMode → Prop) (hS : S .ascii) (hA : P .ascii) (hB : S .base256 → P .base256)
    (hC : S .c40 → P .c40) (hT : S .text → P .text) (hX : S .x12 → P .x12) (hE : S .edifact → P .edifact)
    (list : List Sym) (pre body cw : List Nat) (plan : List (Nat × Enc.EMode)) (sym : Sym)
    (hpre : HdrOK pre) (hb : ∀ b ∈ body, b < 256) (hplan : ∀ e ∈ plan, S e.2)
    (hok : DM.Lemmas.C40Gen.PlanOKE body plan ∨ ∀ m, S m → m = .ascii ∨ m = .base256)
    (h : Enc.run list pre body plan = .ok (cw, sym)) :
    ∃ d L, decode cw = .ok d ∧ d.body = body ∧
      d.bytes = (if macOf pre = 0 then body else macroHead (macOf pre) ++ body ++ macroTrail) ∧
      d.fnc1 = (pre == [232]) ∧ d.macro = macOf pre ∧ d.ecis = [] ∧ d.trace.length = body.length ∧
      (∀ m ∈ d.trace, P m) ∧ (∀ l ∈ d.latches, P l.2 ∧ l.2 ≠ .ascii ∧ pre.length ≤ l.1 ∧ l.1 < L) ∧
      cw.length = dataCw sym ∧ cw.take pre.length = pre ∧ pre.length ≤ L ∧ L ≤ cw.length ∧
      (L < cw.length → cw.getD L 0 = 129) ∧ d.padAt = (if L = cw.length then none else some L) :=
  spec_frameB P list pre body cw plan sym _
    (DM.Lemmas.SpecMainAll.stepB_in P S hS hA hB hC hT hX hE list pre.length pre body hb)
    ⟨hok.imp_left fun hok => ⟨hok, fun _ => Or.inl ⟨rfl, rfl⟩⟩, hplan, hS⟩ hpre h

/-- **Mixed ASCII / Base 256 round trip through the reference decoder.** For every plan whose entries
name only ASCII and Base 256 (no other condition on the plan), every message of bytes, every symbol
list and each of the headers none / FNC1 / Macro 05 / Macro 06: whatever the encoder returns, the
reference decoder accepts and returns the message; every byte is carried by ASCII or Base 256
encodation, every latch is a Base 256 latch standing behind the header and in front of `L`, there is no
ECI; the stream fills the symbol, and the decoder meets the first pad codeword exactly at `L`, or `L` is
the end of the symbol (`L` is bound existentially, see `spec_frameB`). -/
theorem spec_mixed_roundtrip (list : List Sym) (pre body cw : List Nat) (plan : List (Nat × Enc.EMode)) (sym : Sym)
    (hpre : HdrOK pre) (hb : ∀ b ∈ body, b < 256) (hplan : ∀ e ∈ plan, e.2 = .ascii ∨ e.2 = .base256)
    (h : Enc.run list pre body plan = .ok (cw, sym)) :
    ∃ d L, decode cw = .ok d ∧ d.body = body ∧
      d.bytes = (if macOf pre = 0 then body else macroHead (macOf pre) ++ body ++ macroTrail) ∧
      d.fnc1 = (pre == [232]) ∧ d.macro = macOf pre ∧ d.ecis = [] ∧ d.trace.length = body.length ∧
      (∀ m ∈ d.trace, m = .ascii ∨ m = .base256) ∧ (∀ l ∈ d.latches, l.2 = .base256 ∧ pre.length ≤ l.1 ∧ l.1 < L) ∧
      cw.length = dataCw sym ∧ cw.take pre.length = pre ∧ pre.length ≤ L ∧ L ≤ cw.length ∧
      (L < cw.length → cw.getD L 0 = 129) ∧ d.padAt = (if L = cw.length then none else some L) := by
  obtain ⟨d, L, a1, a2, a3, a4, a5, a6, a7, a8, a9, a10⟩ :=
    spec_mixed_in (fun m => m = .ascii ∨ m = .base256) (fun m => m = .ascii ∨ m = .base256) (Or.inl rfl) (Or.inl rfl)
      (fun _ => Or.inr rfl) (by simp) (by simp) (by simp) (by simp) list pre body cw plan sym hpre hb hplan
      (Or.inr fun _ h => h) h
  exact ⟨d, L, a1, a2, a3, a4, a5, a6, a7, a8, fun l hl => ⟨(a9 l hl).1.resolve_left (a9 l hl).2.1, (a9 l hl).2.2⟩, a10⟩

/-! ### Non-vacuity -/

/-- "A", two bytes in Base 256 (explicit length 2, in the middle of the message), "B12" in ASCII with
a digit pair, one pad. -/
theorem run_mixed : Enc.run (symbolList (List.range 30)) [] [65, 200, 201, 66, 49, 50]
    [(6, .ascii), (5, .base256), (3, .ascii), (0, .ascii)] = .ok ([66, 231, 195, 31, 181, 67, 142, 129], 3) :=
  run30_eq_of_check (by decide +kernel)
example : Enc.run (symbolList (List.range 30)) [] [65, 200, 201, 66, 49, 50]
    [(6, .ascii), (5, .base256), (3, .ascii), (0, .ascii)] = .ok ([66, 231, 195, 31, 181, 67, 142, 129], 3) :=
  run_mixed
example : (decode [66, 231, 195, 31, 181, 67, 142, 129]).toOption.map (fun d => (d.body, d.padAt, d.latches, d.trace)) =
    some ([65, 200, 201, 66, 49, 50], some 7, [(1, .base256)], [.ascii, .base256, .base256, .ascii, .ascii, .ascii]) := by
  decide +kernel

/-- … and the theorem applied to that run. -/
example : ∃ d, decode [66, 231, 195, 31, 181, 67, 142, 129] = .ok d ∧ d.body = [65, 200, 201, 66, 49, 50] ∧
    d.bytes = [65, 200, 201, 66, 49, 50] ∧ d.ecis = [] ∧ ∀ l ∈ d.latches, l.2 = .base256 := by
  obtain ⟨d, L, h1, h2, h3, _, _, h6, _, _, h9, _⟩ :=
    spec_mixed_roundtrip (symbolList (List.range 30)) [] [65, 200, 201, 66, 49, 50] _
      [(6, .ascii), (5, .base256), (3, .ascii), (0, .ascii)] _ (Or.inl rfl) (by decide) (by decide) run_mixed
  exact ⟨d, h1, h2, by simpa [macOf] using h3, h6, fun l hl => (h9 l hl).1⟩

/-- Two Base 256 stretches with ASCII in between (latches at codewords 1 and 7). -/
example : Enc.run (symbolList (List.range 30)) [] [65, 200, 201, 66, 49, 50, 220, 221]
    [(7, .base256), (5, .ascii), (2, .base256), (0, .base256)] =
    .ok ([66, 231, 195, 31, 181, 67, 142, 231, 69, 180, 75, 129], 5) := run30_eq_of_check (by decide +kernel)
example : (decode [66, 231, 195, 31, 181, 67, 142, 231, 69, 180, 75, 129]).toOption.map (fun d => (d.body, d.padAt, d.latches)) =
    some ([65, 200, 201, 66, 49, 50, 220, 221], some 11, [(1, .base256), (7, .base256)]) := by decide +kernel

/-- The "to the end of the symbol" form behind an ASCII character: the field fills the symbol. -/
example : Enc.run (symbolList (List.range 30)) [] [65, 200, 201] [(2, .base256), (0, .base256)] =
    .ok ([66, 231, 193, 31, 181], 1) := run30_eq_of_check (by decide +kernel)
example : (decode [66, 231, 193, 31, 181]).toOption.map (fun d => (d.body, d.padAt, d.latches)) =
    some ([65, 200, 201], none, [(1, .base256)]) := by decide +kernel

/-- Behind Macro 06 and behind FNC1. -/
theorem run_macro06 : Enc.run (symbolList (List.range 30)) [237] [200, 201, 49, 50, 51]
    [(5, .base256), (3, .ascii), (0, .ascii)] = .ok ([237, 231, 195, 31, 181, 142, 52, 129], 3) :=
  run30_eq_of_check (by decide +kernel)
example : Enc.run (symbolList (List.range 30)) [237] [200, 201, 49, 50, 51] [(5, .base256), (3, .ascii), (0, .ascii)] =
    .ok ([237, 231, 195, 31, 181, 142, 52, 129], 3) := run_macro06
example : ∃ d, decode [237, 231, 195, 31, 181, 142, 52, 129] = .ok d ∧ d.body = [200, 201, 49, 50, 51] ∧
    d.bytes = [91, 41, 62, 30, 48, 54, 29, 200, 201, 49, 50, 51, 30, 4] ∧ d.macro = 6 := by
  obtain ⟨d, L, h1, h2, h3, _, h5, _⟩ :=
    spec_mixed_roundtrip (symbolList (List.range 30)) [237] [200, 201, 49, 50, 51] _
      [(5, .base256), (3, .ascii), (0, .ascii)] _ (Or.inr (Or.inr (Or.inr rfl))) (by decide) (by decide) run_macro06
  exact ⟨d, h1, h2, by rw [h3]; decide, h5⟩
example : Enc.run (symbolList (List.range 30)) [232] [49, 50, 200, 201] [(2, .base256), (0, .base256)] =
    .ok ([232, 142, 231, 89, 180, 75, 129, 56], 3) := run30_eq_of_check (by decide +kernel)
example : (decode [232, 142, 231, 89, 180, 75, 129, 56]).toOption.map (fun d => (d.body, d.fnc1, d.padAt, d.latches)) =
    some ([49, 50, 200, 201], true, some 6, [(2, .base256)]) := by decide +kernel

/-- The side conditions are needed: a "byte" ≥ 256 in ASCII gives a stream the
reference decoder rejects, in Base 256 one that decodes to another message; a header codeword that
is not FNC1 / Macro is rejected. -/
example : Enc.run (symbolList (List.range 30)) [] [300] [(0, .ascii)] = .ok ([235, 173, 129], 0) :=
  run30_eq_of_check (by decide +kernel)
example : (decode [235, 173, 129]).toOption.isNone = true := by decide +kernel
example : Enc.run (symbolList (List.range 30)) [] [65, 300, 66] [(3, .base256), (0, .base256)] =
    .ok ([231, 44, 2, 131, 46], 1) := run30_eq_of_check (by decide +kernel)
example : (decode [231, 44, 2, 131, 46]).toOption.map (fun d => d.body) = some [65, 44, 66] := by decide +kernel
example : Enc.run (symbolList (List.range 30)) [233] [65, 66] [(0, .ascii)] = .ok ([233, 66, 67], 0) :=
  run30_eq_of_check (by decide +kernel)
example : (decode [233, 66, 67]).toOption.isNone = true := by decide +kernel

end DM.Props.C02SpecMixed
