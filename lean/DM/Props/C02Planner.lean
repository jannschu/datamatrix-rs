import DM.Props.C02SpecMixed5
import DM.Lemmas.PlannedRun
/-!
# C02 — planner, encoder and *reference* decoder composed

`planned_conformant`: if the planner model answers with a plan inside the two decidable side conditions
(`planOK` of the coupling theorem; `PlanOK`: no EDIFACT entry, no latch to a non-ASCII mode planned for the
last four characters) and its predicted cost fits a listed symbol, then the encoder model — run on that very
plan, behind no header, FNC1 or a Macro codeword — succeeds in a symbol no larger than predicted, with exactly
that symbol's number of data codewords, and the independent reference decoder of `Spec/Stream.lean` accepts the
stream and returns the message (header and trailer re-created for Macro), with no ECI and no byte carried by
EDIFACT.
The encoder's success is a conclusion. This is C02's central sentence on the models, for the plans the sweep
counts under `roundtrip_theorem_covers_plan` (84 % of the optimiser's plans).
-/
namespace DM.Props.C02Planner
open DM.Model DM.Model.Plan DM.Model.Enc DM.Model.PlanSide DM.Lemmas DM.Lemmas.AsciiRT DM.Lemmas.SpecMain DM.Lemmas.SpecStep
open DM.Props.C02SpecMixed (HdrOK)
open DM.Spec.Stream (decode macroHead macroTrail)

theorem planned_conformant (body pre : List Nat) (list : List Sym) (modes : Nat) (perms : List (List Nat)) (o : Outcome)
    (plan : List (Nat × EMode)) (ps : Sym) (hpre : HdrOK pre) (hb : ByteList body)
    (hopt : Plan.optimize body pre.length list modes perms = .ok o) (hp : o.plan = some plan)
    (hok : planOK body plan = true)
    (hplan : ∀ e ∈ plan, (e.2 ≠ .ascii → e.1 = 0 ∨ e.1 > 4) ∧ e.2 ≠ .edifact)
    (hfit : firstBigEnough list (pre.length + o.cost12 / 12) = some ps) :
    ∃ cw sym d, Enc.run list pre body plan = .ok (cw, sym) ∧ dataCw sym ≤ dataCw ps ∧ cw.length = dataCw sym ∧
      decode cw = .ok d ∧ d.body = body ∧
      d.bytes = (if macOf pre = 0 then body else macroHead (macOf pre) ++ body ++ macroTrail) ∧
      d.fnc1 = (pre == [232]) ∧ d.macro = macOf pre ∧ d.ecis = [] ∧ (∀ m ∈ d.trace, m ≠ .edifact) := by
  obtain ⟨cw, sym, hrun, hsz⟩ := PlannedRun.planned_run_nogate body pre list modes perms o plan ps hb hopt hp hok hfit
  obtain ⟨d, L, a1, a2, a3, a4, a5, a6, _, a8, _, a10, _⟩ :=
    DM.Props.C02SpecMixed5.spec_mixed_roundtrip_5 list pre body cw plan sym hpre hb hplan hrun
  exact ⟨cw, sym, d, hrun, hsz, a10, a1, a2, a3, a4, a5, a6, a8⟩

end DM.Props.C02Planner
