import DM.Lemmas.BlockComplete
import DM.Lemmas.ErrPattern
import DM.Lemmas.RSSoundBlock
/-!
# C03 — guaranteed correction capacity, one block

`decodeBlock_complete`: a block that differs from a codeword in at most ⌊k/2⌋ codewords is decoded
to that codeword. `ErrPattern.error_pattern` turns the difference into an error pattern of `ν ≤ ⌊k/2⌋`
errors; on its syndromes `correctBlock` answers Ok (`BlockComplete.correctBlock_ok`); whatever `decodeBlock` answers
is a codeword within ⌊k/2⌋ of the received block (`RSSound.decodeBlock_sound`), so at most `k` places away from
the original one (`hamming_triangle`), hence equal to it (`block_distance`).
Namespace: `C03`.
-/
namespace DM.Props.C03
open DM.Model DM.Model.RS DM.Spec DM.Lemmas DM.Props.C09
open DM.Lemmas.LDReach DM.Lemmas.BlockComplete

/-- **Completeness for one block.** -/
theorem decodeBlock_complete (cd ce rd re : List Nat) (k : Nat)
    (hcd : Bytes cd) (hce : Bytes ce) (hrd : Bytes rd) (hre : Bytes re)
    (hld : cd.length = rd.length) (hle : ce.length = re.length)
    (hn : cd.length + ce.length ≤ 255) (hk1 : 1 ≤ k) (hk : k < 254) (hnk : k < cd.length + ce.length)
    (hcw : isCodeword (cd ++ ce) k = true)
    (hham : hamming (cd ++ ce) (rd ++ re) ≤ k / 2) :
    decodeBlock rd re k = .ok (cd, ce) := by
  have hcb : Bytes (cd ++ ce) := hcd.append hce
  have hrb : Bytes (rd ++ re) := hrd.append hre
  have hlen : (cd ++ ce).length = (rd ++ re).length := by simp [hld, hle]
  obtain ⟨I, E, hIc, hIpos, hsyn⟩ :=
    ErrPattern.error_pattern (cd ++ ce) (rd ++ re) k hcb hrb hlen hk hcw
  have hsl := RSTotal.length_syndromes (rd ++ re) k
  have hnlen : (cd ++ ce).length = rd.length + re.length := by simp [hld, hle]
  by_cases h0 : I = ∅
  · obtain ⟨e1, e2⟩ := List.append_inj (eq_of_hamming_eq_zero hlen (by rw [← hIc, h0]; rfl)) hld
    subst e1; subst e2
    exact decodeBlock_clean cd ce k hcb hk1 hk hnk hcw
  · have pat : Pattern (RS.syndromes (rd ++ re) k) I E :=
      { bytes := RSSound.bytes_syndromes (rd ++ re) k
        pos := fun p hp => lt_of_lt_of_le (hIpos p hp).1 (by rw [List.length_append]; exact hn)
        val := fun p hp => (hIpos p hp).2
        synd := fun j hj => (ofNat_syndromes_getD _ hrb k j (hsl ▸ hj)).trans (hsyn j (hsl ▸ hj))
        card := by
          rw [hsl, hIc, Nat.mul_comm]
          exact (Nat.le_div_iff_mul_le Nat.two_pos).mp hham
        ne := Finset.nonempty_iff_ne_empty.mpr h0 }
    obtain ⟨⟨d, e⟩, hcbk⟩ := correctBlock_ok pat rd re
      (fun p hp => by have := (hIpos p hp).1; rwa [hnlen] at this)
    rw [hsl] at hcbk
    have hdec : decodeBlock rd re k = .ok (d, e) := by
      rw [RSTotal.decodeBlock_eq rd re k hk1 (by rw [← hld, ← hle]; exact hnk),
        if_neg (syndromes_not_all_zero pat), hcbk]
    rw [hdec]
    -- the answer is a codeword within ⌊k/2⌋ of the received word (soundness), as is `cd ++ ce`
    obtain ⟨hdb, heb, hdl, hel, hcw', hnear⟩ := RSSound.decodeBlock_sound rd re k hrd hre hk1 hk
      (by rw [← hld, ← hle]; exact hnk) d e hdec
    have hlen' : (cd ++ ce).length = (d ++ e).length := by
      rw [List.length_append, List.length_append, hdl, hel, hld, hle]
    have hfin : cd ++ ce = d ++ e :=
      block_distance _ _ k hcb (hdb.append heb) hlen' (by rw [List.length_append]; exact hn) hk hcw hcw'
        (le_trans (hamming_triangle _ _ (rd ++ re) hlen') (by omega))
    obtain ⟨e1, e2⟩ := List.append_inj hfin (by rw [hdl, hld])
    rw [e1, e2]

end DM.Props.C03
