import DM.Props.C16
import DM.Lemmas.PlannedRun
/-!
# C16 / C18 / C11 — header decision, planner, encoder and decoder models composed

`Props/C16.lean` proves that whatever the encoder model returns behind the prefix codeword 236 / 237 /
232 (Macro 05, Macro 06, FNC1 in first position) the decoder model turns back into the whole original
message — *if* the encoder model succeeds (`macro05_lossless`, `macro06_lossless`, `gs1_roundtrip`).
`Props/C18Couple.lean` proves that on the plan the planner model returns (within the side condition
`planOK`) the encoder model does succeed, in a symbol no larger than predicted.  Composed here: the
message `data` goes through the model of `with_size` + `use_macro_if_possible` (`macroPrefix`), which
answers with the prefix codewords `pre` and the part `body` of the message the encoder is to continue
with; the planner model is run on `body`, told the number of prefix codewords; the encoder model is run on
the planner's plan.  If the plan is inside the two decidable side conditions and the predicted size
fits a listed symbol, the encoder model **succeeds**, in a symbol no larger than the predicted one, and
the decoder model maps its codewords back to the **whole message** `data`, header and trailer included.

No hypothesis speaks about the encoder's outcome: success is a conclusion.

The round-trip side condition is `C40Gen.planOKEb body plan = true` (no latch to a non-ASCII mode
scheduled for the last four characters, EDIFACT only as the final stretch and only over EDIFACT
characters) — the weaker condition of `MainRT.header_roundtrip_E`, which accepts more
plans than the `PlanOK` of the statements in `Props/C16.lean` (every `PlanOK` plan satisfies it, see
`planOKE_of_planOK`).
-/
namespace DM.Props.C16Planner
open DM.Model DM.Model.Plan DM.Model.Enc DM.Model.PlanSide DM.Lemmas DM.Lemmas.AsciiRT DM.Props.C16

/-- **The four answers of the header decision**: nothing written and the message untouched; FNC1 and the
message untouched; Macro 05 / Macro 06 and the message is header ++ body ++ trailer. -/
theorem macroPrefix_ok_cases (data : List Nat) (m f : Bool) (pre body : List Nat)
    (h : macroPrefix data m f = .ok pre body) :
    (pre = [] ∧ body = data) ∨ (pre = [232] ∧ body = data) ∨
    (pre = [236] ∧ data = HEAD05 ++ body ++ TRAIL) ∨ (pre = [237] ∧ data = HEAD06 ++ body ++ TRAIL) := by
  obtain ⟨out0, mac, fnc1, sp, H, hs, hd⟩ := macroPrefix_header data m f pre body h
  cases H
  · exact .inl ⟨rfl, hd.symm⟩
  · exact .inr (.inl ⟨rfl, hd.symm⟩)
  · exact .inr (.inr (.inl ⟨rfl, hd⟩))
  · exact .inr (.inr (.inr ⟨rfl, hd⟩))
  · cases hs

theorem body_bytes (data : List Nat) (m f : Bool) (pre body : List Nat)
    (h : macroPrefix data m f = .ok pre body) (hd : ByteList data) : ByteList body := by
  obtain ⟨out0, mac, fnc1, _, _, _, rfl⟩ := macroPrefix_header data m f pre body h
  intro b hb
  exact hd b (by cases mac <;> simp [hb])

/-- the composition, with the byte hypothesis on the part the encoder continues with -/
theorem planned_prefix_roundtrip (data : List Nat) (macros fnc1 : Bool) (pre body : List Nat)
    (list : List Sym) (modes : Nat) (perms : List (List Nat)) (o : Outcome)
    (plan : List (Nat × EMode)) (ps : Sym) (hb : ByteList body)
    (hmp : macroPrefix data macros fnc1 = .ok pre body)
    (hopt : Plan.optimize body pre.length list modes perms = .ok o) (hp : o.plan = some plan)
    (hok : planOK body plan = true) (hrt : DM.Lemmas.C40Gen.planOKEb body plan = true)
    (hfit : firstBigEnough list (pre.length + o.cost12 / 12) = some ps) :
    ∃ cw sym, Enc.run list pre body plan = .ok (cw, sym) ∧ dataCw sym ≤ dataCw ps ∧
      DM.Model.Dec.decodeData cw = .ok data := by
  obtain ⟨cw, sym, hrun, hsz⟩ := PlannedRun.planned_run_nogate body pre list modes perms o plan ps hb hopt hp hok hfit
  exact ⟨cw, sym, hrun, hsz, prefix_roundtrip_E hmp list cw plan sym hb (DM.Lemmas.C40Gen.planOKE_of_check body plan hrt) hrun⟩

/-- **Header decision → planner → encoder → decoder on the models, every header kind, without the gate
hypothesis** (the composition of the file header).  (`CoupleGate.gate_prediction_none`: a prediction that fits
a listed symbol implies `body.length ≤ maxCapacity list`.) -/
theorem planned_message_roundtrip_nogate (data : List Nat) (macros fnc1 : Bool) (pre body : List Nat)
    (list : List Sym) (modes : Nat) (perms : List (List Nat)) (o : Outcome)
    (plan : List (Nat × EMode)) (ps : Sym) (hd : ∀ b ∈ data, b < 256)
    (hmp : macroPrefix data macros fnc1 = .ok pre body)
    (hopt : Plan.optimize body pre.length list modes perms = .ok o) (hp : o.plan = some plan)
    (hok : planOK body plan = true) (hrt : DM.Lemmas.C40Gen.planOKEb body plan = true)
    (hfit : firstBigEnough list (pre.length + o.cost12 / 12) = some ps) :
    ∃ cw sym, Enc.run list pre body plan = .ok (cw, sym) ∧ dataCw sym ≤ dataCw ps ∧
      DM.Model.Dec.decodeData cw = .ok data :=
  planned_prefix_roundtrip data macros fnc1 pre body list modes perms o plan ps
    (body_bytes data macros fnc1 pre body hmp hd) hmp hopt hp hok hrt hfit

/-- **The same with the gate hypothesis** (which the proof does not need). -/
theorem planned_message_roundtrip (data : List Nat) (macros fnc1 : Bool) (pre body : List Nat)
    (list : List Sym) (modes : Nat) (perms : List (List Nat)) (o : Outcome)
    (plan : List (Nat × EMode)) (ps : Sym) (hd : ∀ b ∈ data, b < 256)
    (hmp : macroPrefix data macros fnc1 = .ok pre body)
    (hopt : Plan.optimize body pre.length list modes perms = .ok o) (hp : o.plan = some plan)
    (hok : planOK body plan = true) (hrt : DM.Lemmas.C40Gen.planOKEb body plan = true)
    (hgate : body.length ≤ maxCapacity list)
    (hfit : firstBigEnough list (pre.length + o.cost12 / 12) = some ps) :
    ∃ cw sym, Enc.run list pre body plan = .ok (cw, sym) ∧ dataCw sym ≤ dataCw ps ∧
      DM.Model.Dec.decodeData cw = .ok data :=
  planned_message_roundtrip_nogate data macros fnc1 pre body list modes perms o plan ps hd hmp hopt hp hok hrt hfit

/-- **Macro 05, planned.**  The message `[)>␞05␝ body ␞␄` with macros enabled and no FNC1 start: codeword
236 is written, the planner model plans `body` behind one codeword, the encoder model succeeds on its plan
within the predicted symbol, and the decoder model returns header ++ body ++ trailer. -/
theorem planned_macro05_lossless (body : List Nat) (list : List Sym) (modes : Nat) (perms : List (List Nat))
    (o : Outcome) (plan : List (Nat × EMode)) (ps : Sym) (hb : ∀ b ∈ body, b < 256)
    (hopt : Plan.optimize body 1 list modes perms = .ok o) (hp : o.plan = some plan)
    (hok : planOK body plan = true) (hrt : DM.Lemmas.C40Gen.planOKEb body plan = true)
    (hgate : body.length ≤ maxCapacity list)
    (hfit : firstBigEnough list (1 + o.cost12 / 12) = some ps) :
    macroPrefix (HEAD05 ++ body ++ TRAIL) true false = .ok [236] body ∧
    ∃ cw sym, Enc.run list [236] body plan = .ok (cw, sym) ∧ dataCw sym ≤ dataCw ps ∧
      DM.Model.Dec.decodeData cw = .ok (HEAD05 ++ body ++ TRAIL) :=
  have hmp := (macro05_iff _ true false body).mpr ⟨rfl, rfl, rfl⟩
  ⟨hmp, planned_prefix_roundtrip _ true false [236] body list modes perms o plan ps hb hmp hopt hp hok hrt hfit⟩

/-- **Macro 06, planned.**  As `planned_macro05_lossless` with the header `[)>␞06␝` and codeword 237. -/
theorem planned_macro06_lossless (body : List Nat) (list : List Sym) (modes : Nat) (perms : List (List Nat))
    (o : Outcome) (plan : List (Nat × EMode)) (ps : Sym) (hb : ∀ b ∈ body, b < 256)
    (hopt : Plan.optimize body 1 list modes perms = .ok o) (hp : o.plan = some plan)
    (hok : planOK body plan = true) (hrt : DM.Lemmas.C40Gen.planOKEb body plan = true)
    (hgate : body.length ≤ maxCapacity list)
    (hfit : firstBigEnough list (1 + o.cost12 / 12) = some ps) :
    macroPrefix (HEAD06 ++ body ++ TRAIL) true false = .ok [237] body ∧
    ∃ cw sym, Enc.run list [237] body plan = .ok (cw, sym) ∧ dataCw sym ≤ dataCw ps ∧
      DM.Model.Dec.decodeData cw = .ok (HEAD06 ++ body ++ TRAIL) :=
  ⟨macro06_of_envelope body, planned_prefix_roundtrip _ true false [237] body list modes perms o plan ps hb
    (macro06_of_envelope body) hopt hp hok hrt hfit⟩

/-- **FNC1 in first position (GS1), planned.**  With an FNC1 start the message is never compacted
(whatever `macros` says): codeword 232 is written, the planner model plans the whole message behind one
codeword, the encoder model succeeds on its plan within the predicted symbol, and the decoder model
returns the message. -/
theorem planned_gs1_roundtrip (data : List Nat) (macros : Bool) (list : List Sym) (modes : Nat)
    (perms : List (List Nat)) (o : Outcome) (plan : List (Nat × EMode)) (ps : Sym) (hb : ∀ b ∈ data, b < 256)
    (hopt : Plan.optimize data 1 list modes perms = .ok o) (hp : o.plan = some plan)
    (hok : planOK data plan = true) (hrt : DM.Lemmas.C40Gen.planOKEb data plan = true)
    (hgate : data.length ≤ maxCapacity list)
    (hfit : firstBigEnough list (1 + o.cost12 / 12) = some ps) :
    macroPrefix data macros true = .ok [232] data ∧
    ∃ cw sym, Enc.run list [232] data plan = .ok (cw, sym) ∧ dataCw sym ≤ dataCw ps ∧
      DM.Model.Dec.decodeData cw = .ok data :=
  ⟨fnc1_first data macros, planned_prefix_roundtrip data macros true [232] data list modes perms o plan ps hb
    (fnc1_first data macros) hopt hp hok hrt hfit⟩

/-! ### non-vacuity

The message `[)>␞05␝ABCDEFGHI` + six bytes ≥ 200 + `123456␞␄` (the first example of
`Props/C18Couple.lean` in the Macro 05 envelope), macros enabled, no FNC1 start, the 30 standard sizes,
ASCII + X12 + Base 256 enabled, the sort permutations of a stable sort by cost: the header decision
answers 236 and the 21 inner bytes, the planner model (told of one codeword written) plans
X12 → Base 256 → ASCII at 19 codewords, both side conditions hold, the gate is passed and 1 + 19
codewords fit symbol 9 — every hypothesis of `planned_message_roundtrip` / `planned_macro05_lossless`. -/

open DM.Props.C18Couple in
theorem exMacroPrefix : macroPrefix (HEAD05 ++ exBody ++ TRAIL) true false = .ok [236] exBody := by decide +kernel
open DM.Props.C18Couple in
theorem exPlanOKEb : DM.Lemmas.C40Gen.planOKEb exBody exPlan = true := by decide +kernel

open DM.Props.C18Couple in
example :
    (∀ b ∈ HEAD05 ++ exBody ++ TRAIL, b < 256) ∧
    macroPrefix (HEAD05 ++ exBody ++ TRAIL) true false = .ok [236] exBody ∧
    Plan.optimize exBody ([236] : List Nat).length exList exModes exPerms = .ok exOutcome ∧
    exOutcome.plan = some exPlan ∧
    planOK exBody exPlan = true ∧
    DM.Lemmas.C40Gen.planOKEb exBody exPlan = true ∧
    exBody.length ≤ maxCapacity exList ∧
    firstBigEnough exList (([236] : List Nat).length + exOutcome.cost12 / 12) = some 9 := by
  refine ⟨by decide, exMacroPrefix, exOptimize, rfl, exPlanOK, exPlanOKEb, by rw [maxCapacity_exList]; decide, exFit⟩

/-- the theorem applied to this instance: the encoder model succeeds within symbol 9 (22 data codewords)
and the decoder model returns the 30 bytes of the enveloped message -/
example : ∃ cw sym, Enc.run DM.Props.C18Couple.exList [236] DM.Props.C18Couple.exBody DM.Props.C18Couple.exPlan =
      .ok (cw, sym) ∧ dataCw sym ≤ dataCw 9 ∧
    DM.Model.Dec.decodeData cw = .ok (HEAD05 ++ DM.Props.C18Couple.exBody ++ TRAIL) :=
  planned_message_roundtrip_nogate (HEAD05 ++ DM.Props.C18Couple.exBody ++ TRAIL) true false [236]
    DM.Props.C18Couple.exBody DM.Props.C18Couple.exList DM.Props.C18Couple.exModes DM.Props.C18Couple.exPerms
    DM.Props.C18Couple.exOutcome DM.Props.C18Couple.exPlan 9 (by decide) exMacroPrefix DM.Props.C18Couple.exOptimize rfl
    DM.Props.C18Couple.exPlanOK exPlanOKEb DM.Props.C18Couple.exFit

/-- what evaluation gives for the same instance -/
example : Enc.run DM.Props.C18Couple.exList [236] DM.Props.C18Couple.exBody DM.Props.C18Couple.exPlan =
      .ok ([236, 238, 89, 233, 109, 36, 128, 95, 254, 231, 116, 204, 98, 249, 143, 38, 188, 142, 164, 186, 129, 118], 9) ∧
    DM.Model.Dec.decodeData
      [236, 238, 89, 233, 109, 36, 128, 95, 254, 231, 116, 204, 98, 249, 143, 38, 188, 142, 164, 186, 129, 118] =
      .ok (HEAD05 ++ DM.Props.C18Couple.exBody ++ TRAIL) := by
  refine ⟨by rw [DM.Props.C18Couple.exList_eq]; decide +kernel, by decide +kernel⟩

end DM.Props.C16Planner
