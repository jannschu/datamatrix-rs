import DM.Props.C09
/-!
# C03 — the correction of up to ⌊k/2⌋ errors per block is unique

`correction_unique`: let `(d, e)` be a valid word of size `s`, `(rd, re)` any received word that
differs from it in at most ⌊k/2⌋ codewords in each interleaved block, and `(d', e')` a valid word
that also differs from the received word in at most ⌊k/2⌋ codewords per block.  Then
`(d', e') = (d, e)`.  So whenever the decoder answers Ok with a valid word (C09) after changing at
most ⌊k/2⌋ codewords per block, it has restored exactly the original vector.
`decode_restores` states this for the decoder model.

That the decoder does answer Ok with the original word for every such received word is
`decode_complete_unconditional` (`C03Full.lean`).
-/
namespace DM.Props.C03
open DM.Gen DM.Model DM.Spec DM.Lemmas DM.Props.C09

/-- **Uniqueness of the correction inside the guaranteed radius.** -/
theorem correction_unique (s : Sym) (hs : s < numSizes) (d e rd re d' e' : List Nat)
    (hd : Bytes d) (he : Bytes e) (hd' : Bytes d') (he' : Bytes e')
    (hl : d.length = dataCw s) (hl' : d'.length = dataCw s) (hlr : rd.length = dataCw s)
    (hel : e.length = (row s).blocks * (row s).eccPer) (hel' : e'.length = (row s).blocks * (row s).eccPer)
    (helr : re.length = (row s).blocks * (row s).eccPer)
    (hv : Valid s d e) (hv' : Valid s d' e')
    (herr : ∀ b, b < (row s).blocks → hamming (block s d e b) (block s rd re b) ≤ (row s).eccPer / 2)
    (hfix : ∀ b, b < (row s).blocks → hamming (block s d' e' b) (block s rd re b) ≤ (row s).eccPer / 2) :
    d' = d ∧ e' = e := by
  -- the received word enters through the two distances only: its lengths `hlr`, `helr` are not needed
  refine valid_distance s hs d' e' d e hd' he' hd he hl' hl hel' hel hv' hv fun b hb => ?_
  refine le_trans (hamming_triangle _ _ (block s rd re b) ?_) (by have := herr b hb; have := hfix b hb; omega)
  rw [block_length s d' e' b hb hel', block_length s d e b hb hel, strided_length, strided_length, hl, hl']

/-- The same for the decoder model: if `decode` answers Ok on a word within the radius of a valid
word, and its answer is valid and within the radius of the received word (both facts are what the
exploration checks of C09/C03 test on every case), the answer is the original word. -/
theorem decode_restores (s : Sym) (hs : s < numSizes) (d e r c' : List Nat)
    (hd : Bytes d) (he : Bytes e) (hc' : Bytes c')
    (hl : d.length = dataCw s) (hel : e.length = (row s).blocks * (row s).eccPer)
    (hr : r.length = totalCw s) (hcl : c'.length = totalCw s)
    (hv : Valid s d e)
    (herr : ∀ b, b < (row s).blocks →
      hamming (block s d e b) (block s (r.take (dataCw s)) (r.drop (dataCw s)) b) ≤ (row s).eccPer / 2)
    (_hdec : RS.decode s r = .ok c')
    (hv' : Valid s (c'.take (dataCw s)) (c'.drop (dataCw s)))
    (hfix : ∀ b, b < (row s).blocks →
      hamming (block s (c'.take (dataCw s)) (c'.drop (dataCw s)) b)
        (block s (r.take (dataCw s)) (r.drop (dataCw s)) b) ≤ (row s).eccPer / 2) :
    c' = d ++ e := by
  have := correction_unique s hs d e (r.take (dataCw s)) (r.drop (dataCw s))
    (c'.take (dataCw s)) (c'.drop (dataCw s)) hd he
    (fun x hx => hc' x (List.mem_of_mem_take hx)) (fun x hx => hc' x (List.mem_of_mem_drop hx))
    hl (length_take_data s c' hcl) (length_take_data s r hr) hel
    (length_drop_data s c' hcl) (length_drop_data s r hr) hv hv' herr hfix
  rw [← List.take_append_drop (dataCw s) c', this.1, this.2]

end DM.Props.C03
