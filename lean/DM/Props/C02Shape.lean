import DM.Props.C02
import DM.Lemmas.EncLoop
import DM.Lemmas.SymbolList
/-!
# C02 — conformant output: symbol, length and padding of every successful run

`run_shape`, from `EncRT.run_unfoldP` (a successful `Enc.run` is the main loop, the choice of the
symbol and `addPadding`) and `padding_conformant`.
Namespace: `C02`.
-/
namespace DM.Props.C02
open DM.Gen DM.Model DM.Model.Enc DM.Lemmas DM.Spec.Stream

/-- **Shape of every successful encoding** (any plan, any prefix): the symbol is a member of the
supplied list, the result has exactly that symbol's number of data codewords, and there is an encoder
state `sE` (the proof takes the one the main loop ends in; the statement does not say which) such that
the symbol is the first one of the list that is large enough for `sE.cw`, the result starts with
`sE.cw`, and what follows is exactly the standard's padding. -/
theorem run_shape (list : List Sym) (pre body cw : List Nat) (plan : List (Nat × EMode)) (sym : Sym)
    (h : run list pre body plan = .ok (cw, sym)) :
    sym ∈ list ∧ cw.length = dataCw sym ∧
    ∃ sE : Enc.St, firstBigEnough list sE.cw.length = some sym ∧ cw.take sE.cw.length = sE.cw ∧
      ∀ start, start = sE.cw.length + (if (sE.mode == EMode.ascii) = false ∧ sE.cw.length < dataCw sym then 1 else 0) →
        (start < dataCw sym → cw.getD start 0 = 129) ∧
        ∀ i, start < i → i < dataCw sym → unrand253 (cw.getD i 0) (i + 1) = 129 := by
  obtain ⟨sE, _, hsym, hpad⟩ := EncRT.run_unfoldP list pre body cw plan sym h
  have hmem : sym ∈ list := DM.Lemmas.SymbolList.fbe_mem hsym
  have hle := DM.Lemmas.SymbolList.fbe_some_ge list _ sym hsym
  obtain ⟨out, hout, hlen, htake, _, hrest⟩ := padding_conformant sE.cw (sE.mode == EMode.ascii) (dataCw sym) hle
  rw [hpad] at hout
  cases hout
  exact ⟨hmem, hlen, sE, hsym, htake, hrest⟩

end DM.Props.C02
