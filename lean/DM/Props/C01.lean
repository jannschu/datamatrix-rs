import DM.Lemmas.RSCleanWord
import DM.Props.C06
import DM.Props.C07
import DM.Props.C08
import DM.Lemmas.MainRT
import DM.Props.C02Shape
import DM.Lemmas.TestSymbols
/-!
# C01 — the round trip: symbol-level half for all sizes and contents, data-level half per plan

`pipeline_roundtrip`: for every symbol size and every vector of data codewords of the size's
capacity, appending the error codewords (`encode_error`), placing the codewords
(`new_with_codewords`), rendering (`bitmap`), parsing (`try_from_bits`), reading the codewords
back (`codewords`) and running the Reed–Solomon decoder (`decode_error`) returns exactly the
data codewords and the size. Hence `DataMatrix::decode(bitmap)` and `decode_data(data codewords)`
are the same computation from there on: the two decoding paths of property C01 agree for every
encoder output.
-/
namespace DM.Props.C01
open DM.Gen DM.Model DM.Model.RS DM.Lemmas DM.Spec

inductive PErr where
  | pixel (e : ConvErr)
  | rs (e : RErr)

/-- `DataMatrix::decode` up to (not including) the data decoder: the data codewords and the size -/
def decodePixels (bits : List Bool) (width : Nat) : Except PErr (List Nat × Sym) :=
  match tryFromBits bits width with
  | .error e => .error (.pixel e)
  | .ok (m, s) =>
    match RS.decode s (readCodewords m (layoutOf s)) with
    | .error e => .error (.rs e)
    | .ok cw => .ok (cw.take (dataCw s), s)

theorem pipeline_roundtrip (s : Sym) (hs : s < numSizes) (data : List Nat)
    (hb : Bytes data) (hl : data.length = dataCw s) :
    ∃ ecc e, encodeError s data = .ok ecc ∧ newWithCodewords s (data ++ ecc) = some e ∧
      decodePixels (bitmapOf s e) (row s).width = .ok (data, s) := by
  obtain ⟨ecc, henc, hecclen, heccb, hcw⟩ := C06.encode_error_conformant s hs data hb hl
  have hecclen' : ecc.length = (row s).blocks * (row s).eccPer := by
    rw [hecclen]; simp [C12.toStd]
  have hc : Bytes (data ++ ecc) := hb.append heccb
  have hclen : (data ++ ecc).length = totalCw s := by
    rw [List.length_append, hl, hecclen']; rfl
  obtain ⟨e, hnew, helen, _, hcorner, hread⟩ := C07.placement_conformant s hs (data ++ ecc) hc hclen
  refine ⟨ecc, e, henc, hnew, ?_⟩
  -- the fixed corner pattern is what the parser's padding check asks for
  have hparse := C08.parse_render s hs e helen (C08.padChecks_of_corner s hs e hcorner)
  unfold decodePixels
  rw [hparse]
  simp only [hread]
  rw [clean_word_unchanged s hs data ecc hb hl heccb hecclen' hcw]
  simp only
  have : dataCw s = data.length := hl.symm
  rw [this]; simp

/-- Non-vacuity: the 10×10 symbol for the data codewords of "Foo" (kernel-computed). -/
example : (match encodeError 0 [71, 112, 112] with
    | .ok ecc => match newWithCodewords 0 ([71, 112, 112] ++ ecc) with
      | some e => match decodePixels (bitmapOf 0 e) 10 with
        | .ok (d, s) => d == [71, 112, 112] && s == 0
        | .error _ => false
      | none => false
    | .error _ => false) = true := by decide +kernel

/-! ## The data-level half for ASCII encodation

`ascii_roundtrip`: whenever the encoder model, following the plan `[(0, .ascii)]` ("ASCII until the
end"; the form `[(len, .ascii), (0, .ascii)]` falls under `mixed_roundtrip`), produces the data
codewords of a symbol, the data decoder model returns exactly the
message — for every message, every symbol list and whatever amount of padding the chosen symbol
needs (digit pairs, upper shift, the pad codeword and the 253-state randomised pads included). -/

theorem ascii_roundtrip (list : List Sym) (body cw : List Nat) (sym : Sym) (hb : ∀ b ∈ body, b < 256)
    (h : DM.Model.Enc.run list [] body [(0, .ascii)] = .ok (cw, sym)) :
    DM.Model.Dec.decodeData cw = .ok body ∧ cw.length = dataCw sym :=
  ⟨DM.Lemmas.MainRT.general_roundtrip list body cw _ sym hb (by simp [DM.Lemmas.C40Gen.PlanOK]) h,
    (DM.Props.C02.run_shape list [] body cw _ sym h).2.1⟩

/-- Non-vacuity: "A1234é" fills the 5-codeword symbol exactly, "A1234éé" needs padding; the runs succeed. -/
example : (match DM.Model.Enc.run (symbolList (List.range 30)) [] [65, 49, 50, 51, 52, 233] [(0, .ascii)] with
    | .ok (cw, sym) => cw == [66, 142, 164, 235, 106] && sym == 1
    | .error _ => false) = true := by
  rw [symbols30]
  decide +kernel
example : (match DM.Model.Enc.run (symbolList (List.range 30)) [] [65, 49, 50, 51, 52, 233, 233] [(0, .ascii)] with
    | .ok (cw, sym) => cw == [66, 142, 164, 235, 106, 235, 106, 129] && sym == 3
    | .error _ => false) = true := by
  rw [symbols30]
  decide +kernel

/-! ## The data-level half for a message planned entirely in X12

`x12_roundtrip`: with the plan "latch to X12 at the start, stay there" (the optimiser's plan for
X12 messages), whatever the encoder model returns decodes to the message — including the three
end-of-data forms `x12::encode` chooses between by looking at the space left in the symbol (the
examples below). -/

theorem x12_roundtrip (list : List Sym) (body cw : List Nat) (sym : Sym) (hb : ∀ b ∈ body, b < 256)
    (h : DM.Model.Enc.run list [] body [(body.length, .x12), (0, .x12)] = .ok (cw, sym)) :
    DM.Model.Dec.decodeData cw = .ok body :=
  DM.Lemmas.MainRT.pure_roundtrip .x12 238 rfl list body cw sym hb (fun h => by cases h) h

/-- Non-vacuity: the three endings (exact fit, single ASCII codeword without UNLATCH, UNLATCH + ASCII). -/
example : DM.Model.Enc.run (symbolList (List.range 30)) [] [65, 65, 65] [(3, .x12), (0, .x12)] =
    .ok ([238, 89, 191], 0) := by
  rw [symbols30]
  decide +kernel
example : DM.Model.Enc.run (symbolList (List.range 30)) [] [65, 65, 65, 65, 65, 65, 65, 65, 65, 66] [(10, .x12), (0, .x12)] =
    .ok ([238, 89, 191, 89, 191, 89, 191, 67], 3) := by
  rw [symbols30]
  decide +kernel
example : DM.Model.Enc.run (symbolList (List.range 30)) [] [65, 65, 65, 65] [(4, .x12), (0, .x12)] =
    .ok ([238, 89, 191, 254, 66], 1) := by
  rw [symbols30]
  decide +kernel

/-! ## The data-level half for a message planned entirely in Base 256

`b256_roundtrip`: latch, length field, 255-state randomisation by codeword position. `write_length`
chooses the one-codeword length (≤ 249 bytes), the two-codeword length (≤ 1555 bytes) or, when the
data ends exactly with the symbol, length 0 = "to the end of the symbol"; all three decode to the message. -/

theorem b256_roundtrip (list : List Sym) (body cw : List Nat) (sym : Sym) (hb : ∀ b ∈ body, b < 256)
    (h : DM.Model.Enc.run list [] body [(body.length, .base256), (0, .base256)] = .ok (cw, sym)) :
    DM.Model.Dec.decodeData cw = .ok body :=
  DM.Lemmas.MainRT.pure_roundtrip .base256 231 rfl list body cw sym hb (fun h => by cases h) h

/-- Non-vacuity: the "to the end of the symbol" form and an explicit length with padding. -/
example : DM.Model.Enc.run (symbolList (List.range 30)) [] [200, 201, 202] [(3, .base256), (0, .base256)] =
    .ok ([231, 44, 137, 32, 182], 1) := by
  rw [symbols30]
  decide +kernel
example : DM.Model.Enc.run (symbolList (List.range 30)) [] [200, 201] [(2, .base256), (0, .base256)] =
    .ok ([231, 46, 137, 32, 129], 1) := by
  rw [symbols30]
  decide +kernel

/-! ## The data-level half for a message planned entirely in EDIFACT

`edifact_roundtrip` (all characters in the EDIFACT range 32..94): complete quadruples, then one of the
end-of-data forms `edifact::encode` chooses from the space left in the symbol — the rest (≤ 4
characters) as ≤ 2 ASCII codewords without UNLATCH when the symbol has ≤ 2 codewords left
(`try_ascii_end`), the UNLATCH value in the
next free slot of a last group (which needs three codewords in the symbol to be read as EDIFACT: the
proof shows the encoder's space tests guarantee them), or the exact end of the symbol. The branch
"write the buffered characters without UNLATCH" of `handle_end` is shown unreachable: whenever its
condition holds, `try_ascii_end` has already succeeded. -/

theorem edifact_roundtrip (list : List Sym) (body cw : List Nat) (sym : Sym) (hc : ∀ x ∈ body, 32 ≤ x ∧ x ≤ 94)
    (h : DM.Model.Enc.run list [] body [(body.length, .edifact), (0, .edifact)] = .ok (cw, sym)) :
    DM.Model.Dec.decodeData cw = .ok body :=
  DM.Lemmas.MainRT.pure_roundtrip .edifact 240 rfl list body cw sym (fun b hb => by have := (hc b hb).2; omega) (fun _ => hc) h

/-- Non-vacuity: ASCII end with nothing left, ASCII end with one character, UNLATCH in the third slot
with the symbol exactly full, UNLATCH in the first slot followed by padding. -/
example : DM.Model.Enc.run (symbolList (List.range 30)) [] [65, 66, 67, 68] [(4, .edifact), (0, .edifact)] =
    .ok ([240, 4, 32, 196, 129], 1) := by
  rw [symbols30]
  decide +kernel
example : DM.Model.Enc.run (symbolList (List.range 30)) [] [65, 66, 67, 68, 69] [(5, .edifact), (0, .edifact)] =
    .ok ([240, 4, 32, 196, 70], 1) := by
  rw [symbols30]
  decide +kernel
example : DM.Model.Enc.run (symbolList (List.range 30)) [] [65, 66, 67, 68, 69, 70, 71, 72, 73, 74]
    [(10, .edifact), (0, .edifact)] = .ok ([240, 4, 32, 196, 20, 97, 200, 36, 167, 192], 4) := by
  rw [symbols30]
  decide +kernel
example : DM.Model.Enc.run (symbolList [5]) [] [65, 66, 67, 68, 69, 70, 71, 72] [(8, .edifact), (0, .edifact)] =
    .ok ([240, 4, 32, 196, 20, 97, 200, 124, 129, 101, 251, 147], 5) := by decide +kernel

/-! ## The data-level half for a message planned entirely in C40 or in Text

`c40_roundtrip`, `text_roundtrip`: every byte value (basic set, the three shift sets, upper shift),
triples flushed as they fill, and every end-of-data branch of `c40::handle_end`: two values left and
exactly two codewords of room (fill value 0, no UNLATCH); one value left and room for UNLATCH + one
codeword (the value is dropped, UNLATCH, the last character again in ASCII); one value left, exactly
one codeword of room and a one-codeword character (no UNLATCH, single trailing ASCII codeword); the
general case (fill with Shift 2 / Shift 2 + Upper Shift, UNLATCH if there is room); and the
"two digits left with an empty buffer" case (UNLATCH if there is room, digit pair in ASCII). -/

theorem c40_roundtrip (list : List Sym) (body cw : List Nat) (sym : Sym) (hb : ∀ b ∈ body, b < 256)
    (h : DM.Model.Enc.run list [] body [(body.length, .c40), (0, .c40)] = .ok (cw, sym)) :
    DM.Model.Dec.decodeData cw = .ok body :=
  DM.Lemmas.MainRT.pure_roundtrip .c40 230 rfl list body cw sym hb (fun h => by cases h) h

theorem text_roundtrip (list : List Sym) (body cw : List Nat) (sym : Sym) (hb : ∀ b ∈ body, b < 256)
    (h : DM.Model.Enc.run list [] body [(body.length, .text), (0, .text)] = .ok (cw, sym)) :
    DM.Model.Dec.decodeData cw = .ok body :=
  DM.Lemmas.MainRT.pure_roundtrip .text 239 rfl list body cw sym hb (fun h => by cases h) h

/-- Non-vacuity: exact fit, dropped value + UNLATCH + ASCII, fill value 0, two trailing digits,
Text with upper shift, fill with Shift 2 + Upper Shift. -/
example : DM.Model.Enc.run (symbolList (List.range 30)) [] [65, 66, 67] [(3, .c40), (0, .c40)] =
    .ok ([230, 89, 233], 0) := by
  rw [symbols30]
  decide +kernel
example : DM.Model.Enc.run (symbolList (List.range 30)) [] [65, 66, 67, 68] [(4, .c40), (0, .c40)] =
    .ok ([230, 89, 233, 254, 69], 1) := by
  rw [symbols30]
  decide +kernel
example : DM.Model.Enc.run (symbolList (List.range 30)) [] [65, 66, 67, 68, 69] [(5, .c40), (0, .c40)] =
    .ok ([230, 89, 233, 109, 17], 1) := by
  rw [symbols30]
  decide +kernel
example : DM.Model.Enc.run (symbolList (List.range 30)) [] [65, 66, 67, 49, 50] [(5, .c40), (0, .c40)] =
    .ok ([230, 89, 233, 254, 142], 1) := by
  rw [symbols30]
  decide +kernel
example : DM.Model.Enc.run (symbolList (List.range 30)) [] [97, 98, 99, 200] [(4, .text), (0, .text)] =
    .ok ([239, 89, 233, 10, 243, 50, 71, 254], 3) := by
  rw [symbols30]
  decide +kernel
example : DM.Model.Enc.run (symbolList (List.range 30)) [] [65, 66, 67, 68, 69, 70, 33] [(7, .c40), (0, .c40)] =
    .ok ([230, 89, 233, 109, 36, 6, 66, 254], 3) := by
  rw [symbols30]
  decide +kernel

/-! ## The data-level half for mixed plans

`mixed_roundtrip`: for **every plan** over ASCII, C40, Text, X12 and Base 256 in which no latch to a
non-ASCII mode is scheduled for the last four characters (`PlanOK`, decidable; for EDIFACT see
`edifact_roundtrip` and `mixed_roundtrip_E` below), whatever the encoder model returns decodes to
the message. Proof: an invariant of `GenericDataEncoder::codewords`' main loop (`MainRT.MI`), preserved by each
mode encoder started at any position with any plan (`asciiLoop_gen`, `c40Loop_gen`, `x12Encode_genP`,
`b256Loop_gen`), including planned switches inside `handle_end` / `write_length`.
The side condition excludes the plans for which the round trip is false (stale latch after
`set_ascii_until_end`, DESIGN.md §0.6). -/

open DM.Lemmas.C40Gen in
theorem mixed_roundtrip (list : List Sym) (body cw : List Nat) (plan : List (Nat × DM.Model.Enc.EMode)) (sym : Sym)
    (hb : ∀ b ∈ body, b < 256)
    (hplan : ∀ e ∈ plan, (e.2 ≠ .ascii → e.1 = 0 ∨ e.1 > 4) ∧ e.2 ≠ .edifact)
    (h : DM.Model.Enc.run list [] body plan = .ok (cw, sym)) :
    DM.Model.Dec.decodeData cw = .ok body :=
  DM.Lemmas.MainRT.general_roundtrip list body cw plan sym hb hplan h

/-- Non-vacuity: C40, then ASCII digit pairs, then Base 256, then X12 — the plan satisfies the side
condition and the run succeeds. -/
example : (∀ e ∈ [(26, DM.Model.Enc.EMode.c40), (20, .ascii), (12, .base256), (6, .x12), (0, .x12)],
    (e.2 ≠ DM.Model.Enc.EMode.ascii → e.1 = 0 ∨ e.1 > 4) ∧ e.2 ≠ .edifact) := by decide
example : DM.Model.Enc.run (symbolList (List.range 30)) []
    [65, 66, 67, 68, 69, 70, 49, 50, 51, 52, 53, 54, 55, 56, 200, 201, 202, 203, 204, 205, 65, 66, 67, 13, 42, 62]
    [(26, .c40), (20, .ascii), (12, .base256), (6, .x12), (0, .x12)] =
    .ok ([230, 89, 233, 109, 36, 254, 142, 164, 186, 208, 231, 10, 97, 248, 142, 37, 187, 82, 238, 89, 233, 0, 43, 254], 11) := by
  rw [symbols30]
  decide +kernel

/-! ## Mixed plans with EDIFACT as the final stretch

`mixed_roundtrip_E` extends `mixed_roundtrip` to plans `front ++ edis` in which the front part is as
above (no EDIFACT) and `edis` names EDIFACT only — the shape `…, (p, E), (0, E)` the optimiser
produces when it finishes a message in EDIFACT. Side conditions: as before no latch to a non-ASCII
mode (EDIFACT included) is scheduled for the last four characters, and the characters an EDIFACT
entry covers are EDIFACT characters (32 … 94; the encoder model does not check this, and the round
trip is false otherwise). Proof: `EdiGen.edifactEncode_gen` and the main-loop invariant `MainRT.MI true`.
`C40Gen.planOKEb` is an executable check of the side condition. -/

open DM.Lemmas.C40Gen in
theorem mixed_roundtrip_E (list : List Sym) (body cw : List Nat) (plan : List (Nat × DM.Model.Enc.EMode)) (sym : Sym)
    (hb : ∀ b ∈ body, b < 256)
    (hplan : ∃ front edis, plan = front ++ edis ∧
      (∀ e ∈ front, (e.2 ≠ .ascii → e.1 = 0 ∨ e.1 > 4) ∧ e.2 ≠ .edifact) ∧
      (∀ e ∈ edis, e.2 = .edifact ∧ (e.1 = 0 ∨ e.1 > 4) ∧ ∀ x ∈ body.drop (body.length - e.1), 32 ≤ x ∧ x ≤ 94))
    (h : DM.Model.Enc.run list [] body plan = .ok (cw, sym)) :
    DM.Model.Dec.decodeData cw = .ok body :=
  DM.Lemmas.MainRT.general_roundtrip_E list body cw plan sym hb hplan h

theorem mixed_roundtrip_Eb (list : List Sym) (body cw : List Nat) (plan : List (Nat × DM.Model.Enc.EMode)) (sym : Sym)
    (hb : ∀ b ∈ body, b < 256) (hplan : DM.Lemmas.C40Gen.planOKEb body plan = true)
    (h : DM.Model.Enc.run list [] body plan = .ok (cw, sym)) :
    DM.Model.Dec.decodeData cw = .ok body :=
  DM.Lemmas.MainRT.general_roundtrip_E list body cw plan sym hb (DM.Lemmas.C40Gen.planOKE_of_check body plan hplan) h

/-- Non-vacuity: the side condition holds and the run succeeds for Base 256 / Text followed by
EDIFACT, with each of the four endings of the EDIFACT run (UNLATCH in the last group; complete
quadruples filling the symbol, no UNLATCH; the last character handed to ASCII; two quadruples, two
characters and the UNLATCH value followed by padding). -/
example : DM.Lemmas.C40Gen.planOKEb [200, 201, 202, 203, 204, 205, 206, 65, 66, 67, 68, 69, 70]
    [(13, .base256), (6, .edifact), (0, .edifact)] = true := by decide
example : DM.Model.Enc.run (symbolList (List.range 30)) [] [200, 201, 202, 203, 204, 205, 206, 65, 66, 67, 68, 69, 70]
    [(13, .base256), (6, .edifact), (0, .edifact)] =
    .ok ([231, 51, 137, 32, 182, 77, 228, 122, 17, 240, 4, 32, 196, 20, 103, 192], 6) := by
  rw [symbols30]
  decide +kernel
example : DM.Lemmas.C40Gen.planOKEb [200, 201, 202, 203, 204, 205, 206, 65, 66, 67, 68, 69, 70, 71, 72]
    [(15, .base256), (8, .edifact), (0, .edifact)] = true := by decide
example : DM.Model.Enc.run (symbolList (List.range 30)) [] [200, 201, 202, 203, 204, 205, 206, 65, 66, 67, 68, 69, 70, 71, 72]
    [(15, .base256), (8, .edifact), (0, .edifact)] =
    .ok ([231, 51, 137, 32, 182, 77, 228, 122, 17, 240, 4, 32, 196, 20, 97, 200], 6) := by
  rw [symbols30]
  decide +kernel
example : DM.Lemmas.C40Gen.planOKEb [97, 98, 99, 100, 101, 102, 103, 65, 66, 67, 68, 69, 70, 71, 72, 73]
    [(16, .text), (9, .edifact), (0, .edifact)] = true := by decide
example : DM.Model.Enc.run (symbolList (List.range 30)) [] [97, 98, 99, 100, 101, 102, 103, 65, 66, 67, 68, 69, 70, 71, 72, 73]
    [(16, .text), (9, .edifact), (0, .edifact)] =
    .ok ([239, 89, 233, 109, 36, 125, 71, 254, 240, 4, 32, 196, 20, 97, 200, 74], 6) := by
  rw [symbols30]
  decide +kernel
example : DM.Model.Enc.run (symbolList (List.range 30)) [] [49, 50, 51, 52, 65, 66, 67, 68, 69, 70, 71, 72, 73, 74]
    [(10, .edifact), (0, .edifact)] =
    .ok ([142, 164, 240, 4, 32, 196, 20, 97, 200, 36, 167, 192], 5) := by
  rw [symbols30]
  decide +kernel

end DM.Props.C01
