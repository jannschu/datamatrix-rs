import DM.Model.Prune
import DM.Lemmas.PruneBy
/-!
# C19 — planning work grows at most linearly: the pruning bound

`live_plans_le_36`: whatever list of candidate plans `remove_hopeless_cases` is given (any
length, any costs, any order among equal costs), at most 36 plans survive — one per (start
mode, current mode) pair — and the survivors are a sub-list of the input. The model is compared
with the code on every call of `remove_hopeless_cases` recorded by the hook during the C19 sweep.

With at most 36 live plans at the start of an iteration of `optimize`, an iteration performs at
most 36 `step()` calls on the live plans and at most 5 per live plan inside `add_switches`
(`steps_per_iteration`), and the loop runs `len + 1` times (every plan reads one character per
step; proved for the model of the whole planner in `Props/Planner.lean`: `steps_linear`, `optimize_total`).
-/
namespace DM.Props.C19
open DM.Model

theorem dedupKeys_eq : ∀ (l : List PRec) (seen : List Nat),
    dedupKeys l seen = DM.Lemmas.PruneBy.dedupBy PRec.key l seen := by
  intro l
  induction l with
  | nil => intro seen; rfl
  | cons p ps ih => intro seen; simp only [dedupKeys, DM.Lemmas.PruneBy.dedupBy, ih]

theorem dominance_eq (first : PRec) : ∀ l : List PRec,
    dominance first l = DM.Lemmas.PruneBy.dominanceBy PRec.cost (fun f s => f.sw.getD s.cur none) first l := by
  intro l
  induction l with
  | nil => rfl
  | cons s rest ih => simp only [dominance, DM.Lemmas.PruneBy.dominanceBy, ih]; rfl

theorem phase2_eq : ∀ (f : Nat) (pre l : List PRec),
    phase2 f pre l = DM.Lemmas.PruneBy.phase2By PRec.cost (fun f s => f.sw.getD s.cur none) f pre l := by
  intro f
  induction f with
  | zero => intro pre l; rfl
  | succ f ih => intro pre l; cases l <;> simp only [phase2, DM.Lemmas.PruneBy.phase2By, ih, dominance_eq]

theorem removeHopeless_eq (l : List PRec) :
    removeHopeless l = DM.Lemmas.PruneBy.pruneBy PRec.key PRec.cost (fun f s => f.sw.getD s.cur none) l := by
  simp only [removeHopeless, DM.Lemmas.PruneBy.pruneBy, dedupKeys_eq, phase2_eq]

theorem dedupKeys_sublist : ∀ (l : List PRec) (seen : List Nat), (dedupKeys l seen).Sublist l := by
  intro l seen
  rw [dedupKeys_eq]
  exact DM.Lemmas.PruneBy.dedupBy_sublist ..

theorem dedupKeys_keys : ∀ (l : List PRec) (seen : List Nat),
    ((dedupKeys l seen).map PRec.key).Nodup ∧ ∀ p ∈ dedupKeys l seen, p.key ∉ seen := by
  intro l seen
  rw [dedupKeys_eq]
  exact DM.Lemmas.PruneBy.dedupBy_keys ..

theorem dominance_sublist (first : PRec) : ∀ l : List PRec, (dominance first l).1.Sublist l := by
  intro l
  rw [dominance_eq]
  exact DM.Lemmas.PruneBy.dominanceBy_sublist ..

theorem phase2_sublist : ∀ (f : Nat) (pre l : List PRec), (phase2 f pre l).Sublist (pre ++ l) := by
  intro f pre l
  rw [phase2_eq]
  exact DM.Lemmas.PruneBy.phase2By_sublist ..

theorem removeHopeless_dedup (l : List PRec) : (removeHopeless l).Sublist (dedupKeys l []) := by
  rw [removeHopeless_eq, dedupKeys_eq]
  exact DM.Lemmas.PruneBy.pruneBy_dedup ..

theorem removeHopeless_sublist (l : List PRec) : (removeHopeless l).Sublist l := by
  rw [removeHopeless_eq]
  exact DM.Lemmas.PruneBy.pruneBy_sublist ..

/-- **At most 36 plans are alive after pruning**, for every list of candidates whose mode
indices are below 6. -/
theorem live_plans_le_36 (l : List PRec) (hl : ∀ p ∈ l, p.start < 6 ∧ p.cur < 6) :
    (removeHopeless l).length ≤ 36 := by
  rw [removeHopeless_eq]
  exact DM.Lemmas.PruneBy.pruneBy_length _ _ _ l 36 fun p hp => by
    have := hl p hp
    unfold PRec.key
    omega

/-- after pruning no two plans share (start mode, current mode) -/
theorem live_plans_distinct_keys (l : List PRec) : ((removeHopeless l).map PRec.key).Nodup := by
  rw [removeHopeless_eq]
  exact DM.Lemmas.PruneBy.pruneBy_keys ..

/-- arithmetic of one iteration: each live plan is stepped once and `add_switches` steps at most
five new plans for it -/
theorem steps_per_iteration (live : Nat) (h : live ≤ 36) : live + 5 * live ≤ 216 := by omega

/-- Non-vacuity: two plans with the same (start, current) pair and a dominated third one. -/
example : removeHopeless
    [⟨0, 0, 12, [some 12, some 36, some 24, some 24, some 24, some 24]⟩,
     ⟨0, 0, 12, [some 12, some 36, some 24, some 24, some 24, some 24]⟩,
     ⟨0, 4, 40, [some 52, some 64, some 52, some 52, some 40, some 52]⟩]
    = [⟨0, 0, 12, [some 12, some 36, some 24, some 24, some 24, some 24]⟩] := by decide +kernel

end DM.Props.C19
