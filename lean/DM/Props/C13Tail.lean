import DM.Props.C13TailRun
import DM.Props.Planner
/-!
# C13, second clause — "every character is carried by an enabled mode or, for the final few
characters only, by the standard's end-of-data ASCII fallback"

`tail_clause`, for the optimiser's own plan within `planOK` and an encoder run that succeeds (the first
clause of C13, no latch into a disabled mode, is `DM/Props/C13.lean`).  The statement `TailOK` and the
instrumented main loop are in `C13TailDefs.lean`; `trace_final` (`C13TailRun.lean`) says which calls a
successful run records, `tailOK_of_shape` here reads `TailOK` off that, with `planModeAt` computed on the
segments of the plan and the planner's facts `plan_positions`, `plan_modes_enabled`, `rootEnabled`
(ASCII is enabled if the plan starts with the ASCII entry that `finPlan` drops).
-/
namespace DM.Props.C13Tail
open DM.Model.PlanSide
open DM.Model DM.Model.Plan DM.Model.Enc DM.Lemmas DM.Lemmas.PlanInv DM.Lemmas.Couple DM.Lemmas.CoupleReach
open DM.Lemmas.AsciiRT DM.Lemmas.EncRT DM.Lemmas.CoupleMain

theorem go_prefix (cl : Nat) : ∀ (A : List (Nat × EMode)) (cur : EMode) (c1 : Nat) (m : EMode)
    (rest : List (Nat × EMode)), (∀ x ∈ A, cl ≤ x.1) → cl ≤ c1 →
    planModeAt.go cl cur (A ++ (c1, m) :: rest) = planModeAt.go cl m rest := by
  intro A
  induction A with
  | nil =>
    intro cur c1 m rest _ h1
    simp only [List.nil_append, planModeAt.go, h1, ↓reduceIte]
  | cons x A ih =>
    intro cur c1 m rest h h1
    obtain ⟨a, mm⟩ := x
    have h2 : cl ≤ a := h (a, mm) (List.mem_cons_self ..)
    simp only [List.cons_append, planModeAt.go, h2, ↓reduceIte]
    exact ih mm c1 m rest (fun y hy => h y (List.mem_cons_of_mem _ hy)) h1

theorem planModeAt_seg {AsciiOn : Prop} {P : List (Nat × EMode)} {n a b : Nat} {m : EMode}
    (hpw : P.Pairwise (fun x y => x.1 ≥ y.1)) (h : PlanSeg AsciiOn P n a b m) (i : Nat) (hai : a ≤ i) (hib : i < b)
    (hbn : b ≤ n) : planModeAt P (n - i) = m := by
  rcases h with ⟨A, m', t, rfl⟩ | ⟨_, rfl, _, m', t, rfl⟩
  · have hA : ∀ x ∈ A, n - i ≤ x.1 := by
      intro x hx
      have := (List.pairwise_append.mp hpw).2.2 x hx (n - a, m) (List.mem_cons_self ..)
      simp only [ge_iff_le] at this
      omega
    unfold planModeAt
    rw [go_prefix (n - i) A .ascii (n - a) m _ hA (by omega)]
    rw [planModeAt.go, if_neg (by omega)]
  · unfold planModeAt
    rw [planModeAt.go, if_neg (by omega)]

theorem planSeg_enabled {P : List (Nat × EMode)} {modes n a b : Nat} {m : EMode}
    (hen : ∀ e ∈ P, enabledMode modes e.2 = true) (h : PlanSeg (enabledMode modes .ascii = true) P n a b m) :
    enabledMode modes m = true := by
  rcases h with ⟨A, m', t, rfl⟩ | ⟨_, rfl, h, _⟩
  · exact hen (n - a, m) (by simp)
  · exact h

theorem tiles_bounds : ∀ (segs : List Seg) (a b : Nat), Tiles a b segs → a ≤ b ∧ ∀ e ∈ segs, a ≤ e.1 ∧ e.2.1 ≤ b := by
  intro segs
  induction segs with
  | nil =>
    intro a b h
    simp only [Tiles] at h
    subst h
    exact ⟨Nat.le_refl _, fun e he => nomatch he⟩
  | cons x t ih =>
    intro a b h
    obtain ⟨x1, x2, xm⟩ := x
    obtain ⟨h1, h2, h3⟩ := h
    obtain ⟨i1, i2⟩ := ih x2 b h3
    subst h1
    refine ⟨by omega, ?_⟩
    intro e he
    rcases List.mem_cons.mp he with rfl | he
    · exact ⟨Nat.le_refl _, i1⟩
    · have := i2 e he
      exact ⟨by omega, this.2⟩

theorem tailOK_of_shape {P : List (Nat × EMode)} {modes n : Nat} {tr : List Seg}
    (hpw : P.Pairwise (fun x y => x.1 ≥ y.1)) (hen : ∀ e ∈ P, enabledMode modes e.2 = true)
    (h : TraceShape (enabledMode modes .ascii = true) P n tr) : ∃ q, TailOK modes n P tr q := by
  obtain ⟨segs, p, q, m, rfl, ⟨htil, hsok⟩, hpq, hqn, hpn, hseg, htail⟩ := h
  obtain ⟨_, hbnd⟩ := tiles_bounds segs 0 p htil
  have hmodeAt : ∀ i, p ≤ i → i < n → planModeAt P (n - i) = m :=
    fun i h1 h2 => planModeAt_seg hpw hseg i h1 h2 (Nat.le_refl _)
  have hmen : enabledMode modes m = true := planSeg_enabled hen hseg
  have hmem : ∀ e, e ∈ segs ++ (p, q, m) :: (if q < n then [(q, n, EMode.ascii)] else []) →
      e ∈ segs ∨ e = (p, q, m) ∨ (q < n ∧ e = (q, n, .ascii)) := by
    intro e he
    rcases List.mem_append.mp he with he | he
    · exact Or.inl he
    · rcases List.mem_cons.mp he with he | he
      · exact Or.inr (Or.inl he)
      · split at he
        · rename_i hq
          exact Or.inr (Or.inr ⟨hq, List.mem_singleton.mp he⟩)
        · cases he
  refine ⟨q, hqn, ?_, ?_, ?_, ?_, ?_⟩
  · by_cases hq : q < n
    · exact Nat.le_trans (htail hq) (tailMax_le_four m)
    · omega
  · have h1 := tiles_snoc segs 0 p q m htil hpq
    rw [List.append_cons]
    split
    · exact tiles_snoc _ 0 q n .ascii h1 hqn
    · have : q = n := by omega
      subst this
      rw [List.append_nil]
      exact h1
  · intro e he hlt hle i hi1 hi2
    rcases hmem e he with he | rfl | ⟨hq, rfl⟩
    · have hs := hsok e he hlt
      have hb := (hbnd e he).2
      exact ⟨planModeAt_seg hpw hs i hi1 hi2 (by omega), planSeg_enabled hen hs⟩
    · exact ⟨hmodeAt i hi1 (Nat.lt_of_lt_of_le hi2 hqn), hmen⟩
    · exact absurd hle (Nat.not_le.mpr hq)
  · intro e he hlt hgt
    rcases hmem e he with he | rfl | ⟨hq, rfl⟩
    · have hb := (hbnd e he).2
      omega
    · exact absurd hgt (Nat.lt_irrefl _)
    · rfl
  · intro hq
    have hmq : planModeAt P (n - q) = m := hmodeAt q hpq hq
    rw [hmq]
    have ht := htail hq
    exact ⟨List.mem_append_right _ (by rw [if_pos hq]; simp), fun i h1 h2 => hmodeAt i (by omega) h2, hmen,
      tailMax_pos (by omega), ht⟩

theorem rootEnabled {body : List Nat} {list : List Sym} {W modes : Nat} {perms : List (List Nat)} {o : Outcome}
    {plan : List (Nat × EMode)} (hne : body ≠ []) (h : optimize body W list modes perms = .ok o)
    (hp : o.plan = some plan) :
    ∃ best, Final body list W best ∧ plan = finPlan W body.length (best.switches ++ [(0, best.current)]) ∧
      ((best.switches ++ [(0, best.current)]).head? = some (body.length, .ascii) → enabledMode modes .ascii = true) := by
  obtain ⟨best, _, hfin, ⟨_, h2, _, h4⟩, hplan, _⟩ := optimize_final_live hne h hp
  refine ⟨best, hfin, hplan, fun hhead => ?_⟩
  cases hs : best.switches with
  | nil => exact absurd hs h4
  | cons x t =>
    rw [hs] at hhead
    simp only [List.cons_append, List.head?_cons, Option.some.injEq] at hhead
    have := (h2 x (by rw [hs]; simp)).1
    rw [hhead] at this
    exact this

/-- **C13, second clause (on the models, for plans within `planOK`): every character is carried by an
enabled mode or, for the final at most four characters only, by the end-of-data ASCII fallback.**

Let `plan` be the plan the optimiser returns for the byte string `body` (mode set `modes`, `pre.length`
prefix codewords), within the decidable side condition `planOK`, and let the encoder succeed on it.
Then the instrumented main loop `runTrace` — `Enc.mainLoop` with every call of a mode encoder recorded
as `(start, end, mode)`, and returning the very state `sE` that `Enc.mainLoop` returns — yields a list
`tr` of calls and there is a position `q` with (`TailOK`, unfolded):
1. `q ≤ body.length` and `body.length - q ≤ 4`;
2. the calls tile `[0, body.length)` (each starts where the one before ended);
3. every call that consumes characters and ends at or before `q` runs in the mode the plan assigns to
   each of its characters (`planModeAt`), and that mode is enabled in `modes`;
4. the only call that consumes characters beyond `q` is one call of the ASCII encoder for
   `[q, body.length)` (the state it starts from was left by `set_ascii_until_end`: `encodeMode_tail`);
5. if `q < body.length`: that ASCII call is in the list, the plan assigns one and the same mode `m` to all
   of `[q, body.length)`, `m` is enabled and is C40, Text, X12 or EDIFACT (the fallback follows a latch;
   ASCII and Base 256 hand nothing over), and `body.length - q ≤ tailMax m` (2, 2, 2, 4). -/
theorem tail_clause
    (body pre : List Nat) (list : List Sym) (modes : Nat) (perms : List (List Nat)) (o : Outcome)
    (plan : List (Nat × EMode)) (cw : List Nat) (sym : Sym) (hb : ByteList body)
    (hopt : Plan.optimize body pre.length list modes perms = .ok o) (hp : o.plan = some plan)
    (hok : planOK body plan = true) (hrun : Enc.run list pre body plan = .ok (cw, sym)) :
    ∃ sE tr q, runTrace list pre body plan = .ok (sE, tr) ∧
      Enc.mainLoop (2 * body.length + 8) (initSt list pre body plan) 0 = .ok sE ∧
      TailOK modes body.length plan tr q := by
  by_cases hne : body = []
  · subst hne
    refine ⟨initSt list pre [] plan, [], 0, rfl, rfl, Nat.le_refl _, by simp, rfl, ?_, ?_, ?_⟩
    · intro e he; cases he
    · intro e he; cases he
    · intro h; exact absurd h (Nat.lt_irrefl _)
  -- the encoder succeeds, so the instrumented loop does: `trace_final` is about its record
  obtain ⟨best, hfin, hplan, hroot⟩ := rootEnabled hne hopt hp
  have hpw := (DM.Props.Planner.plan_positions body pre.length list modes perms o plan hopt hp).1
  have hen := DM.Props.Planner.plan_modes_enabled body pre.length list modes perms o plan hopt hp
  obtain ⟨sE, hmain, _, _⟩ := DM.Lemmas.EncRT.run_unfoldP list pre body cw plan sym hrun
  obtain ⟨tr, htr⟩ := main_ok_traceLoop (s := initSt list pre body plan) [] hmain
  obtain ⟨q, hq⟩ := tailOK_of_shape hpw hen
    (trace_final (AsciiOn := enabledMode modes .ascii = true) pre hb hne best plan hfin hplan hroot hok htr)
  exact ⟨sE, tr, q, htr, hmain, hq⟩

/-- the same with the quantifiers of `TailOK` spelled out and `tailMax` bounded -/
theorem tail_clause_explicit
    (body pre : List Nat) (list : List Sym) (modes : Nat) (perms : List (List Nat)) (o : Outcome)
    (plan : List (Nat × EMode)) (cw : List Nat) (sym : Sym) (hb : ByteList body)
    (hopt : Plan.optimize body pre.length list modes perms = .ok o) (hp : o.plan = some plan)
    (hok : planOK body plan = true) (hrun : Enc.run list pre body plan = .ok (cw, sym)) :
    ∃ sE tr q, runTrace list pre body plan = .ok (sE, tr) ∧
      Enc.mainLoop (2 * body.length + 8) (initSt list pre body plan) 0 = .ok sE ∧
      q ≤ body.length ∧ body.length - q ≤ 4 ∧ Tiles 0 body.length tr ∧
      (∀ a b m, (a, b, m) ∈ tr → a < b → b ≤ q →
        ∀ i, a ≤ i → i < b → planModeAt plan (body.length - i) = m ∧ enabledMode modes m = true) ∧
      (∀ a b m, (a, b, m) ∈ tr → a < b → q < b → (a, b, m) = (q, body.length, .ascii)) ∧
      (q < body.length → ∃ m, (q, body.length, EMode.ascii) ∈ tr ∧
        (∀ i, q ≤ i → i < body.length → planModeAt plan (body.length - i) = m) ∧
        enabledMode modes m = true ∧ (m = .c40 ∨ m = .text ∨ m = .x12 ∨ m = .edifact) ∧
        body.length - q ≤ tailMax m ∧ tailMax m ≤ 4) := by
  obtain ⟨sE, tr, q, h1, h2, a, b, c, d, e, f⟩ := tail_clause body pre list modes perms o plan cw sym hb hopt hp hok hrun
  refine ⟨sE, tr, q, h1, h2, a, b, c, fun x y m hm => d (x, y, m) hm, fun x y m hm => e (x, y, m) hm, fun hq => ?_⟩
  obtain ⟨f1, f2, f3, f4, f5⟩ := f hq
  exact ⟨_, f1, f2, f3, f4, f5, tailMax_le_four _⟩

/-! ### non-vacuity: ASCII disabled

`"ABCD"` with X12 as the only enabled mode (`modes = 8`), no prefix codewords, the 30 standard sizes; the
sort permutations are those of a stable sort by cost (one candidate per iteration).  The optimiser plans
X12 for the whole message; the encoder writes `"ABC"` in X12 and hands `"D"` to the ASCII encoder
(`set_ascii_until_end`): three recorded calls — the empty ASCII call that only takes the latch from the
plan, X12 for `[0, 3)`, ASCII for `[3, 4)` — and `q = 3`. -/

def exBody : List Nat := [65, 66, 67, 68]
def exList : List Sym := symbolList (List.range 30)
def exPerms : List (List Nat) := [[0], [0], [0], [0]]
def exPlan : List (Nat × EMode) := [(4, .x12), (0, .x12)]

example :
    ByteList exBody ∧
    (Plan.optimize exBody ([] : List Nat).length exList 8 exPerms).toOption.map (·.plan) = some (some exPlan) ∧
    planOK exBody exPlan = true ∧
    enabledMode 8 .ascii = false ∧
    Enc.run exList [] exBody exPlan = .ok ([238, 89, 233, 254, 69], 1) ∧
    (runTrace exList [] exBody exPlan).toOption.map (·.2) = some [(0, 0, .ascii), (0, 3, .x12), (3, 4, .ascii)] ∧
    tailOKb 8 exBody.length exPlan [(0, 0, .ascii), (0, 3, .x12), (3, 4, .ascii)] 3 = true ∧
    planModeAt exPlan (exBody.length - 3) = .x12 ∧ tailMax .x12 = 2 := by
  rw [show exList = List.range 30 from symbols30]
  refine ⟨by decide, by decide +kernel, by decide +kernel, by decide +kernel, by decide +kernel, by decide +kernel,
    by decide +kernel, by decide +kernel, rfl⟩

/-- the theorem applies to this instance -/
example (o : Outcome) (h : Plan.optimize exBody ([] : List Nat).length exList 8 exPerms = .ok o)
    (hp : o.plan = some exPlan) :
    ∃ sE tr q, runTrace exList [] exBody exPlan = .ok (sE, tr) ∧
      Enc.mainLoop (2 * exBody.length + 8) (initSt exList [] exBody exPlan) 0 = .ok sE ∧
      TailOK 8 exBody.length exPlan tr q :=
  tail_clause exBody [] exList 8 exPerms o exPlan _ _ (by decide) h hp (by decide +kernel)
    (show Enc.run exList [] exBody exPlan = .ok ([238, 89, 233, 254, 69], 1) by
      rw [show exList = List.range 30 from symbols30]; decide +kernel)

end DM.Props.C13Tail
