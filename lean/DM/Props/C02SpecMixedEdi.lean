import DM.Props.C02SpecMixed
/-!
# C02 — conformant output against the reference decoder: plans over ASCII, Base 256 and EDIFACT

`spec_mixed_roundtrip_abe`: `C02SpecMixed.spec_mixed_in` for these three modes, within `C40Gen.PlanOKE body plan`.
Its frame is `spec_frameB` over a state invariant, not `spec_frame`: the EDIFACT encoder does not check its
characters (`write4` masks with `% 64`), see the counterexample at the end.
-/
namespace DM.Props.C02SpecMixedEdi
open DM.Model DM.Lemmas DM.Lemmas.AsciiRT DM.Lemmas.SpecStep DM.Lemmas.SpecMain DM.Lemmas.MainRT DM.Lemmas.PlanProv
open DM.Lemmas.EncRT DM.Lemmas.C40Gen DM.Lemmas.SpecMainEdi
open DM.Props.C02Spec (run30_eq_of_check)
open DM.Props.C02SpecMixed
open DM.Spec.Stream (decode Decoded Mode macroHead macroTrail)

/-- **Mixed ASCII / Base 256 / EDIFACT round trip through the reference decoder.** For every plan
whose entries name only ASCII, Base 256 and EDIFACT and which satisfies `PlanOKE body plan` (EDIFACT
as the final stretch, over EDIFACT characters; no latch planned for the last four characters), every
message of bytes, every symbol list and each of the headers none / FNC1 / Macro 05 / Macro 06:
whatever the encoder returns, the reference decoder accepts and returns the message; every byte is
carried by ASCII, Base 256 or EDIFACT encodation, every latch is a Base 256 or an EDIFACT latch
standing behind the header and in front of `L`, there is no ECI; the stream fills the symbol, and the
decoder meets the first pad codeword exactly at `L`, or `L` is the end of the symbol
(`L` is bound existentially, see `spec_frameB`). -/
theorem spec_mixed_roundtrip_abe (list : List Sym) (pre body cw : List Nat) (plan : List (Nat × Enc.EMode)) (sym : Sym)
    (hpre : HdrOK pre) (hb : ∀ b ∈ body, b < 256)
    (hplan : ∀ e ∈ plan, e.2 = .ascii ∨ e.2 = .base256 ∨ e.2 = .edifact) (hok : PlanOKE body plan)
    (h : Enc.run list pre body plan = .ok (cw, sym)) :
    ∃ d L, decode cw = .ok d ∧ d.body = body ∧
      d.bytes = (if macOf pre = 0 then body else macroHead (macOf pre) ++ body ++ macroTrail) ∧
      d.fnc1 = (pre == [232]) ∧ d.macro = macOf pre ∧ d.ecis = [] ∧ d.trace.length = body.length ∧
      (∀ m ∈ d.trace, m = .ascii ∨ m = .base256 ∨ m = .edifact) ∧
      (∀ l ∈ d.latches, (l.2 = .base256 ∨ l.2 = .edifact) ∧ pre.length ≤ l.1 ∧ l.1 < L) ∧
      cw.length = dataCw sym ∧ cw.take pre.length = pre ∧ pre.length ≤ L ∧ L ≤ cw.length ∧
      (L < cw.length → cw.getD L 0 = 129) ∧ d.padAt = (if L = cw.length then none else some L) := by
  obtain ⟨d, L, a1, a2, a3, a4, a5, a6, a7, a8, a9, a10⟩ :=
    spec_mixed_in (fun m => m = .ascii ∨ m = .base256 ∨ m = .edifact) (fun m => m = .ascii ∨ m = .base256 ∨ m = .edifact)
      (Or.inl rfl) (Or.inl rfl) (fun _ => Or.inr (Or.inl rfl)) (by simp) (by simp) (by simp) (fun _ => Or.inr (Or.inr rfl))
      list pre body cw plan sym hpre hb hplan (Or.inl hok) h
  exact ⟨d, L, a1, a2, a3, a4, a5, a6, a7, a8, fun l hl => ⟨(a9 l hl).1.resolve_left (a9 l hl).2.1, (a9 l hl).2.2⟩, a10⟩

/-- Two bytes in Base 256, then "ABCDEFG" in EDIFACT to the end: one complete group, the last group
"EFG" with the UNLATCH value in its fourth slot, one pad. -/
example : Enc.run (symbolList (List.range 30)) [] [200, 201, 65, 66, 67, 68, 69, 70, 71]
    [(9, .base256), (7, .edifact), (0, .edifact)] = .ok ([231, 46, 137, 32, 240, 4, 32, 196, 20, 97, 223, 129], 5) :=
  run30_eq_of_check (by decide +kernel)
example : (decode [231, 46, 137, 32, 240, 4, 32, 196, 20, 97, 223, 129]).toOption.map
      (fun d => (d.body, d.padAt, d.latches, d.trace)) =
    some ([200, 201, 65, 66, 67, 68, 69, 70, 71], some 11, [(0, .base256), (4, .edifact)],
      [.base256, .base256, .edifact, .edifact, .edifact, .edifact, .edifact, .edifact, .edifact]) := by decide +kernel

/-- … and the theorem applied to that run. -/
example : ∃ d, decode [231, 46, 137, 32, 240, 4, 32, 196, 20, 97, 223, 129] = .ok d ∧
    d.body = [200, 201, 65, 66, 67, 68, 69, 70, 71] ∧ d.bytes = [200, 201, 65, 66, 67, 68, 69, 70, 71] ∧ d.ecis = [] ∧
    ∀ l ∈ d.latches, l.2 = .base256 ∨ l.2 = .edifact := by
  obtain ⟨d, L, h1, h2, h3, _, _, h6, _, _, h9, _⟩ :=
    spec_mixed_roundtrip_abe (symbolList (List.range 30)) [] [200, 201, 65, 66, 67, 68, 69, 70, 71] _
      [(9, .base256), (7, .edifact), (0, .edifact)] _ (Or.inl rfl) (by decide) (by decide)
      (planOKE_of_check _ _ (by decide))
      (run30_eq_of_check (cw := [231, 46, 137, 32, 240, 4, 32, 196, 20, 97, 223, 129]) (sym := 5) (by decide +kernel))
  exact ⟨d, h1, h2, by simpa [macOf] using h3, h6, fun l hl => (h9 l hl).1⟩

/-- The ASCII end game: "ABCDEFGHI" in EDIFACT, the ninth character goes to ASCII without UNLATCH
(two codewords of the symbol are left behind the second group). -/
example : Enc.run (symbolList (List.range 30)) [] [200, 201, 65, 66, 67, 68, 69, 70, 71, 72, 73]
    [(11, .base256), (9, .edifact), (0, .edifact)] = .ok ([231, 46, 137, 32, 240, 4, 32, 196, 20, 97, 200, 74], 5) :=
  run30_eq_of_check (by decide +kernel)
example : (decode [231, 46, 137, 32, 240, 4, 32, 196, 20, 97, 200, 74]).toOption.map
      (fun d => (d.body, d.padAt, d.latches)) =
    some ([200, 201, 65, 66, 67, 68, 69, 70, 71, 72, 73], none, [(0, .base256), (4, .edifact)]) := by decide +kernel

/-- The exact fit: the two groups fill the symbol, the decoder ends in EDIFACT mode. -/
example : Enc.run (symbolList (List.range 30)) [] [200, 65, 66, 67, 68, 69, 70, 71, 72]
    [(9, .base256), (8, .edifact), (0, .edifact)] = .ok ([231, 45, 137, 240, 4, 32, 196, 20, 97, 200], 4) :=
  run30_eq_of_check (by decide +kernel)
example : (decode [231, 45, 137, 240, 4, 32, 196, 20, 97, 200]).toOption.map (fun d => (d.body, d.padAt, d.latches)) =
    some ([200, 65, 66, 67, 68, 69, 70, 71, 72], none, [(0, .base256), (3, .edifact)]) := by decide +kernel

/-- Complete groups up to two pads before the end of the symbol (no UNLATCH, no ASCII rest). -/
example : Enc.run (symbolList (List.range 30)) [] [200, 201, 65, 66, 67, 68, 69, 70, 71, 72, 73, 74, 75, 76]
    [(14, .base256), (12, .edifact), (0, .edifact)] =
    .ok ([231, 46, 137, 32, 240, 4, 32, 196, 20, 97, 200, 36, 162, 204, 129, 237], 6) := run30_eq_of_check (by decide +kernel)
example : (decode [231, 46, 137, 32, 240, 4, 32, 196, 20, 97, 200, 36, 162, 204, 129, 237]).toOption.map
      (fun d => (d.body, d.padAt)) =
    some ([200, 201, 65, 66, 67, 68, 69, 70, 71, 72, 73, 74, 75, 76], some 14) := by decide +kernel

/-- The side condition on the characters is needed, and it is a condition on the message: "a" (97) in
a stretch planned for EDIFACT is written as `97 % 64 = 33` and read back as "!" — the encoder does not
check its characters. Hence no predicate `Q` of the control part alone makes `ModeStep P Q .edifact`
true unless it excludes EDIFACT. -/
example : Enc.run (symbolList (List.range 30)) [] [200, 201, 65, 66, 97, 68, 69, 70, 71]
    [(9, .base256), (7, .edifact), (0, .edifact)] = .ok ([231, 46, 137, 32, 240, 4, 40, 68, 20, 97, 223, 129], 5) :=
  run30_eq_of_check (by decide +kernel)
example : (decode [231, 46, 137, 32, 240, 4, 40, 68, 20, 97, 223, 129]).toOption.map (fun d => d.body) =
    some [200, 201, 65, 66, 33, 68, 69, 70, 71] := by decide +kernel

end DM.Props.C02SpecMixedEdi
