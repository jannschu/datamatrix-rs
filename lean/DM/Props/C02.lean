import DM.Lemmas.Pads
/-!
# C02 — conformant output: the padding

`padding_conformant`: for every codeword prefix and every capacity, `add_padding` (model, tied
to the code through the `add_padding` hook) fills the symbol with UNLATCH (if the encoder is not
in ASCII mode), the pad codeword 129 and then codewords that the standard's 253-state
de-randomisation maps back to 129 — and nothing else. The conformance of the mode encoders'
output is proved against the reference decoder for the plans within `C40Gen.PlanOKE`
(`C02SpecMixedE.spec_mixed_roundtrip_E`) and decided by the reference-decoder sweep for the rest (DESIGN.md).
-/
namespace DM.Props.C02
open DM.Model DM.Spec.Stream

/-- 253-state randomisation and the standard's de-randomisation are inverse on the pad value -/
theorem pad_randomize_inverse (pos : Nat) : unrand253 (padAt pos) pos = 129 ∧ 1 ≤ padAt pos ∧ padAt pos ≤ 254 := by
  unfold unrand253 rand253 padAt
  have hr : (149 * pos) % 253 < 253 := Nat.mod_lt _ (by decide)
  generalize (149 * pos) % 253 = r at hr
  simp only
  -- `r + 130` either stays below 255 or wraps round by 254
  by_cases h : 129 + (r + 1) ≤ 254
  · rw [if_pos h, if_pos (by omega)]; omega
  · rw [if_neg h, if_neg (by omega)]; omega

open DM.Lemmas DM.Lemmas.Pads DM.Props.C04 in
theorem padded_append (X : List Nat) (n : Nat) : Padded (X ++ padsOf X.length n) X.length := by
  have hl : (X ++ padsOf X.length n).length = X.length + n := by rw [List.length_append, length_padsOf]
  refine ⟨by omega, fun h => ?_, fun i h1 h2 => ?_⟩
  · rw [getD_append, if_neg (Nat.lt_irrefl _), Nat.sub_self, padsOf_getD_zero _ _ (by omega)]
  · obtain ⟨j, rfl⟩ : ∃ j, i = X.length + (j + 1) := ⟨i - X.length - 1, by omega⟩
    rw [getD_append, if_neg (by omega), Nat.add_sub_cancel_left, padsOf_getD_succ _ _ _ (by omega)]
    exact (pad_randomize_inverse (X.length + j + 2)).1

theorem padding_conformant (cw : List Nat) (ascii : Bool) (cap : Nat) (h : cw.length ≤ cap) :
    ∃ out, addPadding cw ascii cap = some out ∧ out.length = cap ∧ out.take cw.length = cw ∧
      (ascii = false → cw.length < cap → out.getD cw.length 0 = 254) ∧
      (∀ start, start = cw.length + (if ascii = false ∧ cw.length < cap then 1 else 0) →
        (start < cap → out.getD start 0 = 129) ∧
        ∀ i, start < i → i < cap → unrand253 (out.getD i 0) (i + 1) = 129) := by
  by_cases hu : ascii = false ∧ cw.length < cap
  · obtain ⟨rfl, hlt⟩ := hu
    have hl : (cw ++ 254 :: DM.Props.C04.padsOf (cw.length + 1) (cap - cw.length - 1)).length = cap := by
      rw [List.length_append, List.length_cons, DM.Lemmas.Pads.length_padsOf]; omega
    obtain ⟨_, r1, r2⟩ := padded_append (cw ++ [254]) (cap - cw.length - 1)
    rw [List.length_append, List.length_singleton, ← List.append_cons, hl] at r1 r2
    refine ⟨_, DM.Lemmas.Pads.addPadding_unlatch cw cap hlt, hl, List.take_left' rfl, fun _ _ => ?_, fun start hs => ?_⟩
    · rw [DM.Lemmas.getD_append, if_neg (Nat.lt_irrefl _), Nat.sub_self]; rfl
    · rw [if_pos ⟨rfl, hlt⟩] at hs
      subst hs
      exact ⟨r1, r2⟩
  · have hl : (cw ++ DM.Props.C04.padsOf cw.length (cap - cw.length)).length = cap := by
      rw [List.length_append, DM.Lemmas.Pads.length_padsOf]; omega
    obtain ⟨_, r1, r2⟩ := padded_append cw (cap - cw.length)
    rw [hl] at r1 r2
    refine ⟨_, DM.Lemmas.Pads.addPadding_pads cw ascii cap h (by cases ascii <;> simp at hu ⊢; omega), hl,
      List.take_left' rfl, fun h1 h2 => absurd ⟨h1, h2⟩ hu, fun start hs => ?_⟩
    rw [if_neg hu] at hs
    subst hs
    exact ⟨r1, r2⟩
/-- Non-vacuity: the padding of the empty message in a 10×10 symbol (the repository's
`test_empty` expects 129, 175, 70). -/
example : addPadding [] true 3 = some [129, 175, 70] := by decide +kernel

end DM.Props.C02
