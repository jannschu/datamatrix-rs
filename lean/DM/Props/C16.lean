import DM.Model.EncPrefix
import DM.Lemmas.MainRT
/-!
# C16 — macro compaction and GS1 start: the decision logic

Theorems about the model of `with_size` + `use_macro_if_possible` (tied to the code through the
`macro_prefix` hook on every case of the C16 sweep): when a Macro codeword is written and what the
encoder then continues with (`macroPrefix_spec`); the slice never panics (`macro_total`). Losslessness (the decoder
re-creates header and trailer) is the second part of the file.
-/
namespace DM.Props.C16
open DM.Model

theorem startsWith_iff (l s : List Nat) : startsWith l s = true ↔ ∃ r, l = s ++ r := by
  unfold startsWith
  constructor
  · intro h
    refine ⟨l.drop s.length, ?_⟩
    have : l.take s.length = s := by simpa using h
    conv => lhs; rw [← List.take_append_drop s.length l]
    rw [this]
  · rintro ⟨r, rfl⟩
    simp

theorem endsWith_iff (l s : List Nat) : endsWith l s = true ↔ ∃ r, l = r ++ s := by
  unfold endsWith
  constructor
  · intro h
    simp only [Bool.and_eq_true, decide_eq_true_eq, beq_iff_eq] at h
    refine ⟨l.take (l.length - s.length), ?_⟩
    conv => lhs; rw [← List.take_append_drop (l.length - s.length) l]
    rw [h.2]
  · rintro ⟨r, rfl⟩
    simp

/-- header and trailer cannot overlap: a message with both has at least nine bytes -/
theorem envelope_len (data q r : List Nat) (k : Nat) (hq : data = [91, 41, 62, 30, 48, k, 29] ++ q)
    (hr : data = r ++ TRAIL) : 7 ≤ data.length - 2 := by
  rw [hq] at hr
  match q, r, hr with
  | [], r, hr =>
    have := congrArg List.reverse hr
    simp [TRAIL] at this
  | [x], r, hr =>
    have := congrArg List.reverse hr
    simp [TRAIL] at this
  | x :: y :: q', r, _ => rw [hq]; simp

theorem macroPrefix_cases (data : List Nat) (m f : Bool) :
    macroPrefix data m f =
      if m = false ∨ f = true ∨ endsWith data TRAIL = false then .ok (if f then [232] else []) data
      else if startsWith data HEAD05 = true then
        (if 7 ≤ data.length - 2 then .ok [236] ((data.take (data.length - 2)).drop 7) else .panic)
      else if startsWith data HEAD06 = true then
        (if 7 ≤ data.length - 2 then .ok [237] ((data.take (data.length - 2)).drop 7) else .panic)
      else .ok [] data := by
  unfold macroPrefix
  cases m <;> cases f <;> cases endsWith data TRAIL <;> simp

theorem envelope_body (data q r H : List Nat) (hH : H.length = 7) (hq : data = H ++ q) (hr : data = r ++ TRAIL)
    (hlen : 7 ≤ data.length - 2) : data = H ++ (data.take (data.length - 2)).drop 7 ++ TRAIL := by
  have hrl : r.length = data.length - 2 := by rw [hr]; simp [TRAIL]
  have e1 : data.take (data.length - 2) = r := by rw [← hrl, hr]; simp
  rw [e1]
  have hlen7 : 7 ≤ r.length := by rw [hrl]; exact hlen
  have e2 : r.take 7 = H := by
    have h3 : (r ++ TRAIL).take 7 = H := by rw [← hr, hq, ← hH]; simp
    rw [List.take_append_of_le_length hlen7] at h3
    exact h3
  conv => lhs; rw [hr, ← List.take_append_drop 7 r, e2]

/-- **The header decision, completely**: a Macro codeword and the body for a message in the Macro 05 / 06 envelope
(macros enabled, no FNC1 start), otherwise FNC1 or nothing and the message untouched. The slice is always in range. -/
theorem macroPrefix_spec (data : List Nat) (m f : Bool) :
    (∃ head cw body, (head, cw) ∈ [(HEAD05, 236), (HEAD06, 237)] ∧ m = true ∧ f = false ∧
      data = head ++ body ++ TRAIL ∧ macroPrefix data m f = .ok [cw] body) ∨
    macroPrefix data m f = .ok (if f then [232] else []) data := by
  rw [macroPrefix_cases]
  by_cases h0 : m = false ∨ f = true ∨ endsWith data TRAIL = false
  · exact .inr (if_pos h0)
  rw [if_neg h0]
  have hm : m = true := by cases m <;> simp_all
  have hf : f = false := by cases f <;> simp_all
  have he : endsWith data TRAIL = true := by
    cases hE : endsWith data TRAIL
    · exact absurd (Or.inr (Or.inr hE)) h0
    · rfl
  obtain ⟨r, hr⟩ := (endsWith_iff data TRAIL).mp he
  by_cases h5 : startsWith data HEAD05 = true
  · obtain ⟨q, hq⟩ := (startsWith_iff data HEAD05).mp h5
    have hlen := envelope_len data q r 53 hq hr
    rw [if_pos h5, if_pos hlen]
    exact .inl ⟨_, _, _, by simp, hm, hf, envelope_body data q r HEAD05 rfl hq hr hlen, rfl⟩
  rw [if_neg h5]
  by_cases h6 : startsWith data HEAD06 = true
  · obtain ⟨q, hq⟩ := (startsWith_iff data HEAD06).mp h6
    have hlen := envelope_len data q r 54 hq hr
    rw [if_pos h6, if_pos hlen]
    exact .inl ⟨_, _, _, by simp, hm, hf, envelope_body data q r HEAD06 rfl hq hr hlen, rfl⟩
  rw [if_neg h6, hf]
  exact .inr rfl

/-- the header decision in the decoder's terms: the prefix codewords are one of the four headers of `decode_parts`,
and the message is what the decoder makes of the body behind that header -/
theorem macroPrefix_header (data : List Nat) (m f : Bool) (pre body : List Nat) (h : macroPrefix data m f = .ok pre body) :
    ∃ out0 mac fnc1 sp, DM.Lemmas.Header pre out0 mac fnc1 sp ∧ sp true = [] ∧
      data = if mac then out0 ++ body ++ DM.Model.Dec.macroTrail else out0 ++ body := by
  rcases macroPrefix_spec data m f with ⟨head, cw, body', hc, _, _, hd, h'⟩ | h'
  · rw [h] at h'
    obtain ⟨rfl, rfl⟩ := PrefixResult.ok.inj h'
    simp only [List.mem_cons, Prod.mk.injEq, List.not_mem_nil, or_false] at hc
    rcases hc with ⟨rfl, rfl⟩ | ⟨rfl, rfl⟩
    · exact ⟨_, true, false, _, .m05, rfl, hd⟩
    · exact ⟨_, true, false, _, .m06, rfl, hd⟩
  · rw [h] at h'
    obtain ⟨rfl, rfl⟩ := PrefixResult.ok.inj h'
    cases f
    · exact ⟨_, false, false, _, .none, rfl, rfl⟩
    · exact ⟨_, false, true, _, .fnc1, rfl, rfl⟩

/-- **The macro slice never panics** (for every message and flag combination). -/
theorem macro_total (data : List Nat) (m f : Bool) : macroPrefix data m f ≠ .panic := by
  rcases macroPrefix_spec data m f with ⟨_, _, _, _, _, _, _, h⟩ | h <;> rw [h] <;> exact nofun

/-- an enveloped message is compacted: the macro codeword of its header, then exactly the body -/
theorem macro_of_envelope {head : List Nat} {cw : Nat} (h : (head, cw) ∈ [(HEAD05, 236), (HEAD06, 237)])
    (body : List Nat) : macroPrefix (head ++ body ++ TRAIL) true false = .ok [cw] body := by
  rw [macroPrefix_cases]
  have he : endsWith (head ++ body ++ TRAIL) TRAIL = true := (endsWith_iff _ _).mpr ⟨_, rfl⟩
  have h0 : ¬ (true = false ∨ false = true ∨ endsWith (head ++ body ++ TRAIL) TRAIL = false) := by
    rw [he]; simp
  have hs : startsWith (head ++ body ++ TRAIL) head = true := (startsWith_iff _ _).mpr ⟨body ++ TRAIL, by simp⟩
  rw [if_neg h0]
  simp only [List.mem_cons, Prod.mk.injEq, List.not_mem_nil, or_false] at h
  rcases h with ⟨rfl, rfl⟩ | ⟨rfl, rfl⟩
  · rw [if_pos hs, if_pos (by simp [HEAD05, TRAIL])]
    simp [HEAD05, TRAIL]
  · have hn : startsWith (HEAD06 ++ body ++ TRAIL) HEAD05 = false := by simp [startsWith, HEAD05, HEAD06]
    rw [if_neg (by rw [hn]; simp), if_pos hs, if_pos (by simp [HEAD06, TRAIL])]
    simp [HEAD06, TRAIL]

/-- **Compaction happens exactly for enveloped messages** (Macro 05; Macro 06 is symmetric, see
`macro06_of_envelope`), and the encoder then continues with exactly the body. -/
theorem macro05_iff (data : List Nat) (m f : Bool) (body : List Nat) :
    macroPrefix data m f = .ok [236] body ↔
    (m = true ∧ f = false ∧ data = HEAD05 ++ body ++ TRAIL) := by
  constructor
  · intro h
    rcases macroPrefix_spec data m f with ⟨head, cw, body', hc, hm, hf, hd, h'⟩ | h'
    · rw [h] at h'
      simp only [PrefixResult.ok.injEq, List.cons.injEq, and_true] at h'
      obtain ⟨rfl, rfl⟩ := h'
      simp only [List.mem_cons, Prod.mk.injEq, List.not_mem_nil, or_false] at hc
      rcases hc with ⟨rfl, _⟩ | ⟨_, h7⟩
      · exact ⟨hm, hf, hd⟩
      · cases h7
    · rw [h] at h'
      cases f <;> simp at h'
  · rintro ⟨rfl, rfl, rfl⟩
    exact macro_of_envelope (by simp) body

/-- the Macro 06 envelope is compacted with codeword 237 -/
theorem macro06_of_envelope (body : List Nat) :
    macroPrefix (HEAD06 ++ body ++ TRAIL) true false = .ok [237] body :=
  macro_of_envelope (by simp) body

/-- with FNC1 start the first codeword is 232 and the message is never compacted -/
theorem fnc1_first (data : List Nat) (m : Bool) : macroPrefix data m true = .ok [232] data := by
  rw [macroPrefix_cases]; simp

/-- with macros disabled nothing is written and the message is untouched -/
theorem macros_off (data : List Nat) (f : Bool) :
    macroPrefix data false f = .ok (if f then [232] else []) data := by
  rw [macroPrefix_cases]; simp

/-- a message that only resembles the envelope (no trailer) is encoded verbatim -/
theorem no_trailer_verbatim (data : List Nat) (h : endsWith data TRAIL = false) :
    macroPrefix data true false = .ok [] data := by
  rw [macroPrefix_cases]; simp [h]

/-- Non-vacuity: the smallest enveloped message (empty body) and a bare header. -/
example : macroPrefix (HEAD05 ++ TRAIL) true false = .ok [236] [] := by decide +kernel
example : macroPrefix HEAD05 true false = .ok [] HEAD05 := by decide +kernel

/-! ## Losslessness: the decoder re-creates what compaction removed

For every message in the Macro 05 / 06 envelope, `use_macro_if_possible` writes the macro codeword
and hands exactly the body to the encoder (`macro05_iff`, `macro06_of_envelope`); whatever the
encoder model then returns for the body — under any plan of `C40Gen.PlanOK` (no EDIFACT,
no latch to a non-ASCII mode within the last four characters) — the decoder model turns back into the
**whole original message**, header and trailer included. With FNC1 in first position the decoder
returns the message itself (the GS1 flag is reported separately by `decode_parts`). The three statements are readings of
`prefix_roundtrip_E`. -/

open DM.Model.Enc DM.Lemmas.C40Gen in
/-- **Whatever the header decision answers, the decoder undoes it**: the encoder model run behind the prefix codewords on
the part of the message it was handed, under a plan of `PlanOKE`, gives codewords that decode to the whole message. -/
theorem prefix_roundtrip_E {data pre body : List Nat} {m f : Bool} (hmp : macroPrefix data m f = .ok pre body)
    (list : List Sym) (cw : List Nat) (plan : List (Nat × EMode)) (sym : Sym) (hb : DM.Lemmas.ByteList body)
    (hplan : PlanOKE body plan) (h : run list pre body plan = .ok (cw, sym)) :
    DM.Model.Dec.decodeData cw = .ok data := by
  obtain ⟨out0, mac, f1, sp, H, hs, rfl⟩ := macroPrefix_header data m f pre body hmp
  exact DM.Lemmas.MainRT.header_roundtrip_E H hs list body cw plan sym hb hplan h

open DM.Model.Enc DM.Lemmas.C40Gen in
theorem macro05_lossless (list : List Sym) (body cw : List Nat) (plan : List (Nat × EMode)) (sym : Sym)
    (hb : ∀ b ∈ body, b < 256) (hplan : ∀ e ∈ plan, (e.2 ≠ .ascii → e.1 = 0 ∨ e.1 > 4) ∧ e.2 ≠ .edifact)
    (h : run list [236] body plan = .ok (cw, sym)) :
    macroPrefix (HEAD05 ++ body ++ TRAIL) true false = .ok [236] body ∧
    DM.Model.Dec.decodeData cw = .ok (HEAD05 ++ body ++ TRAIL) :=
  have hmp := (macro05_iff _ true false body).mpr ⟨rfl, rfl, rfl⟩
  ⟨hmp, prefix_roundtrip_E hmp list cw plan sym hb (planOKE_of_planOK body hplan) h⟩

open DM.Model.Enc DM.Lemmas.C40Gen in
theorem macro06_lossless (list : List Sym) (body cw : List Nat) (plan : List (Nat × EMode)) (sym : Sym)
    (hb : ∀ b ∈ body, b < 256) (hplan : ∀ e ∈ plan, (e.2 ≠ .ascii → e.1 = 0 ∨ e.1 > 4) ∧ e.2 ≠ .edifact)
    (h : run list [237] body plan = .ok (cw, sym)) :
    macroPrefix (HEAD06 ++ body ++ TRAIL) true false = .ok [237] body ∧
    DM.Model.Dec.decodeData cw = .ok (HEAD06 ++ body ++ TRAIL) :=
  ⟨macro06_of_envelope body,
    prefix_roundtrip_E (macro06_of_envelope body) list cw plan sym hb (planOKE_of_planOK body hplan) h⟩

open DM.Model.Enc DM.Lemmas.C40Gen in
theorem gs1_roundtrip (list : List Sym) (data cw : List Nat) (plan : List (Nat × EMode)) (sym : Sym) (m : Bool)
    (hb : ∀ b ∈ data, b < 256) (hplan : ∀ e ∈ plan, (e.2 ≠ .ascii → e.1 = 0 ∨ e.1 > 4) ∧ e.2 ≠ .edifact)
    (h : run list [232] data plan = .ok (cw, sym)) :
    macroPrefix data m true = .ok [232] data ∧ DM.Model.Dec.decodeData cw = .ok data :=
  ⟨fnc1_first data m, prefix_roundtrip_E (fnc1_first data m) list cw plan sym hb (planOKE_of_planOK data hplan) h⟩

end DM.Props.C16
