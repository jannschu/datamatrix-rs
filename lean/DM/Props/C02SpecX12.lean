import DM.Lemmas.SpecX12Pure
import DM.Props.C02Spec
/-!
# C02 — conformant output, against the reference decoder: X12 encodation

The round trip through the independent decoder `DM.Spec.Stream.decode` for a message planned
entirely in X12 (the planner's form of the plan, `[(body.length, .x12), (0, .x12)]`): the stream is
the latch 238, `body.length / 3` pairs of codewords (three Table 5 values each) and one of the three
endings `x12::encode` chooses:

* `exact`   — the triples end with the symbol (no UNLATCH; the decoder stops in X12 mode);
* `single`  — one ASCII codeword for the remaining one or two characters fills the symbol, written
              without UNLATCH (the decoder's rule "one codeword left: back to ASCII");
* `unlatch` — UNLATCH 254, the remaining characters in ASCII, then padding.
-/
namespace DM.Props.C02SpecX12
open DM.Model DM.Lemmas DM.Lemmas.AsciiRT DM.Lemmas.SpecStep DM.Lemmas.SpecAscii DM.Lemmas.SpecX12
open DM.Lemmas.Complete (X12Native)
open DM.Spec.Build (packTriples x12Val)
open DM.Spec.Stream (decode Decoded macroHead macroTrail unrand253 Mode)
open DM.Props.C02Spec (run30_eq_of_check hdrMacro)

theorem x12_decoded (sF : DM.Spec.Stream.St) (p mac : Nat) (f1 : Bool) (body : List Nat) (ho : sF.out = body.toArray)
    (ht : sF.trace = Array.replicate (3 * (body.length / 3)) .x12 ++ Array.replicate (body.length % 3) .ascii)
    (hl : sF.latches = #[(p, .x12)]) (he : sF.ecis = #[]) (d : Decoded) (hd : d = mkDecoded sF mac f1) :
    d.body = body ∧ d.fnc1 = f1 ∧ d.macro = mac ∧
    d.bytes = (if mac = 0 then body else macroHead mac ++ body ++ macroTrail) ∧ d.ecis = [] ∧
    d.latches = [(p, .x12)] ∧
    d.trace = List.replicate (3 * (body.length / 3)) .x12 ++ List.replicate (body.length % 3) .ascii ∧
    d.padAt = sF.padAt := by
  subst hd
  refine ⟨by simp [mkDecoded, ho], rfl, rfl, by simp [mkDecoded, ho], by simp [mkDecoded, he],
    by simp [mkDecoded, hl], by simp [mkDecoded, ht], rfl⟩

/-- **X12 round trip behind any header** (`pre` = none, FNC1, Macro 05, Macro 06): `decode` returns
what `mkDecoded` makes of the final state `sF` of the run behind the header (see `spec_x12_roundtrip`). -/
theorem x12_decode (list : List Sym) (pre body cw : List Nat) (sym : Sym) (hpre : pre = [] ∨ pre = [232] ∨ pre = [236] ∨ pre = [237])
    (hb : ∀ b ∈ body, b < 256) (hne : body ≠ []) (h : Enc.run list pre body [(body.length, .x12), (0, .x12)] = .ok (cw, sym)) :
    ∃ (sF : DM.Spec.Stream.St) (e : X12Ending) (T rest : List Nat),
      decode cw = .ok (mkDecoded sF (macOf pre) (pre == [232])) ∧ sF.out = body.toArray ∧
      sF.trace = Array.replicate (3 * (body.length / 3)) .x12 ++ Array.replicate (body.length % 3) .ascii ∧
      sF.latches = #[(pre.length, .x12)] ∧ sF.ecis = #[] ∧
      X12Native (body.take (3 * (body.length / 3))) ∧ cw.length = dataCw sym ∧
      T = pre ++ [238] ++ packTriples ((body.take (3 * (body.length / 3))).filterMap x12Val) ∧
      T.length = pre.length + 1 + 2 * (body.length / 3) ∧ rest = asciiEnc (body.drop (3 * (body.length / 3))) ∧
      ((e = .exact ∧ body.length % 3 = 0 ∧ cw = T ∧ sF.padAt = none) ∨
       (e = .single ∧ rest.length = 1 ∧ cw = T ++ rest ∧ sF.padAt = none) ∨
       (e = .unlatch ∧ cw.take (T.length + 1 + rest.length) = T ++ [254] ++ rest ∧
          T.length + 1 + rest.length ≤ dataCw sym ∧
          sF.padAt = (if T.length + 1 + rest.length = dataCw sym then none else some (T.length + 1 + rest.length)))) := by
  obtain ⟨sF, e, T, rest, hrun, ho, ht, hl, he, hnat, hlen, hT, hTl, hrest, hend, ⟨Y, hY⟩⟩ :=
    x12_core list pre body cw sym hb hne h
  have hcw : cw = pre ++ (238 :: (packTriples ((body.take (3 * (body.length / 3))).filterMap x12Val) ++ Y)) := by
    rw [hY, hT]; simp
  have hd := decode_behind pre cw _ hpre (by rw [hcw, List.take_left])
    (fun hp => by rw [hcw, hp]; exact DM.Lemmas.MainRT.headOK_cons 238 _ (by omega)) hrun
  exact ⟨sF, e, T, rest, hd, ho, ht, hl, he, hnat, hlen, hT, hTl, hrest, hend⟩

/-- **X12 round trip through the reference decoder.** For a non-empty message of bytes planned
entirely in X12 and every symbol list: whatever the encoder returns, the reference decoder accepts;
it reads the message — the `3 · (len / 3)` characters of the triples carried by X12, the remaining
`len % 3` by ASCII — after the single latch at codeword 0, without ECI, FNC1 or Macro. The stream is
`T` = latch + packed triples followed by one of the three endings `e`; the first pad codeword is met
exactly behind UNLATCH + ASCII rest (`none` when they fill the symbol, and in the two endings
without UNLATCH, which always fill the symbol). -/
theorem spec_x12_roundtrip (list : List Sym) (body cw : List Nat) (sym : Sym) (hb : ∀ b ∈ body, b < 256)
    (hne : body ≠ []) (h : Enc.run list [] body [(body.length, .x12), (0, .x12)] = .ok (cw, sym)) :
    ∃ (d : Decoded) (e : X12Ending) (T rest : List Nat),
      decode cw = .ok d ∧ d.bytes = body ∧ d.body = body ∧ d.fnc1 = false ∧ d.macro = 0 ∧ d.ecis = [] ∧
      d.latches = [(0, .x12)] ∧
      d.trace = List.replicate (3 * (body.length / 3)) .x12 ++ List.replicate (body.length % 3) .ascii ∧
      X12Native (body.take (3 * (body.length / 3))) ∧ cw.length = dataCw sym ∧
      T = [238] ++ packTriples ((body.take (3 * (body.length / 3))).filterMap x12Val) ∧
      T.length = 1 + 2 * (body.length / 3) ∧ rest = asciiEnc (body.drop (3 * (body.length / 3))) ∧
      ((e = .exact ∧ body.length % 3 = 0 ∧ cw = T ∧ d.padAt = none) ∨
       (e = .single ∧ rest.length = 1 ∧ cw = T ++ rest ∧ d.padAt = none) ∨
       (e = .unlatch ∧ cw.take (T.length + 1 + rest.length) = T ++ [254] ++ rest ∧
          T.length + 1 + rest.length ≤ dataCw sym ∧
          d.padAt = (if T.length + 1 + rest.length = dataCw sym then none else some (T.length + 1 + rest.length)))) := by
  obtain ⟨sF, e, T, rest, hd, ho, ht, hl, he, hnat, hlen, hT, hTl, hrest, hend⟩ :=
    x12_decode list [] body cw sym (Or.inl rfl) hb hne h
  simp only [List.length_nil, Nat.zero_add, List.nil_append] at hT hTl hl
  obtain ⟨a1, a2, a3, a4, a5, a6, a7, a8⟩ := x12_decoded sF 0 (macOf []) ([] == [232]) body ho ht hl he _ rfl
  exact ⟨_, e, T, rest, hd, a4, a1, a2, a3, a5, a6, a7, hnat, hlen, hT, hTl, hrest, by rw [a8]; exact hend⟩

/-- the empty message under the X12 plan is the empty ASCII message: padding only, no latch -/
theorem spec_x12_roundtrip_nil (list : List Sym) (cw : List Nat) (sym : Sym)
    (h : Enc.run list [] [] [(([] : List Nat).length, .x12), (0, .x12)] = .ok (cw, sym)) :
    ∃ d, decode cw = .ok d ∧ d.bytes = [] ∧ d.body = [] ∧ d.fnc1 = false ∧ d.macro = 0 ∧ d.ecis = [] ∧
      d.latches = [] ∧ d.trace = [] ∧ cw.length = dataCw sym ∧
      d.padAt = (if 0 = dataCw sym then none else some 0) := by
  obtain ⟨d, h1, h2, h3, h4, h5, h6, h7, h8, h9, h10, _⟩ := DM.Props.C02Spec.spec_nil_roundtrip list _ cw sym h
  exact ⟨d, h1, h2, h3, h4, h5, h6, h7, h8, h9, h10⟩

/-- **X12 round trip for every message of bytes** (empty or not; native X12 characters
are bytes, and nativity of the triple part is implied by the success of the run) -/
theorem spec_x12_roundtrip_all (list : List Sym) (body cw : List Nat) (sym : Sym) (hb : ∀ b ∈ body, b < 256)
    (h : Enc.run list [] body [(body.length, .x12), (0, .x12)] = .ok (cw, sym)) :
    ∃ d, decode cw = .ok d ∧ d.bytes = body ∧ d.body = body ∧ d.fnc1 = false ∧ d.macro = 0 ∧ d.ecis = [] ∧
      d.latches = (if body = [] then [] else [(0, .x12)]) ∧
      d.trace = List.replicate (3 * (body.length / 3)) .x12 ++ List.replicate (body.length % 3) .ascii ∧
      cw.length = dataCw sym := by
  by_cases hne : body = []
  · subst hne
    obtain ⟨d, h1, h2, h3, h4, h5, h6, h7, h8, h9, _⟩ := spec_x12_roundtrip_nil list cw sym h
    exact ⟨d, h1, h2, h3, h4, h5, h6, by simpa using h7, by simpa using h8, h9⟩
  · obtain ⟨d, _, _, _, h1, h2, h3, h4, h5, h6, h7, h8, _, h9, _⟩ := spec_x12_roundtrip list body cw sym hb hne h
    exact ⟨d, h1, h2, h3, h4, h5, h6, by rw [if_neg hne]; exact h7, h8, h9⟩

/-- in particular for messages of native X12 characters (13, 42, 62, 32, digits, upper-case letters) -/
theorem spec_x12_roundtrip_native (list : List Sym) (body cw : List Nat) (sym : Sym) (hb : X12Native body)
    (h : Enc.run list [] body [(body.length, .x12), (0, .x12)] = .ok (cw, sym)) :
    ∃ d, decode cw = .ok d ∧ d.bytes = body ∧ d.body = body ∧ d.fnc1 = false ∧ d.macro = 0 ∧ d.ecis = [] := by
  have hbyte : ∀ b ∈ body, b < 256 := by
    intro b hmem
    have := hb b hmem
    unfold x12Val at this
    by_cases h1 : b < 256
    · exact h1
    · rw [if_neg (by omega), if_neg (by omega), if_neg (by omega), if_neg (by omega), if_neg (by omega),
        if_neg (by omega)] at this
      cases this
  obtain ⟨d, h1, h2, h3, h4, h5, h6, _⟩ := spec_x12_roundtrip_all list body cw sym hbyte h
  exact ⟨d, h1, h2, h3, h4, h5, h6⟩

/-- `exact`: "ABC" fills the 3-codeword symbol; the decoder stops in X12 mode -/
example : Enc.run (symbolList (List.range 30)) [] [65, 66, 67] [(3, .x12), (0, .x12)] = .ok ([238, 89, 233], 0) :=
  run30_eq_of_check (by decide +kernel)
/-- `single`: "ABCDEFGHI1" — three triples and the ASCII codeword 50 without UNLATCH fill 8 codewords;
also with the digit pair "12" as the single codeword (142) -/
example : Enc.run (symbolList (List.range 30)) [] [65, 66, 67, 68, 69, 70, 71, 72, 73, 49] [(10, .x12), (0, .x12)] =
    .ok ([238, 89, 233, 109, 36, 128, 95, 50], 3) := run30_eq_of_check (by decide +kernel)
example : Enc.run (symbolList (List.range 30)) [] [65, 66, 67, 68, 69, 70, 71, 72, 73, 49, 50] [(11, .x12), (0, .x12)] =
    .ok ([238, 89, 233, 109, 36, 128, 95, 142], 3) := run30_eq_of_check (by decide +kernel)
/-- `unlatch`: "ABCDé" — UNLATCH, ASCII rest with upper shift, one pad; "ABCD" — UNLATCH + rest fill the
symbol; all 9 kinds of native characters with UNLATCH as the last codeword of the symbol -/
example : Enc.run (symbolList (List.range 30)) [] [65, 66, 67, 68, 233] [(5, .x12), (0, .x12)] =
    .ok ([238, 89, 233, 254, 69, 235, 106, 129], 3) := run30_eq_of_check (by decide +kernel)
example : Enc.run (symbolList (List.range 30)) [] [65, 66, 67, 68] [(4, .x12), (0, .x12)] =
    .ok ([238, 89, 233, 254, 69], 1) := run30_eq_of_check (by decide +kernel)
example : Enc.run (symbolList (List.range 30)) [] [13, 42, 62, 32, 48, 57, 65, 90, 49] [(9, .x12), (0, .x12)] =
    .ok ([238, 0, 43, 19, 110, 93, 158, 254], 3) := run30_eq_of_check (by decide +kernel)

/-- the kernel runs the reference decoder on these streams -/
example : (decode [238, 89, 233]).toOption.map (fun d => (d.body, d.padAt, d.latches, d.trace)) =
    some ([65, 66, 67], none, [(0, .x12)], [.x12, .x12, .x12]) := by decide +kernel
example : (decode [238, 89, 233, 109, 36, 128, 95, 50]).toOption.map (fun d => (d.body, d.padAt, d.latches)) =
    some ([65, 66, 67, 68, 69, 70, 71, 72, 73, 49], none, [(0, .x12)]) := by decide +kernel
example : (decode [238, 89, 233, 254, 69, 235, 106, 129]).toOption.map (fun d => (d.body, d.padAt, d.latches, d.trace)) =
    some ([65, 66, 67, 68, 233], some 7, [(0, .x12)], [.x12, .x12, .x12, .ascii, .ascii]) := by decide +kernel

/-- … and the theorem applied to the run with padding: ending `unlatch`, first pad at codeword 7 -/
example : ∃ d, decode [238, 89, 233, 254, 69, 235, 106, 129] = .ok d ∧ d.body = [65, 66, 67, 68, 233] ∧
    d.latches = [(0, .x12)] ∧ d.trace = [.x12, .x12, .x12, .ascii, .ascii] := by
  obtain ⟨d, _, _, _, h1, _, h3, _, _, _, h7, h8, _⟩ :=
    spec_x12_roundtrip (symbolList (List.range 30)) [65, 66, 67, 68, 233] _ _ (by decide) (by decide)
      (run30_eq_of_check (cw := [238, 89, 233, 254, 69, 235, 106, 129]) (sym := 3) (by decide +kernel))
  exact ⟨d, h1, h3, h7, by rw [h8]; decide⟩

/-! ### counterexamples for the side conditions

* a "byte" ≥ 256 behind the triples: the encoder writes `235, 173`, which is no upper shift;
* a non-native character inside the triples: the encoder model panics (so the hypothesis that the
  run succeeds cannot be dropped, and nativity of the triple part need not be assumed). -/
example : Enc.run (symbolList (List.range 30)) [] [65, 66, 67, 300] [(4, .x12), (0, .x12)] =
    .ok ([238, 89, 233, 254, 235, 173, 129, 56], 3) := run30_eq_of_check (by decide +kernel)
example : (decode [238, 89, 233, 254, 235, 173, 129, 56]).toOption.isNone = true := by decide +kernel
example : (match Enc.run (symbolList (List.range 30)) [] [65, 66, 97] [(3, .x12), (0, .x12)] with
    | .error (.panic site) => site == "unreachable x12 enc"
    | _ => false) = true := by
  rw [DM.Lemmas.symbols30]
  decide +kernel

/-- **X12 behind a header codeword** `c` = 232 (FNC1), 236 (Macro 05) or 237 (Macro 06): the latch
now stands at codeword 1; everything else as in `spec_x12_roundtrip`. -/
theorem spec_x12_roundtrip_header (c : Nat) (hc : c = 232 ∨ c = 236 ∨ c = 237) (list : List Sym) (body cw : List Nat)
    (sym : Sym) (hb : ∀ b ∈ body, b < 256) (hne : body ≠ [])
    (h : Enc.run list [c] body [(body.length, .x12), (0, .x12)] = .ok (cw, sym)) :
    ∃ (d : Decoded) (e : X12Ending) (T rest : List Nat),
      decode cw = .ok d ∧ d.body = body ∧ d.fnc1 = (c == 232) ∧ d.macro = hdrMacro c ∧
      d.bytes = (if c = 232 then body else macroHead (hdrMacro c) ++ body ++ macroTrail) ∧ d.ecis = [] ∧
      d.latches = [(1, .x12)] ∧
      d.trace = List.replicate (3 * (body.length / 3)) .x12 ++ List.replicate (body.length % 3) .ascii ∧
      X12Native (body.take (3 * (body.length / 3))) ∧ cw.length = dataCw sym ∧
      T = c :: 238 :: packTriples ((body.take (3 * (body.length / 3))).filterMap x12Val) ∧
      T.length = 2 + 2 * (body.length / 3) ∧ rest = asciiEnc (body.drop (3 * (body.length / 3))) ∧
      ((e = .exact ∧ body.length % 3 = 0 ∧ cw = T ∧ d.padAt = none) ∨
       (e = .single ∧ rest.length = 1 ∧ cw = T ++ rest ∧ d.padAt = none) ∨
       (e = .unlatch ∧ cw.take (T.length + 1 + rest.length) = T ++ [254] ++ rest ∧
          T.length + 1 + rest.length ≤ dataCw sym ∧
          d.padAt = (if T.length + 1 + rest.length = dataCw sym then none else some (T.length + 1 + rest.length)))) := by
  obtain ⟨sF, e, T, rest, hd, ho, ht, hl, he, hnat, hlen, hT, hTl, hrest, hend⟩ := x12_decode list [c] body cw sym
    (DM.Props.C02Spec.hdr_fields c hc body).1 hb hne h
  simp only [List.length_singleton, List.cons_append, List.nil_append] at hT hTl hl
  obtain ⟨a1, a2, a3, a4, a5, a6, a7, a8⟩ := x12_decoded sF 1 (macOf [c]) ([c] == [232]) body ho ht hl he _ rfl
  obtain ⟨_, f1, f2, f3⟩ := DM.Props.C02Spec.hdr_fields c hc body
  exact ⟨_, e, T, rest, hd, a1, a2.trans f1, a3.trans f2, a4.trans f3, a5, a6, a7, hnat, hlen, hT, by omega, hrest,
    by rw [a8]; exact hend⟩

/-- Non-vacuity: GS1 data behind FNC1 (`unlatch` with one pad; a single digit: no triple at all, the
`single` ending directly behind the latch), Macro 05 (`unlatch` filling the symbol), Macro 06
(`single`); the kernel runs the reference decoder on three of the streams. -/
example : Enc.run (symbolList (List.range 30)) [232] [65, 66, 67, 68, 69, 70] [(6, .x12), (0, .x12)] =
    .ok ([232, 238, 89, 233, 109, 36, 254, 129], 3) := run30_eq_of_check (by decide +kernel)
example : Enc.run (symbolList (List.range 30)) [232] [49] [(1, .x12), (0, .x12)] = .ok ([232, 238, 50], 0) :=
  run30_eq_of_check (by decide +kernel)
example : Enc.run (symbolList (List.range 30)) [236] [65, 66, 67, 68, 69, 70, 71, 72, 73, 49] [(10, .x12), (0, .x12)] =
    .ok ([236, 238, 89, 233, 109, 36, 128, 95, 254, 50], 4) := run30_eq_of_check (by decide +kernel)
example : Enc.run (symbolList (List.range 30)) [237] [65, 66, 67, 68] [(4, .x12), (0, .x12)] =
    .ok ([237, 238, 89, 233, 69], 1) := run30_eq_of_check (by decide +kernel)
example : (decode [232, 238, 89, 233, 109, 36, 254, 129]).toOption.map (fun d => (d.body, d.fnc1, d.padAt, d.latches)) =
    some ([65, 66, 67, 68, 69, 70], true, some 7, [(1, .x12)]) := by decide +kernel
example : (decode [232, 238, 50]).toOption.map (fun d => (d.body, d.fnc1, d.latches, d.trace)) =
    some ([49], true, [(1, .x12)], [.ascii]) := by decide +kernel
example : (decode [237, 238, 89, 233, 69]).toOption.map (fun d => (d.bytes, d.body, d.macro, d.trace)) =
    some ([91, 41, 62, 30, 48, 54, 29, 65, 66, 67, 68, 30, 4], [65, 66, 67, 68], 6, [.x12, .x12, .x12, .ascii]) := by
  decide +kernel

end DM.Props.C02SpecX12
