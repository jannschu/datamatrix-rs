import DM.Props.C13TailDefs
import DM.Lemmas.EncPass
/-!
# C13, second clause — the end-of-data ASCII fallback covers at most four characters

Plan-independent facts about the six mode encoders of `Model/Encode.lean`, read off the four fields
`input`, `pos`, `mode`, `plan` of the state (codewords do not matter here): `encodeMode_ret`, with its two halves
`encodeMode_tail` and `encodeMode_pos`.  This is the instance `tail_pass` of the walk through the mode
encoders in `Lemmas/EncPass.lean`.
Namespace: `C13Tail`.
-/
namespace DM.Props.C13Tail
open DM.Model DM.Model.Enc DM.Lemmas DM.Lemmas.EncStep

/-- the state `set_ascii_until_end` leaves, with at most `n` characters left -/
def TailSet (s' : St) (n : Nat) : Prop := s'.mode = .ascii ∧ s'.plan = [(0, .ascii)] ∧ s'.charsLeft ≤ n

/-- as after writing codewords only -/
def Same (s t : St) : Prop := t.input = s.input ∧ t.pos = s.pos ∧ t.mode = s.mode ∧ t.plan = s.plan

theorem Same.refl (s : St) : Same s s := ⟨rfl, rfl, rfl, rfl⟩
theorem Same.trans {a b c : St} (h1 : Same a b) (h2 : Same b c) : Same a c :=
  ⟨h2.1.trans h1.1, h2.2.1.trans h1.2.1, h2.2.2.1.trans h1.2.2.1, h2.2.2.2.trans h1.2.2.2⟩

theorem Same.hasMore {s t : St} (h : Same s t) : t.hasMore = s.hasMore := by
  unfold St.hasMore; rw [h.1, h.2.1]

theorem Same.rest {s t : St} (h : Same s t) : t.rest = s.rest := by
  unfold St.rest; rw [h.1, h.2.1]

theorem Same.charsLeft {s t : St} (h : Same s t) : t.charsLeft = s.charsLeft := by
  unfold St.charsLeft; rw [h.1, h.2.1]

theorem edifactHandleEnd_spec (s s' : St) (sym : List Nat) (h : edifactHandleEnd s sym = .ok s') :
    TailSet s' 4 ∨ Same s s' := by
  cases (edifactHandleEnd_res s sym).ok h with
  | wrote => exact Or.inr ⟨rfl, rfl, rfl, rfl⟩
  | ascii cw back hk hp hn =>
    refine Or.inl ⟨rfl, rfl, ?_⟩
    show s.input.length - (s.pos - back) ≤ 4
    unfold St.charsLeft at hn
    omega

/-- How a call of a mode encoder that was entered at `s`, holding `k` characters that it has read but
not yet written, may return: the read position is at most `k` characters in front of `s.pos` (`backup`
only takes back buffered characters), and if characters are left then a planned switch was consumed or
`set_ascii_until_end` was called with at most `n` characters left. -/
def Ret (n k : Nat) (s s' : St) : Prop :=
  s.pos ≤ s'.pos + k ∧ (s'.hasMore = true → s'.plan.length < s.plan.length ∨ TailSet s' n)


theorem tail_pass (s0 : St) (n : Nat) :
    Pass n (fun k s => s.input = s0.input ∧ s0.pos + k ≤ s.pos ∧ s.plan.length ≤ s0.plan.length)
      (fun k s => s.input = s0.input ∧ s0.pos + k ≤ s.pos ∧ s.plan.length ≤ s0.plan.length)
      (fun k s => s.input = s0.input ∧ s0.pos + k ≤ s.pos ∧ (s.hasMore = true → s.plan.length < s0.plan.length))
      (Ret n 0 s0) where
  eat _ _ d h := ⟨h.1, by have := h.2.1; show s0.pos + (_ + d) ≤ _ + d; omega, h.2.2⟩
  wrote _ _ _ _ h hk := ⟨h.1, Nat.le_trans (Nat.add_le_add_left hk _) h.2.1, h.2.2⟩
  stay _ s s1 hm h := by
    obtain ⟨at_, m, rest, hp, _, hc⟩ := maybeSwitch_cases hm
    rcases hc with ⟨_, _, rfl⟩ | ⟨_, _, _, rfl⟩ | ⟨_, _, hb, _⟩
    · exact h
    · exact ⟨h.1, h.2.1, Nat.le_trans (by rw [hp]; exact Nat.le_succ _) h.2.2⟩
    · cases hb
  leave _ s s1 hm h := by
    obtain ⟨at_, m, rest, hp, _, hc⟩ := maybeSwitch_cases hm
    rcases hc with ⟨_, hb, _⟩ | ⟨_, _, hb, _⟩ | ⟨_, _, _, rfl⟩
    · cases hb
    · cases hb
    · exact ⟨h.1, h.2.1, fun _ => Nat.lt_of_lt_of_le (by rw [hp]; exact Nat.lt_succ_self _) h.2.2⟩
  fin _ _ h hm := ⟨h.1, h.2.1, fun h' => by rw [hm] at h'; cases h'⟩
  tail k s cw p' h hk hn _ :=
    ⟨by have := h.2.1; show s0.pos ≤ p' + 0; omega, fun _ => Or.inr ⟨rfl, rfl, by show s.input.length - p' ≤ n; exact hn⟩⟩
  handler k s s' h he := by
    refine ⟨by have := he.le_pos; have := h.2.1; omega, fun hm => ?_⟩
    cases he with
    | wrote => exact Or.inl (h.2.2 hm)
    | ascii cw back hk hp hn =>
      refine Or.inr ⟨rfl, rfl, ?_⟩
      show s.input.length - (s.pos - back) ≤ n
      unfold St.charsLeft at hn
      omega

theorem tailMax_le_four (m : EMode) : tailMax m ≤ 4 := by cases m <;> decide

theorem tailMax_pos {m : EMode} (h : 0 < tailMax m) : m = .c40 ∨ m = .text ∨ m = .x12 ∨ m = .edifact := by
  cases m <;> simp [tailMax] at h ⊢

theorem encodeMode_ret {s s' : St} (h : encodeMode s = .ok s') : Ret (tailMax s.mode) 0 s s' :=
  (encodeMode_res (tail_pass s (tailMax s.mode)) s (by rintro (h | h | h) <;> rw [h] <;> exact Nat.le_refl _)
    (fun h => by rw [h]; exact Nat.le_refl _) fun _ => ⟨rfl, Nat.le_refl _, Nat.le_refl _⟩).ok h

/-- **The end-of-data ASCII fallback covers at most four characters** (whatever the plan): a call of
a mode encoder that returns with characters left either has consumed an entry of the list of planned
switches, or it has called `set_ascii_until_end` with at most `tailMax mode` characters left — none for
ASCII and Base 256, at most 2 for C40, Text and X12, at most 4 for EDIFACT. -/
theorem encodeMode_tail (s s' : St) (h : encodeMode s = .ok s') (hm : s'.hasMore = true) :
    s'.plan.length < s.plan.length ∨
    (s.mode ≠ .ascii ∧ s.mode ≠ .base256 ∧ s'.mode = .ascii ∧ s'.plan = [(0, .ascii)] ∧
      s'.charsLeft ≤ tailMax s.mode) := by
  rcases (encodeMode_ret h).2 hm with h1 | ⟨a, b, c⟩
  · exact Or.inl h1
  · -- characters are left, so `tailMax s.mode` is not 0
    have hc := (hasMore_charsLeft s').mp hm
    refine Or.inr ⟨fun e => ?_, fun e => ?_, a, b, c⟩ <;>
    · rw [e] at c
      exact absurd (Nat.lt_of_lt_of_le hc c) (Nat.lt_irrefl 0)

/-- **A mode encoder never leaves the read position in front of where it started** (`backup` only
takes back characters read in the same call: the C40 / Text buffer, the EDIFACT symbol buffer). -/
theorem encodeMode_pos (s s' : St) (h : encodeMode s = .ok s') : s.pos ≤ s'.pos :=
  (encodeMode_ret h).1

end DM.Props.C13Tail
