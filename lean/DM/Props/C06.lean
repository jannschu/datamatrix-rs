import DM.Lemmas.RSGen
import DM.Lemmas.Interleave
import DM.Props.C12
/-!
# C06 — error codewords conform to the ISO/IEC 16022 Reed–Solomon code

For every symbol size and every data vector of the size's capacity, the model of
`encode_error` returns the standard's number of error codewords and every interleaved
block (stride = number of blocks, data part followed by the same stride of the error
part) has all `k` syndromes zero, the syndromes being computed with the table-free
arithmetic of `DM.Spec.GF256`.
-/
namespace DM.Props.C06
open DM.Gen DM.Model DM.Spec DM.Lemmas

/-- Shape and roots of the generator polynomial for `k` check symbols (table arithmetic). -/
def genOK (k : Nat) : Bool :=
  match generator k with
  | none => false
  | some g =>
    g.length == k + 1 && g.head? == some 1 && g.all (· < 256) &&
    (List.range k).all fun i => evalN g (alog (i + 1)) == 0

/-- The 25 generator polynomials of the table (regenerated from the code) are the products
`Π_{i=1..k} (x + 2^i)`; every size has one. -/
theorem generator_prodLin : ∀ s, s < numSizes → generator (row s).eccPer = some (prodLin (row s).eccPer) := by
  decide +kernel

/-- All 25 generator polynomials (regenerated from the code) are monic of the right degree
and vanish at 2^1 … 2^k; every size has one; block and check counts are positive. -/
theorem gen_monic_roots :
    ∀ s, s < numSizes → genOK (row s).eccPer = true ∧ 0 < (row s).eccPer ∧ (row s).eccPer < 254 ∧
      0 < (row s).blocks ∧ (row s).blocks ≤ (row s).dataCw := by
  intro s hs
  have R := rowShape s hs
  obtain ⟨t, ht, hl⟩ := prodLin_monic (row s).eccPer
  refine ⟨?_, R.k_pos, R.k_lt, R.blocks_pos, R.blocks_le⟩
  unfold genOK
  rw [generator_prodLin s hs]
  simp only [Bool.and_eq_true, beq_iff_eq, List.all_eq_true, decide_eq_true_eq, List.mem_range]
  refine ⟨⟨⟨?_, ?_⟩, prodLin_bytes _⟩, fun i hi => prodLin_root _ i hi (by have := R.k_lt; omega)⟩
  · rw [ht, List.length_cons, hl]
  · rw [ht]; rfl

/-- `generator` is total on the catalogue (the `expect` in `errorcode/mod.rs` never fires). -/
theorem gen_lookup_total (s : Sym) (hs : s < numSizes) : (generator (row s).eccPer).isSome = true := by
  rw [generator_prodLin s hs]; rfl

/-- **`encode_error` encodes the interleaved blocks independently**: block `b` of its answer is `eccBlock` of block `b`
of the data. -/
theorem encodeError_blocks (s : Sym) (data g : List Nat) (hlen : data.length = dataCw s)
    (hg : generator (row s).eccPer = some g)
    (hgl : ∀ b, (eccBlock g (strided data b (row s).blocks)).length = (row s).eccPer) :
    ∃ ecc, encodeError s data = .ok ecc ∧ ecc.length = (row s).eccPer * (row s).blocks ∧
      ∀ b, b < (row s).blocks → strided ecc b (row s).blocks = eccBlock g (strided data b (row s).blocks) := by
  have hgetD : ∀ b, b < (row s).blocks →
      ((List.range (row s).blocks).map fun b => eccBlock g (strided data b (row s).blocks)).getD b []
        = eccBlock g (strided data b (row s).blocks) := by
    intro b hb
    rw [getD_map_range, if_pos hb]
  refine ⟨(List.range ((row s).eccPer * (row s).blocks)).map fun j =>
      (((List.range (row s).blocks).map fun b =>
        eccBlock g (strided data b (row s).blocks)).getD (j % (row s).blocks) []).getD
        (j / (row s).blocks) 0, ?_, ?_, fun b hb => ?_⟩
  · unfold encodeError
    have : ¬ data.length ≠ (row s).dataCw := by simpa [dataCw] using hlen
    simp only [this, if_false, hg]
  · rw [List.length_map, List.length_range]
  · have hstr := strided_interleave
      (fun b m => (((List.range (row s).blocks).map fun b =>
        eccBlock g (strided data b (row s).blocks)).getD b []).getD m 0)
      (row s).eccPer (row s).blocks b hb
    rw [hstr, hgetD b hb, map_getD_range _ 0 (hgl b)]

/-- **C06.** `encode_error` answers with the standard's number of error codewords, all bytes, and
every interleaved block of data and error codewords is a codeword. -/
theorem encode_error_conformant (s : Sym) (hs : s < numSizes) (data : List Nat)
    (hbytes : Bytes data) (hlen : data.length = dataCw s) :
    ∃ ecc, encodeError s data = .ok ecc ∧
      ecc.length = (C12.toStd (row s)).eccCw ∧ Bytes ecc ∧
      ∀ b, b < (row s).blocks →
        isCodeword (strided data b (row s).blocks ++ strided ecc b (row s).blocks) (row s).eccPer = true := by
  have hg := generator_prodLin s hs
  have R := rowShape s hs
  obtain ⟨gt, ht, hgtlen⟩ := prodLin_monic (row s).eccPer
  have hgtbytes : Bytes gt := (ht ▸ prodLin_bytes (row s).eccPer).tail
  have hroots := fun i hi => prodLin_root (row s).eccPer i hi (Nat.lt_succ_of_lt R.k_lt)
  rw [ht] at hg hroots
  have hblk := fun b => eccBlock_bytes_length gt hgtbytes _ (strided_bytes hbytes b (row s).blocks)
  obtain ⟨ecc, henc, hl, hstr⟩ := encodeError_blocks s data _ hlen hg fun b => by rw [(hblk b).2, hgtlen]
  refine ⟨ecc, henc, by simp [hl, C12.toStd, Nat.mul_comm], ?_, fun b hb => ?_⟩
  · exact bytes_of_strided R.blocks_pos fun b hb => by rw [hstr b hb]; exact (hblk b).1
  · rw [hstr b hb]
    exact eccBlock_codeword gt hgtbytes _ R.k_lt hroots _ (strided_bytes hbytes b _)

/-- Non-vacuity: a concrete data vector of 10x10 and its (kernel-computed) error codewords. -/
example : encodeError 0 [23, 40, 11] = .ok [255, 207, 37, 244, 81] := by decide +kernel

/-- The standard's total (C12) is what comes out. -/
theorem ecc_count_standard (s : Sym) (hs : s < numSizes) :
    (C12.toStd (row s)).eccCw = eccCw s ∧
    (((row s).dmre = true → C12.toStd (row s) ∈ dmre) ∧ ((row s).dmre = false → C12.toStd (row s) ∈ table7)) := by
  refine ⟨rfl, ?_⟩
  exact C12.row_in_standard _ (C12.row_mem hs)

end DM.Props.C06
