import DM.Props.C14Str
import DM.Lemmas.PlannedRun
/-!
# C14 / C18 / C11 — `encode_str`, planner, encoder and string decoder models composed

`Props/C14Str.lean` proves that whatever the encoder model returns for what `encode_str` hands to it (the
Latin-1 bytes without ECI, or the UTF-8 bytes behind the designator of ECI 26, codewords 241, 27) the
string decoder model turns back into the code points of the string — *if* the encoder model succeeds.
`Props/C18Couple.lean` proves that on the plan the planner model returns (within the side condition
`planOK`) the encoder model does succeed, in a symbol no larger than predicted.  Composed here: the planner
model is run on the bytes `encode_str` selects, told the number of ECI codewords already written; the
encoder model is run on the planner's plan.  If the plan is inside the two decidable side conditions
and the predicted size fits a listed symbol, the encoder model **succeeds**, in a symbol no larger than
the predicted one, and the string decoder model returns the string.

No hypothesis speaks about the encoder's outcome: success is a conclusion.

The round-trip side condition is `C40Gen.planOKEb body plan = true` (no latch to a non-ASCII mode
scheduled for the last four characters, EDIFACT only as the final stretch and only over EDIFACT
characters), the condition of the `_E` forms of `Props/C14Str.lean`.
-/
namespace DM.Props.C14Planner
open DM.Model DM.Model.Dec DM.Model.Enc DM.Model.Plan DM.Model.PlanSide DM.Gen DM.Spec DM.Lemmas DM.Lemmas.EciFrame
  DM.Lemmas.C40Gen DM.Lemmas.MainRT DM.Lemmas.DecRun DM.Props.C14

/-- **Latin-1 branch of `encode_str`, planned.**  For code points `cps` which `utf8_to_latin1` maps to
`bytes`: the planner model plans `bytes` with no codeword written; if its plan is inside the two decidable
side conditions and the prediction fits the listed symbol `ps`, the encoder model succeeds on that plan in a
symbol no larger than `ps` and the string decoder model returns `cps`. -/
theorem planned_latin1_string_roundtrip (cps bytes : List Nat) (hl : utf8ToLatin1Str cps = some bytes)
    (list : List Sym) (modes : Nat) (perms : List (List Nat)) (o : Outcome) (plan : List (Nat × EMode)) (ps : Sym)
    (hopt : Plan.optimize bytes 0 list modes perms = .ok o) (hp : o.plan = some plan)
    (hok : planOK bytes plan = true) (hrt : planOKEb bytes plan = true)
    (hfit : firstBigEnough list (0 + o.cost12 / 12) = some ps) :
    ∃ cw sym, Enc.run list [] bytes plan = .ok (cw, sym) ∧ dataCw sym ≤ dataCw ps ∧
      decodeStr cw = .ok cps := by
  obtain ⟨cw, sym, hrun, hsz⟩ := PlannedRun.planned_run_nogate bytes [] list modes perms o plan ps
    (latin1_bytes cps bytes hl) hopt hp hok hfit
  exact ⟨cw, sym, hrun, hsz, latin1_string_roundtrip_E cps bytes hl list cw plan sym (planOKE_of_check bytes plan hrt) hrun⟩

/-- **Bytes behind an ECI designator, planned.**  For bytes `body` written behind the designator of ECI
`n` (codeword 241 and the one to three codewords of `Eci.designator n`): the planner model plans `body`,
told of the designator's codewords; under the same hypotheses the encoder model succeeds on that plan in a
symbol no larger than `ps`, and the string decoder model applies the conversion of ECI `n` to exactly `body`.  (`hgate` is not
needed: `PlannedRun.planned_run_nogate`.) -/
theorem planned_eci_string_decode (n : Nat) (hn : n ≤ 999999) (body : List Nat) (hb : ∀ b ∈ body, b < 256)
    (list : List Sym) (modes : Nat) (perms : List (List Nat)) (o : Outcome) (plan : List (Nat × EMode)) (ps : Sym)
    (hopt : Plan.optimize body (1 + (Eci.designator n).length) list modes perms = .ok o) (hp : o.plan = some plan)
    (hok : planOK body plan = true) (hrt : planOKEb body plan = true)
    (hgate : body.length ≤ maxCapacity list)
    (hfit : firstBigEnough list (1 + (Eci.designator n).length + o.cost12 / 12) = some ps) :
    ∃ cw sym, Enc.run list (241 :: Eci.designator n) body plan = .ok (cw, sym) ∧ dataCw sym ≤ dataCw ps ∧
      decodeStr cw = convertChunk body n := by
  rw [Nat.add_comm 1] at hopt hfit
  obtain ⟨cw, sym, hrun, hsz⟩ := PlannedRun.planned_run_nogate body (241 :: Eci.designator n) list modes perms o plan ps
    hb hopt hp hok hfit
  exact ⟨cw, sym, hrun, hsz, eci_string_decode_E n hn list body cw plan sym hb (planOKE_of_check body plan hrt) hrun⟩

/-- **UTF-8 branch of `encode_str`, planned.**  The UTF-8 bytes of the string `s` behind the designator
of ECI 26 (codewords 241, 27): the planner model plans the bytes, told of two codewords written; under the
same hypotheses the encoder model succeeds on that plan in a symbol no larger than `ps` and the string
decoder model returns the code points of `s`. -/
theorem planned_utf8_string_roundtrip (s : String)
    (list : List Sym) (modes : Nat) (perms : List (List Nat)) (o : Outcome) (plan : List (Nat × EMode)) (ps : Sym)
    (hopt : Plan.optimize (utf8Bytes s) 2 list modes perms = .ok o) (hp : o.plan = some plan)
    (hok : planOK (utf8Bytes s) plan = true) (hrt : planOKEb (utf8Bytes s) plan = true)
    (hfit : firstBigEnough list (2 + o.cost12 / 12) = some ps) :
    ∃ cw sym, Enc.run list [241, 27] (utf8Bytes s) plan = .ok (cw, sym) ∧ dataCw sym ≤ dataCw ps ∧
      decodeStr cw = .ok (codePoints s) := by
  obtain ⟨cw, sym, hrun, hsz⟩ := PlannedRun.planned_run_nogate (utf8Bytes s) [241, 27] list modes perms o plan ps
    (utf8Bytes_lt s) hopt hp hok hfit
  exact ⟨cw, sym, hrun, hsz, utf8_string_roundtrip_E s list cw plan sym (planOKE_of_check _ plan hrt) hrun⟩

/-- **`encode_str` → planner → encoder → `decode_str` on the models, without the gate hypothesis.**
Whatever branch `encode_str` selects for the string `s` (`strInput s` = ECI codewords, message bytes): the
planner model is run on those bytes behind that many codewords; under the same hypotheses the encoder model
succeeds on its plan in a symbol no larger than `ps` and the string decoder model returns exactly the code
points of `s`.
(`CoupleGate.gate_prediction_none`: a prediction that fits a listed symbol implies that the bytes pass the
encoder's early-exit gate.) -/
theorem planned_encode_str_roundtrip_nogate (s : String)
    (list : List Sym) (modes : Nat) (perms : List (List Nat)) (o : Outcome) (plan : List (Nat × EMode)) (ps : Sym)
    (hopt : Plan.optimize (strInput s).2 (strInput s).1.length list modes perms = .ok o) (hp : o.plan = some plan)
    (hok : planOK (strInput s).2 plan = true) (hrt : planOKEb (strInput s).2 plan = true)
    (hfit : firstBigEnough list ((strInput s).1.length + o.cost12 / 12) = some ps) :
    ∃ cw sym, Enc.run list (strInput s).1 (strInput s).2 plan = .ok (cw, sym) ∧ dataCw sym ≤ dataCw ps ∧
      decodeStr cw = .ok (codePoints s) := by
  obtain ⟨cw, sym, hrun, hsz⟩ := PlannedRun.planned_run_nogate (strInput s).2 (strInput s).1 list modes perms o plan ps
    (strInput_bytes s) hopt hp hok hfit
  exact ⟨cw, sym, hrun, hsz, encode_str_roundtrip_E s list cw plan sym (planOKE_of_check _ plan hrt) hrun⟩

/-- **The same with the gate hypothesis** (which the proof does not need). -/
theorem planned_encode_str_roundtrip (s : String)
    (list : List Sym) (modes : Nat) (perms : List (List Nat)) (o : Outcome) (plan : List (Nat × EMode)) (ps : Sym)
    (hopt : Plan.optimize (strInput s).2 (strInput s).1.length list modes perms = .ok o) (hp : o.plan = some plan)
    (hok : planOK (strInput s).2 plan = true) (hrt : planOKEb (strInput s).2 plan = true)
    (hgate : (strInput s).2.length ≤ maxCapacity list)
    (hfit : firstBigEnough list ((strInput s).1.length + o.cost12 / 12) = some ps) :
    ∃ cw sym, Enc.run list (strInput s).1 (strInput s).2 plan = .ok (cw, sym) ∧ dataCw sym ≤ dataCw ps ∧
      decodeStr cw = .ok (codePoints s) :=
  planned_encode_str_roundtrip_nogate s list modes perms o plan ps hopt hp hok hrt hfit

/-! ### non-vacuity

Both branches of `encode_str`, the 30 standard sizes, all six modes enabled (`modes = 63`), the sort
permutations of a stable sort by cost (computed by running the model with an insertion sort).

* "héllo€" is not Latin-1: `strInput` answers the designator of ECI 26 and the nine UTF-8 bytes; the
  planner model, told of two codewords written, plans Base 256 to the end at 11 codewords
  (`132 / 12`); both side conditions hold, the gate is passed, 2 + 11 codewords fit symbol 6.
* "héllo" is Latin-1: five bytes, no ECI; the planner model plans ASCII at 6 codewords (`72 / 12`,
  the `é` takes an Upper Shift), which fit symbol 3.

These are all hypotheses of `planned_encode_str_roundtrip`; the theorem is then applied to both. -/

def exUtf8Bytes : List Nat := [104, 195, 169, 108, 108, 111, 226, 130, 172]
def exUtf8Perms : List (List Nat) :=
  [[0, 2, 3, 1], [0, 1, 3, 8, 4, 2, 9, 5, 11, 10, 6, 7], [0, 4, 12, 1, 5, 13, 2, 3, 8, 9, 6, 7, 14, 15, 10, 11],
   [0, 4, 5, 8, 9, 2, 6, 10, 3, 7, 11, 1], [0, 4, 5, 8, 9, 12, 16, 17, 2, 6, 10, 14, 3, 7, 11, 15, 1, 13],
   [0, 4, 5, 8, 9, 12, 16, 17, 2, 6, 10, 14, 3, 7, 11, 15, 1, 13],
   [4, 8, 0, 5, 9, 12, 16, 20, 1, 2, 6, 10, 13, 14, 17, 21, 3, 7, 11, 15, 18, 22, 19, 23],
   [0, 5, 1, 6, 3, 4, 8, 9, 10, 15, 2, 7, 11, 16, 12, 17, 14, 19, 13, 18], [0, 5, 1, 6, 2, 7, 3, 4, 8, 9], [0, 1]]
def exUtf8Plan : List (Nat × EMode) := [(9, .base256), (0, .base256)]
def exUtf8Outcome : Outcome := { plan := some exUtf8Plan, cost12 := 132, steps := 192, maxLive := 6 }

def exLatinBytes : List Nat := [104, 233, 108, 108, 111]
def exLatinPerms : List (List Nat) :=
  [[0, 2, 3, 1], [0, 4, 1, 2, 8, 3, 9, 5, 10, 11, 6, 7], [0, 4, 2, 12, 8, 9, 13, 14, 3, 10, 15, 1, 11, 16, 5, 7, 6],
   [0, 5, 10, 3, 11, 12, 17, 18, 4, 15, 21, 1, 2, 6, 13, 19, 16, 22, 14, 20, 9, 7, 8],
   [0, 12, 2, 6, 7, 13, 14, 19, 20, 1, 3, 4, 5, 9, 10, 15, 16, 17, 21, 22, 23, 8, 11, 18, 24], [0, 1, 2, 3, 4, 5]]
def exLatinPlan : List (Nat × EMode) := [(0, .ascii)]
def exLatinOutcome : Outcome := { plan := some exLatinPlan, cost12 := 72, steps := 105, maxLive := 6 }

open DM.Props.C18Couple

theorem exUtf8_strInput : strInput "héllo€" = ([241, 27], exUtf8Bytes) := by decide +kernel
theorem exUtf8_optimize :
    Plan.optimize exUtf8Bytes ([241, 27] : List Nat).length exList 63 exUtf8Perms = .ok exUtf8Outcome := by
  rw [exList_eq]; decide +kernel
theorem exUtf8_fit : firstBigEnough exList (([241, 27] : List Nat).length + exUtf8Outcome.cost12 / 12) = some 6 := by
  rw [exList_eq]; decide +kernel
theorem exLatin_strInput : strInput "héllo" = ([], exLatinBytes) := by decide +kernel
theorem exLatin_optimize :
    Plan.optimize exLatinBytes ([] : List Nat).length exList 63 exLatinPerms = .ok exLatinOutcome := by
  rw [exList_eq]; decide +kernel
theorem exLatin_fit : firstBigEnough exList (([] : List Nat).length + exLatinOutcome.cost12 / 12) = some 3 := by
  rw [exList_eq]; decide +kernel

open DM.Props.C18Couple in
example :
    strInput "héllo€" = ([241, 27], exUtf8Bytes) ∧
    Plan.optimize exUtf8Bytes ([241, 27] : List Nat).length exList 63 exUtf8Perms = .ok exUtf8Outcome ∧
    exUtf8Outcome.plan = some exUtf8Plan ∧
    planOK exUtf8Bytes exUtf8Plan = true ∧ planOKEb exUtf8Bytes exUtf8Plan = true ∧
    exUtf8Bytes.length ≤ maxCapacity exList ∧
    firstBigEnough exList (([241, 27] : List Nat).length + exUtf8Outcome.cost12 / 12) = some 6 :=
  ⟨exUtf8_strInput, exUtf8_optimize, rfl, by decide +kernel, by decide +kernel, by rw [maxCapacity_exList]; decide,
    exUtf8_fit⟩

open DM.Props.C18Couple in
example :
    strInput "héllo" = ([], exLatinBytes) ∧
    Plan.optimize exLatinBytes ([] : List Nat).length exList 63 exLatinPerms = .ok exLatinOutcome ∧
    exLatinOutcome.plan = some exLatinPlan ∧
    planOK exLatinBytes exLatinPlan = true ∧ planOKEb exLatinBytes exLatinPlan = true ∧
    exLatinBytes.length ≤ maxCapacity exList ∧
    firstBigEnough exList (([] : List Nat).length + exLatinOutcome.cost12 / 12) = some 3 :=
  ⟨exLatin_strInput, exLatin_optimize, rfl, by decide +kernel, by decide +kernel, by rw [maxCapacity_exList]; decide,
    exLatin_fit⟩

/-- the theorem applied to "héllo€": the encoder model succeeds within symbol 6 (16 data codewords; it
returns `241, 27, 231, …`, see below) and the string decoder model returns the six code points -/
example : ∃ cw sym, Enc.run DM.Props.C18Couple.exList [241, 27] exUtf8Bytes exUtf8Plan = .ok (cw, sym) ∧
    dataCw sym ≤ dataCw 6 ∧ decodeStr cw = .ok (codePoints "héllo€") := by
  have h := planned_encode_str_roundtrip_nogate "héllo€" exList 63 exUtf8Perms exUtf8Outcome exUtf8Plan 6
  rw [exUtf8_strInput] at h
  exact h exUtf8_optimize rfl (by decide +kernel) (by decide +kernel) exUtf8_fit

/-- the theorem applied to "héllo" -/
example : ∃ cw sym, Enc.run DM.Props.C18Couple.exList [] exLatinBytes exLatinPlan = .ok (cw, sym) ∧
    dataCw sym ≤ dataCw 3 ∧ decodeStr cw = .ok (codePoints "héllo") := by
  have h := planned_encode_str_roundtrip_nogate "héllo" exList 63 exLatinPerms exLatinOutcome exLatinPlan 3
  rw [exLatin_strInput] at h
  exact h exLatin_optimize rfl (by decide +kernel) (by decide +kernel) exLatin_fit

/-- what evaluation gives for the two instances -/
example :
    Enc.run DM.Props.C18Couple.exList [241, 27] exUtf8Bytes exUtf8Plan =
      .ok ([241, 27, 231, 96, 84, 69, 193, 25, 175, 71, 80, 134, 69, 129, 87, 237], 6) ∧
    decodeStr [241, 27, 231, 96, 84, 69, 193, 25, 175, 71, 80, 134, 69, 129, 87, 237] =
      .ok [104, 233, 108, 108, 111, 8364] ∧
    Enc.run DM.Props.C18Couple.exList [] exLatinBytes exLatinPlan = .ok ([105, 235, 106, 109, 109, 112, 129, 56], 3) ∧
    decodeStr [105, 235, 106, 109, 109, 112, 129, 56] = .ok [104, 233, 108, 108, 111] := by
  refine ⟨by rw [DM.Props.C18Couple.exList_eq]; decide +kernel, by decide +kernel,
    by rw [DM.Props.C18Couple.exList_eq]; decide +kernel, by decide +kernel⟩

end DM.Props.C14Planner
