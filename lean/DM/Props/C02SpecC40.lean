import DM.Lemmas.SpecC40Pure
import DM.Props.C02Spec
/-!
# C02 — conformant output against the reference decoder: C40 and Text

What the encoder model writes for a message planned entirely in C40 (or Text) — the latch 230
(239), pairs of codewords each packing three values, and one of the ends of `c40::handle_end` — is read back by the
independent decoder `DM.Spec.Stream.decode` (ISO/IEC 16022 §5.2.5 / 5.2.6) as exactly the message.
One proof for both modes (`text : Bool`) and behind each header (`c40text_hdr`; the end results are stated without header).
-/
namespace DM.Props.C02SpecC40
open DM.Model DM.Lemmas DM.Lemmas.AsciiRT DM.Lemmas.SpecStep DM.Lemmas.SpecAscii DM.Lemmas.SpecC40
open DM.Lemmas.C40RT (latchOf modeOf)
open DM.Spec.Build (packTriples)
open DM.Props.C02Spec (run30_eq_of_check spec_ascii_roundtrip)
open DM.Spec.Stream (decode Decoded Mode unrand253)

/-- **C40 / Text round trip through the reference decoder behind each header** (`pre` = none, FNC1, Macro 05, Macro 06),
non-empty message; `spec_c40text_roundtrip` is the case without header and says what the conclusion means. -/
theorem c40text_hdr (text : Bool) (list : List Sym) (pre body cw : List Nat) (sym : Sym)
    (hpre : pre = [] ∨ pre = [232] ∨ pre = [236] ∨ pre = [237]) (hne : body ≠ [])
    (h : Enc.run list pre body [(body.length, modeOf text), (0, modeOf text)] = .ok (cw, sym)) :
    ∃ (d : Decoded) (V : List Nat) (n p : Nat) (un : Bool) (L : Nat),
      decode cw = .ok d ∧
      d.bytes = (if macOf pre = 0 then body else DM.Spec.Stream.macroHead (macOf pre) ++ body ++ DM.Spec.Stream.macroTrail) ∧
      d.body = body ∧ d.fnc1 = (pre == [232]) ∧ d.macro = macOf pre ∧ d.ecis = [] ∧
      d.latches = [(pre.length, cmode text)] ∧
      d.trace = List.replicate p (cmode text) ++ List.replicate (body.length - p) .ascii ∧
      d.padAt = (if L = dataCw sym then none else some L) ∧ PureC40 text pre body cw (dataCw sym) V n p un L := by
  obtain ⟨V, n, p, un, L, sh⟩ := run_c40_shape text list pre body cw sym hne h
  obtain ⟨sF, hrun, ho, ht, hl, he, hpa⟩ := spec_run_c40 sh
  have hXL : pre.length + (latchOf text :: packTriples V ++ (if un then [254] else []) ++ asciiEnc (body.drop p)).length = L := by
    have := DM.Lemmas.Complete.packTriples_length n V sh.len
    rw [sh.L_eq]; cases un <;> simp [this] <;> omega
  obtain ⟨hpfx, hhd⟩ := pfx_headOK (pre := pre) (cw := cw)
    (X := latchOf text :: packTriples V ++ (if un then [254] else []) ++ asciiEnc (body.drop p))
    (by rw [hXL, sh.take]; simp) (DM.Lemmas.MainRT.headOK_cons _ _ (by cases text <;> decide))
    (by rw [hXL]; exact sh.padded)
  refine ⟨_, V, n, p, un, L, decode_behind pre cw sF hpre hpfx (fun hp => by subst hp; exact hhd) hrun, ?_, ?_, rfl, rfl, ?_, ?_, ?_, ?_, sh⟩
  · simp [mkDecoded, ho]
  · simp [mkDecoded, ho]
  · simp [mkDecoded, he]
  · simp [mkDecoded, hl]
  · simp [mkDecoded, ht]
  · simp only [mkDecoded, hpa, sh.size]

/-- **C40 / Text round trip through the reference decoder, non-empty message.** The reference
decoder accepts what the encoder returns and reads the message; one latch, at codeword 0; the
first `p` characters are carried by C40 / Text, the remaining ones by ASCII; the stream has the shape
`PureC40`: the latch, `n` pairs of codewords packing `3 n` values (each below 40), UNLATCH or not, the
ASCII codewords of the remaining (at most two) characters, and padding that fills the symbol; without
UNLATCH there is at most one ASCII codeword and no padding; the first pad codeword is met exactly
behind the encoder's own codewords. No hypothesis on the message is needed: a run that succeeds has
only seen bytes (`PureC40.bytes`). -/
theorem spec_c40text_roundtrip (text : Bool) (list : List Sym) (body cw : List Nat) (sym : Sym)
    (hne : body ≠ [])
    (h : Enc.run list [] body [(body.length, modeOf text), (0, modeOf text)] = .ok (cw, sym)) :
    ∃ (d : Decoded) (V : List Nat) (n p : Nat) (un : Bool) (L : Nat),
      decode cw = .ok d ∧ d.bytes = body ∧ d.body = body ∧ d.fnc1 = false ∧ d.macro = 0 ∧ d.ecis = [] ∧
      d.latches = [(0, cmode text)] ∧
      d.trace = List.replicate p (cmode text) ++ List.replicate (body.length - p) .ascii ∧
      d.padAt = (if L = dataCw sym then none else some L) ∧ PureC40 text [] body cw (dataCw sym) V n p un L :=
  c40text_hdr text list [] body cw sym (Or.inl rfl) hne h

/-- the empty message under the C40 / Text plan is the empty ASCII message: padding only -/
theorem spec_c40text_roundtrip_nil (text : Bool) (list : List Sym) (cw : List Nat) (sym : Sym)
    (h : Enc.run list [] [] [(([] : List Nat).length, modeOf text), (0, modeOf text)] = .ok (cw, sym)) :
    ∃ d, decode cw = .ok d ∧ d.bytes = [] ∧ d.body = [] ∧ d.fnc1 = false ∧ d.macro = 0 ∧ d.ecis = [] ∧
      d.latches = [] ∧ d.trace = [] ∧ cw.length = dataCw sym ∧
      d.padAt = (if 0 = dataCw sym then none else some 0) ∧ (0 < dataCw sym → cw.getD 0 0 = 129) :=
  DM.Props.C02Spec.spec_nil_roundtrip list _ cw sym h

/-- both cases together, for every message and every symbol list -/
theorem spec_c40text_roundtrip_all (text : Bool) (list : List Sym) (body cw : List Nat) (sym : Sym)
    (h : Enc.run list [] body [(body.length, modeOf text), (0, modeOf text)] = .ok (cw, sym)) :
    ∃ d, decode cw = .ok d ∧ d.bytes = body ∧ d.body = body ∧ d.fnc1 = false ∧ d.macro = 0 ∧ d.ecis = [] ∧
      d.latches = (if body = [] then [] else [(0, cmode text)]) ∧
      (∃ p, p ≤ body.length ∧ body.length ≤ p + 2 ∧
        d.trace = List.replicate p (cmode text) ++ List.replicate (body.length - p) .ascii) ∧
      (∀ m ∈ d.trace, m = cmode text ∨ m = .ascii) ∧
      cw.length = dataCw sym ∧ (∀ q ∈ d.padAt, q < dataCw sym ∧ cw.getD q 0 = 129) := by
  have pad : ∀ (d : Decoded) (L : Nat), d.padAt = (if L = dataCw sym then none else some L) → L ≤ dataCw sym →
      (L < dataCw sym → cw.getD L 0 = 129) → ∀ q ∈ d.padAt, q < dataCw sym ∧ cw.getD q 0 = 129 := by
    intro d L hpa hle h129 q hq
    rw [hpa] at hq
    split at hq
    · cases hq
    · obtain rfl := Option.some.inj hq
      exact ⟨by omega, h129 (by omega)⟩
  by_cases hne : body = []
  · subst hne
    obtain ⟨d, h1, h2, h3, h4, h5, h6, h7, h8, h9, h10, h11⟩ := spec_c40text_roundtrip_nil text list cw sym h
    exact ⟨d, h1, h2, h3, h4, h5, h6, h7, ⟨0, Nat.le_refl _, Nat.zero_le _, h8⟩, by simp [h8], h9,
      pad d 0 h10 (Nat.zero_le _) h11⟩
  · obtain ⟨d, V, n, p, un, L, h1, h2, h3, h4, h5, h6, h7, h9, h17, sh⟩ :=
      spec_c40text_roundtrip text list body cw sym hne h
    refine ⟨d, h1, h2, h3, h4, h5, h6, by rw [if_neg hne]; exact h7, ⟨p, sh.ple, sh.near, h9⟩, ?_, sh.size,
      pad d L h17 (sh.size ▸ sh.padded.le) (sh.size ▸ sh.padded.first)⟩
    intro m hm
    rw [h9] at hm
    rcases List.mem_append.mp hm with hm | hm
    · exact Or.inl (List.eq_of_mem_replicate hm)
    · exact Or.inr (List.eq_of_mem_replicate hm)

/-- **C40 round trip through the reference decoder** (`text = false`) -/
theorem spec_c40_roundtrip (list : List Sym) (body cw : List Nat) (sym : Sym)
    (h : Enc.run list [] body [(body.length, .c40), (0, .c40)] = .ok (cw, sym)) :
    ∃ d, decode cw = .ok d ∧ d.bytes = body ∧ d.body = body ∧ d.fnc1 = false ∧ d.macro = 0 ∧ d.ecis = [] ∧
      d.latches = (if body = [] then [] else [(0, .c40)]) ∧
      (∃ p, p ≤ body.length ∧ body.length ≤ p + 2 ∧
        d.trace = List.replicate p .c40 ++ List.replicate (body.length - p) .ascii) ∧
      (∀ m ∈ d.trace, m = .c40 ∨ m = .ascii) ∧
      cw.length = dataCw sym ∧ (∀ q ∈ d.padAt, q < dataCw sym ∧ cw.getD q 0 = 129) :=
  spec_c40text_roundtrip_all false list body cw sym h

/-- **Text round trip through the reference decoder** (`text = true`) -/
theorem spec_text_roundtrip (list : List Sym) (body cw : List Nat) (sym : Sym)
    (h : Enc.run list [] body [(body.length, .text), (0, .text)] = .ok (cw, sym)) :
    ∃ d, decode cw = .ok d ∧ d.bytes = body ∧ d.body = body ∧ d.fnc1 = false ∧ d.macro = 0 ∧ d.ecis = [] ∧
      d.latches = (if body = [] then [] else [(0, .text)]) ∧
      (∃ p, p ≤ body.length ∧ body.length ≤ p + 2 ∧
        d.trace = List.replicate p .text ++ List.replicate (body.length - p) .ascii) ∧
      (∀ m ∈ d.trace, m = .text ∨ m = .ascii) ∧
      cw.length = dataCw sym ∧ (∀ q ∈ d.padAt, q < dataCw sym ∧ cw.getD q 0 = 129) :=
  spec_c40text_roundtrip_all true list body cw sym h

/-! ## Non-vacuity: every end form of `c40::handle_end` occurs, and the reference decoder reads it

(a run has a name where a theorem is applied to it further down) -/

/-- exact end: "AIM" fills the 3-codeword symbol -/
example : Enc.run (symbolList (List.range 30)) [] [65, 73, 77] [(3, .c40), (0, .c40)] = .ok ([230, 91, 11], 0) :=
  run30_eq_of_check (by decide +kernel)
/-- UNLATCH and the last character in ASCII (`backup`): "AIMA" -/
example : Enc.run (symbolList (List.range 30)) [] [65, 73, 77, 65] [(4, .c40), (0, .c40)] = .ok ([230, 91, 11, 254, 66], 1) :=
  run30_eq_of_check (by decide +kernel)
/-- two values left and room for one pair: filled with 0, no UNLATCH: "AIMAB" -/
example : Enc.run (symbolList (List.range 30)) [] [65, 73, 77, 65, 66] [(5, .c40), (0, .c40)] =
    .ok ([230, 91, 11, 89, 217], 1) := run30_eq_of_check (by decide +kernel)
/-- padded partial triple and UNLATCH: "AIMABCD" -/
example : Enc.run (symbolList (List.range 30)) [] [65, 73, 77, 65, 66, 67, 68] [(7, .c40), (0, .c40)] =
    .ok ([230, 91, 11, 89, 233, 106, 135, 254], 3) := run30_eq_of_check (by decide +kernel)
/-- two trailing digits behind UNLATCH as one ASCII codeword, then a pad: "AIMABC12" -/
theorem run_AIMABC12 : Enc.run (symbolList (List.range 30)) [] [65, 73, 77, 65, 66, 67, 49, 50] [(8, .c40), (0, .c40)] =
    .ok ([230, 91, 11, 89, 233, 254, 142, 129], 3) := run30_eq_of_check (by decide +kernel)
example : Enc.run (symbolList (List.range 30)) [] [65, 73, 77, 65, 66, 67, 49, 50] [(8, .c40), (0, .c40)] =
    .ok ([230, 91, 11, 89, 233, 254, 142, 129], 3) := run_AIMABC12
/-- a single ASCII codeword filling the symbol, no UNLATCH: "AIMABCDEFG" -/
example : Enc.run (symbolList (List.range 30)) [] [65, 73, 77, 65, 66, 67, 68, 69, 70, 71] [(10, .c40), (0, .c40)] =
    .ok ([230, 91, 11, 89, 233, 109, 36, 72], 3) := run30_eq_of_check (by decide +kernel)
/-- two trailing digits as one ASCII codeword filling the symbol, no UNLATCH: "AIMABCDEF12" -/
theorem run_AIMABCDEF12 : Enc.run (symbolList (List.range 30)) [] [65, 73, 77, 65, 66, 67, 68, 69, 70, 49, 50] [(11, .c40), (0, .c40)] =
    .ok ([230, 91, 11, 89, 233, 109, 36, 142], 3) := run30_eq_of_check (by decide +kernel)
example : Enc.run (symbolList (List.range 30)) [] [65, 73, 77, 65, 66, 67, 68, 69, 70, 49, 50] [(11, .c40), (0, .c40)] =
    .ok ([230, 91, 11, 89, 233, 109, 36, 142], 3) := run_AIMABCDEF12
/-- Text, with Shift 2, Shift 3 and Upper Shift: "Hello!é" -/
theorem run_Hello : Enc.run (symbolList (List.range 30)) [] [72, 101, 108, 108, 111, 33, 233] [(7, .text), (0, .text)] =
    .ok ([239, 13, 211, 160, 69, 6, 66, 190, 242, 254], 4) := run30_eq_of_check (by decide +kernel)
example : Enc.run (symbolList (List.range 30)) [] [72, 101, 108, 108, 111, 33, 233] [(7, .text), (0, .text)] =
    .ok ([239, 13, 211, 160, 69, 6, 66, 190, 242, 254], 4) := run_Hello

/-- the reference decoder on these streams -/
example : (decode [230, 91, 11, 254, 66]).toOption.map (fun d => (d.body, d.padAt, d.latches, d.trace)) =
    some ([65, 73, 77, 65], none, [(0, .c40)], [.c40, .c40, .c40, .ascii]) := by decide +kernel
example : (decode [230, 91, 11, 89, 233, 254, 142, 129]).toOption.map (fun d => (d.body, d.padAt, d.latches)) =
    some ([65, 73, 77, 65, 66, 67, 49, 50], some 7, [(0, .c40)]) := by decide +kernel
example : (decode [230, 91, 11, 89, 233, 109, 36, 72]).toOption.map (fun d => (d.body, d.padAt, d.trace.drop 8)) =
    some ([65, 73, 77, 65, 66, 67, 68, 69, 70, 71], none, [.c40, .ascii]) := by decide +kernel
example : (decode [239, 13, 211, 160, 69, 6, 66, 190, 242, 254]).toOption.map (fun d => (d.body, d.padAt, d.latches)) =
    some ([72, 101, 108, 108, 111, 33, 233], none, [(0, .text)]) := by decide +kernel

/-- … and the theorems applied to such runs. -/
example : ∃ d, decode [230, 91, 11, 89, 233, 254, 142, 129] = .ok d ∧ d.body = [65, 73, 77, 65, 66, 67, 49, 50] ∧
    d.latches = [(0, .c40)] := by
  obtain ⟨d, h1, _, h3, _, _, _, h7, _⟩ :=
    spec_c40_roundtrip (symbolList (List.range 30)) [65, 73, 77, 65, 66, 67, 49, 50] _ _ run_AIMABC12
  exact ⟨d, h1, h3, h7⟩

example : ∃ d, decode [239, 13, 211, 160, 69, 6, 66, 190, 242, 254] = .ok d ∧ d.body = [72, 101, 108, 108, 111, 33, 233] ∧
    d.latches = [(0, .text)] := by
  obtain ⟨d, h1, _, h3, _, _, _, h7, _⟩ :=
    spec_text_roundtrip (symbolList (List.range 30)) [72, 101, 108, 108, 111, 33, 233] _ _ run_Hello
  exact ⟨d, h1, h3, h7⟩

example : ∃ (d : Decoded) (p : Nat), decode [230, 91, 11, 89, 233, 109, 36, 142] = .ok d ∧ 9 ≤ p ∧ p ≤ 11 ∧
    d.trace = List.replicate p .c40 ++ List.replicate (11 - p) .ascii := by
  obtain ⟨d, _, _, p, _, _, h1, _, _, _, _, _, _, h9, _, sh⟩ :=
    spec_c40text_roundtrip false (symbolList (List.range 30)) [65, 73, 77, 65, 66, 67, 68, 69, 70, 49, 50] _ _
      (by decide) run_AIMABCDEF12
  exact ⟨d, p, h1, by have := sh.near; simp only [List.length_cons, List.length_nil] at this; omega, sh.ple, h9⟩

/-- the empty message (padding only) -/
example : Enc.run (symbolList (List.range 30)) [] [] [(([] : List Nat).length, .c40), (0, .c40)] =
    .ok ([129, 175, 70], 0) := run30_eq_of_check (by decide +kernel)

end DM.Props.C02SpecC40
