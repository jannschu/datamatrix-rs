import DM.Lemmas.RSSoundBlock
/-!
# C09 — whenever the error decoder returns success, the word it leaves behind is a valid codeword

`decode_sound`: for every symbol size `s` and every word `cw` of `totalCw s` bytes, if the model of
`errorcode::decode` answers `Ok out`, then `out` is `Valid` (every interleaved block has zero
syndromes; equivalently, by `valid_iff_reencode`, re-encoding its data part reproduces its
error-correction part).

The proof is in `DM/Lemmas`: `RSSound.decodeBlock_sound` for one block (the header of
`RSSoundBlock.lean` gives the argument), lifted to the interleaved word by `RSSound.decode_post_of_block`.
Namespace: `C09`.
-/
namespace DM.Props.C09
open DM.Gen DM.Model DM.Spec DM.Lemmas DM.Lemmas.RSSound

/-- **C09.** Whenever the error decoder returns success, the word it leaves behind is a valid
codeword of the symbol's interleaved Reed–Solomon code. -/
theorem decode_sound (s : Sym) (hs : s < numSizes) (cw out : List Nat)
    (hlen : cw.length = totalCw s) (hbytes : ∀ b ∈ cw, b < 256)
    (h : RS.decode s cw = .ok out) :
    Valid s (out.take (dataCw s)) (out.drop (dataCw s)) :=
  (decode_post_of_block s hs cw out hlen hbytes h).1

/-- in the property's own wording: re-encoding the data part of the decoder's answer reproduces
its error-correction part -/
theorem decode_sound_reencode (s : Sym) (hs : s < numSizes) (cw out : List Nat)
    (hlen : cw.length = totalCw s) (hbytes : ∀ b ∈ cw, b < 256)
    (h : RS.decode s cw = .ok out) :
    encodeError s (out.take (dataCw s)) = .ok (out.drop (dataCw s)) ∧ out.length = totalCw s := by
  obtain ⟨hv, hob, hol⟩ := decode_post_of_block s hs cw out hlen hbytes h
  have htot : totalCw s = dataCw s + (row s).blocks * (row s).eccPer := rfl
  refine ⟨?_, hol⟩
  exact (valid_iff_reencode s hs _ _ (hob.take _) (hob.drop _)
    (by rw [List.length_take]; omega) (by rw [List.length_drop]; omega)).mp hv

end DM.Props.C09
