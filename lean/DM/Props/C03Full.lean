import DM.Props.C03Complete
/-!
# C03 — guaranteed correction capacity

`decode_complete_unconditional`: every interleaved block is repaired (`decodeBlock_complete`), and
the block loop puts the repaired blocks back in place (`decode_of_blocks`).
Namespace: `C03`.
-/
namespace DM.Props.C03
open DM.Gen DM.Model DM.Model.RS DM.Spec DM.Lemmas DM.Props.C09
open DM.Lemmas.BlockComplete

/-- **C03, guaranteed correction capacity.** If the received word differs from a valid codeword
vector in at most ⌊k/2⌋ codewords of each interleaved block (k = error codewords per block), the
decoder model answers Ok and returns exactly the original vector. -/
theorem decode_complete_unconditional
    (s : Sym) (hs : s < numSizes) (d e r : List Nat)
    (hd : Bytes d) (he : Bytes e) (hrb : Bytes r)
    (hl : d.length = dataCw s) (hel : e.length = (row s).blocks * (row s).eccPer)
    (hr : r.length = totalCw s)
    (hv : Valid s d e)
    (herr : ∀ b, b < (row s).blocks →
      hamming (block s d e b) (block s (r.take (dataCw s)) (r.drop (dataCw s)) b) ≤ (row s).eccPer / 2) :
    RS.decode s r = .ok (d ++ e) := by
  have R := rowShape s hs
  have hrt := length_take_data s r hr
  apply decode_of_blocks s hs d e r hl hel hr
  intro b hb
  obtain ⟨hdpos, hce, hlen255⟩ := block_shape R hl hel hb
  have hre := (block_shape R hrt (length_drop_data s r hr) hb).2.1
  exact decodeBlock_complete _ _ _ _ (row s).eccPer
    (strided_bytes hd b _) (strided_bytes he b _) (strided_bytes (hrb.take _) b _)
    (strided_bytes (hrb.drop _) b _)
    (by rw [strided_length, strided_length, hl, hrt]) (by rw [hce, hre])
    (by rw [hce]; exact hlen255) R.k_pos R.k_lt (by rw [hce]; exact Nat.lt_add_of_pos_left hdpos) (hv b hb) (herr b hb)

/-- Non-vacuity: the 10x10 codeword of C06's example with two wrong codewords (k = 5, ⌊k/2⌋ = 2). -/
example : RS.decode 0 [23, 99, 11, 255, 207, 0, 244, 81] = .ok ([23, 40, 11] ++ [255, 207, 37, 244, 81]) := by
  decide +kernel

/-- Non-vacuity of the hypotheses: the same instance through the theorem. -/
example : RS.decode 0 [23, 99, 11, 255, 207, 0, 244, 81] = .ok ([23, 40, 11] ++ [255, 207, 37, 244, 81]) := by
  have hB : (row 0).blocks = 1 := by decide +kernel
  apply decode_complete_unconditional 0 (by decide +kernel) [23, 40, 11] [255, 207, 37, 244, 81]
  · exact (by decide : ∀ x ∈ [23, 40, 11], x < 256)
  · exact (by decide : ∀ x ∈ [255, 207, 37, 244, 81], x < 256)
  · exact (by decide : ∀ x ∈ [23, 99, 11, 255, 207, 0, 244, 81], x < 256)
  · decide +kernel
  · decide +kernel
  · decide +kernel
  · intro b hb
    have : b = 0 := Nat.lt_one_iff.mp (hB ▸ hb)
    subst this
    decide +kernel
  · intro b hb
    have : b = 0 := Nat.lt_one_iff.mp (hB ▸ hb)
    subst this
    decide +kernel

end DM.Props.C03
