import DM.Model.Decode
import DM.Model.Eci
import DM.Spec.Eci
import DM.Spec.Charsets
import DM.Lemmas.DecTotal
/-!
# C15 — ECI designators and character-set tables are exact
-/
namespace DM.Props.C15
open DM.Model DM.Model.Dec DM.Spec DM.Gen DM.Lemmas

/-- `write_eci` emits the ECI codeword followed by the Table 6 designator, for every number
up to 999999 (and panics beyond, as documented). -/
theorem write_eci_eq_table6 (n : Nat) (h : n ≤ 999999) :
    writeEci n = some (241 :: Eci.designator n) := by
  unfold writeEci Eci.designator
  by_cases h1 : n ≤ 126
  · simp [h1]; omega
  · by_cases h2 : n ≤ 16382
    · simp [h1, h2]; omega
    · simp [h1, h2, h]; omega

theorem write_eci_rejects (n : Nat) (h : 999999 < n) : writeEci n = none := by
  unfold writeEci
  have h1 : ¬ n ≤ 126 := by omega
  have h2 : ¬ n ≤ 16382 := by omega
  have h3 : ¬ n ≤ 999999 := by omega
  simp [h1, h2, h3]

/-- **Round trip**: every designator is read back as the same number, whatever follows it. -/
theorem read_write_eci (n : Nat) (h : n ≤ 999999) (rest : List Nat) :
    readEci (Eci.designator n ++ rest) = .ok (n, (Eci.designator n).length) := by
  unfold Eci.designator
  by_cases h1 : n ≤ 126
  · simp only [h1, if_true, List.cons_append, List.nil_append, readEci]
    have : 1 ≤ n + 1 ∧ n + 1 ≤ 127 := by omega
    simp [this]
  · by_cases h2 : n ≤ 16382
    · simp only [h1, h2, if_true, if_false, List.cons_append, List.nil_append, readEci]
      have a1 : ¬ (1 ≤ (n - 127) / 254 + 128 ∧ (n - 127) / 254 + 128 ≤ 127) := by omega
      have a2 : 128 ≤ (n - 127) / 254 + 128 ∧ (n - 127) / 254 + 128 ≤ 191 := by omega
      have a3 : 1 ≤ (n - 127) % 254 + 1 ∧ (n - 127) % 254 + 1 ≤ 254 := by omega
      simp only [a1, a2, a3, if_true, if_false, and_self]
      have := Nat.div_add_mod (n - 127) 254
      have e : ((n - 127) / 254 + 128 - 128) * 254 + ((n - 127) % 254 + 1 - 1) + 127 = n := by omega
      rw [e]; rfl
    · simp only [h1, h2, if_false, List.cons_append, List.nil_append, readEci]
      have b0 : (n - 16383) / 64516 ≤ 15 := by omega
      have a1 : ¬ (1 ≤ (n - 16383) / 64516 + 192 ∧ (n - 16383) / 64516 + 192 ≤ 127) := by omega
      have a2 : ¬ (128 ≤ (n - 16383) / 64516 + 192 ∧ (n - 16383) / 64516 + 192 ≤ 191) := by omega
      have a3 : 192 ≤ (n - 16383) / 64516 + 192 ∧ (n - 16383) / 64516 + 192 ≤ 207 := by omega
      have a4 : 1 ≤ (n - 16383) / 254 % 254 + 1 ∧ (n - 16383) / 254 % 254 + 1 ≤ 254 := by omega
      have a5 : 1 ≤ (n - 16383) % 254 + 1 ∧ (n - 16383) % 254 + 1 ≤ 254 := by omega
      simp only [a1, a2, a3, a4, a5, if_true, if_false, not_true_eq_false, and_self]
      have e1 := Nat.div_add_mod (n - 16383) 254
      have e2 := Nat.div_add_mod ((n - 16383) / 254) 254
      have e3 : (n - 16383) / 254 / 254 = (n - 16383) / 64516 := by
        rw [Nat.div_div_eq_div_mul]
      have e : ((n - 16383) / 64516 + 192 - 192) * 64516 + ((n - 16383) / 254 % 254 + 1 - 1) * 254 +
          ((n - 16383) % 254 + 1 - 1) + 16383 = n := by omega
      rw [e]; rfl

/-- `read_eci` never panics, and it accepts exactly the well-formed designators of Table 6,
with the value of Table 6. -/
theorem read_eci_eq_spec (l : List Nat) :
    (∀ s, readEci l ≠ .error (.panic s)) ∧
    (∀ v k, readEci l = .ok (v, k) ↔ Eci.value l = some (v, k)) := by
  constructor
  · exact (readEci_spec l).1.noPanic
  · intro v k
    unfold readEci Eci.value
    cases l with
    | nil => simp
    | cons c1 t =>
      simp only
      by_cases h1 : 1 ≤ c1 ∧ c1 ≤ 127
      · simp [h1]
      · by_cases h2 : 128 ≤ c1 ∧ c1 ≤ 191
        · simp only [h1, h2, if_false]
          cases t with
          | nil => simp
          | cons c2 t2 =>
            by_cases h3 : 1 ≤ c2 ∧ c2 ≤ 254 <;> simp [h3]
        · by_cases h4 : 192 ≤ c1 ∧ c1 ≤ 207
          · simp only [h1, h2, h4, if_false]
            cases t with
            | nil => simp
            | cons c2 t2 =>
              cases t2 with
              | nil =>
                by_cases h3 : 1 ≤ c2 ∧ c2 ≤ 254 <;> simp [h3]
              | cons c3 t3 =>
                by_cases h3 : 1 ≤ c2 ∧ c2 ≤ 254
                · by_cases h5 : 1 ≤ c3 ∧ c3 ≤ 254
                  · simp [h3, h5]
                  · simp [h3, h5]
                · simp [h3]
                  intro a b; exact absurd ⟨a, b⟩ h3
          · simp [h1, h2, h4]

/-- malformed designators are rejected: first codeword 0 or above 207 -/
theorem read_eci_rejects_first (c1 : Nat) (t : List Nat) (h : c1 = 0 ∨ 207 < c1) :
    ∃ e, readEci (c1 :: t) = .error e := by
  unfold readEci
  have h1 : ¬ (1 ≤ c1 ∧ c1 ≤ 127) := by omega
  have h2 : ¬ (128 ≤ c1 ∧ c1 ≤ 191) := by omega
  have h3 : ¬ (192 ≤ c1 ∧ c1 ≤ 207) := by omega
  simp [h1, h2, h3]

/-! ### character sets: the regenerated per-byte behaviour equals the standard tables -/

def specResult (o : Option Nat) : R Nat :=
  match o with
  | some cp => .ok cp
  | none => .error .charset

/-- a table entry (code point, or -1 for `CharsetError`) against the specification's answer -/
def entryOK (v : Int) (o : Option Nat) : Bool :=
  match o with
  | some cp => v == cp
  | none => v == -1

def tableOK (spec : Nat → Option Nat) : List Int → Nat → Bool
  | [], _ => true
  | v :: t, i => entryOK v (spec i) && tableOK spec t (i + 1)

theorem tableOK_get {spec : Nat → Option Nat} : ∀ {tab : List Int} {i : Nat}, tableOK spec tab i = true →
    ∀ {b : Nat} {v : Int}, tab[b]? = some v → entryOK v (spec (i + b)) = true
  | v :: t, i, h, 0, _, hv => by
    simp only [tableOK, Bool.and_eq_true] at h
    cases hv; exact h.1
  | v :: t, i, h, b + 1, _, hv => by
    simp only [tableOK, Bool.and_eq_true] at h
    have := tableOK_get h.2 (b := b) hv
    rwa [Nat.add_right_comm, Nat.add_assoc] at this

theorem tableChar_exact {tab : List Int} {spec : Nat → Option Nat}
    (h : (tableOK spec tab 0 && tab.length == 256) = true) {b : Nat} (hb : b < 256) :
    tableChar tab b = specResult (spec b) := by
  simp only [Bool.and_eq_true, beq_iff_eq] at h
  replace hb : b < tab.length := h.2 ▸ hb
  have := tableOK_get h.1 (List.getElem?_eq_getElem hb)
  rw [Nat.zero_add] at this
  unfold tableChar entryOK at *
  rw [List.getElem?_eq_getElem hb]
  cases hs : spec b with
  | some cp => rw [hs] at this; simp only [beq_iff_eq] at this; simp [this, specResult]
  | none => rw [hs] at this; simp only [beq_iff_eq] at this; simp [this, specResult]

theorem latin1_exact : ∀ b, b < 256 → tableChar latin1ToUtf8 b = specResult (Charsets.latin1 b) :=
  fun _ hb => tableChar_exact (by decide +kernel) hb

theorem default_charset_exact : ∀ b, b < 256 → tableChar csDefault b = specResult (Charsets.latin1 b) :=
  fun _ hb => tableChar_exact (by decide +kernel) hb

theorem eci3_exact : ∀ b, b < 256 → tableChar csEci3 b = specResult (Charsets.latin1 b) :=
  fun _ hb => tableChar_exact (by decide +kernel) hb

theorem iso8859_9_exact : ∀ b, b < 256 → tableChar csEci11 b = specResult (Charsets.latin5 b) :=
  fun _ hb => tableChar_exact (by decide +kernel) hb

theorem iso8859_11_exact : ∀ b, b < 256 → tableChar csEci13 b = specResult (Charsets.thai b) :=
  fun _ hb => tableChar_exact (by decide +kernel) hb

/-- single bytes under ECI 26 / 27: exactly the 7-bit values pass (a lone byte ≥ 128 is not
well-formed UTF-8) -/
theorem utf8_ascii_single_byte_exact :
    ∀ b, b < 256 → tableChar csEci26 b = specResult (Charsets.ascii7 b) ∧
                   tableChar csEci27 b = specResult (Charsets.ascii7 b) :=
  fun _ hb => ⟨tableChar_exact (by decide +kernel) hb, tableChar_exact (by decide +kernel) hb⟩

/-- ECI 27: exactly the 7-bit sequences are passed through unchanged -/
theorem ascii_passthrough (bytes : List Nat) :
    convertChunk bytes 27 = if bytes.all (· < 128) then .ok bytes else .error .charset := by
  simp [convertChunk]

/-- ECI 26: exactly the well-formed UTF-8 sequences are passed through (as their code points) -/
theorem utf8_passthrough (bytes : List Nat) :
    convertChunk bytes 26 = match utf8Decode bytes with
      | some cps => .ok cps
      | none => .error .charset := by
  simp [convertChunk]; rfl

example : readEci (Eci.designator 999999 ++ [1, 2]) = .ok (999999, 3) := read_write_eci 999999 (by omega) [1, 2]

end DM.Props.C15
