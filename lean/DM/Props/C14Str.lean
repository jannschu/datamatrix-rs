import Batteries.Lean.Except
import DM.Lemmas.MainRT
import DM.Props.C15
import DM.Props.C14
/-!
# C14 — `encode_str` → `decode_str` round trip (data level)

`encode_str` encodes a string as Latin-1 without ECI if `utf8_to_latin1` accepts it, and otherwise
as its UTF-8 bytes behind the ECI designator for 26.  The theorems below push both branches through
the plan-driven encoder model and the string decoder model: `latin1_string_roundtrip`, `utf8_string_roundtrip`
(`String` is Lean's UTF-8 string type; `from_utf8 (s.as_bytes()) = s` is `String.fromUTF8?` on `toUTF8`), both
together in `encode_str_roundtrip`; `eci_string_decode` is the statement behind any ECI designator.

Each is the reading for `C40Gen.PlanOK` of a statement `…_E` for the plans of `C40Gen.PlanOKE` (EDIFACT allowed as the final
stretch), which `Props/C14Planner.lean` uses.

Scope: plans accepted by the mixed-plan round trip of C01 (no EDIFACT entry, no latch to a
non-ASCII mode within the last four characters), messages that are not a Macro 05/06 envelope.
Namespace: `C14`.
-/
namespace DM.Props.C14
open DM.Model DM.Model.Dec DM.Model.Enc DM.Gen DM.Spec DM.Lemmas DM.Lemmas.EciFrame DM.Lemmas.C40Gen
  DM.Lemmas.MainRT DM.Lemmas.DecRun

theorem latin1Char_lt (b cp : Nat) (h : latin1Char b = some cp) : b < 256 := by
  unfold latin1Char at h
  cases hq : latin1ToUtf8[b]? with
  | none => rw [hq] at h; simp at h
  | some v =>
    have := (List.getElem?_eq_some_iff.mp hq).1
    rw [latin1_table, List.length_map, List.length_range] at this
    exact this

theorem tableChar_latin1 (b cp : Nat) (h : latin1Char b = some cp) : tableChar latin1ToUtf8 b = .ok cp := by
  have hb := latin1Char_lt b cp h
  rw [DM.Props.C15.latin1_exact b hb, ← latin1_agrees_iso8859_1 b hb, h]
  rfl

theorem mapChars_latin1 : ∀ (bytes cps : List Nat), latin1ToUtf8Str bytes = some cps →
    mapChars latin1ToUtf8 bytes = .ok cps
  | [], cps, h => by cases h; rfl
  | b :: bs, cps, h => by
    obtain ⟨c, cs, hc, hr, rfl⟩ := mapOpt_cons_some h
    simp only [mapChars, tableChar_latin1 b c hc, mapChars_latin1 bs cs hr]

theorem latin1_bytes : ∀ (cps bytes : List Nat), utf8ToLatin1Str cps = some bytes → ∀ b ∈ bytes, b < 256 :=
  mapOpt_forall fun c b hb => latin1Char_lt b c (latin1Byte_sound c b hb)

theorem convert_nil (raw : List Nat) : convert raw [] = convertChunk raw 0 := by
  simp only [convert, List.append_nil, List.singleton_append, convertSpans]
  rw [if_neg (by omega)]
  simp only [Nat.sub_zero, List.drop_zero, List.take_length]
  cases convertChunk raw 0 <;> simp

theorem convert_one (raw : List Nat) (n : Nat) : convert raw [(0, n)] = convertChunk raw n := by
  simp only [convert, List.cons_append, List.nil_append, convertSpans]
  rw [if_neg (by omega), if_neg (by omega)]
  simp only [Nat.sub_zero, List.drop_zero, List.take_zero, List.take_length]
  rw [show convertChunk [] 0 = .ok [] by simp [convertChunk, mapChars]]
  simp only [List.nil_append]
  cases convertChunk raw n <;> simp

/-- the string decoder behind a prefix without header under which the whole output is one chunk of ECI `k`: nothing
written (`k = 0`), or the designator of `k` -/
theorem string_decode_E {K : List Nat} {k : Nat} {sp : Bool → List (Nat × Nat)} (P : Header K [] false false sp)
    (hk : ∀ raw, convert raw (sp false) = convertChunk raw k) (list : List Sym) (body cw : List Nat)
    (plan : List (Nat × EMode)) (sym : Sym) (hb : ByteList body) (hplan : PlanOKE body plan)
    (h : run list K body plan = .ok (cw, sym)) : decodeStr cw = convertChunk body k := by
  obtain ⟨e, hp⟩ := parts_roundtrip_E P list body cw plan sym hb hplan h false
  unfold decodeStr
  rw [hp]
  exact hk body

theorem plain_string_decode_E (list : List Sym) (body cw : List Nat) (plan : List (Nat × EMode)) (sym : Sym)
    (hb : ByteList body) (hplan : PlanOKE body plan) (h : run list [] body plan = .ok (cw, sym)) :
    decodeStr cw = mapChars latin1ToUtf8 body :=
  (string_decode_E (k := 0) .none convert_nil list body cw plan sym hb hplan h).trans (by simp [convertChunk])

/-- **Latin-1 branch of `encode_str`.** -/
theorem latin1_string_roundtrip_E (cps bytes : List Nat) (hl : utf8ToLatin1Str cps = some bytes)
    (list : List Sym) (cw : List Nat) (plan : List (Nat × EMode)) (sym : Sym) (hplan : PlanOKE bytes plan)
    (h : run list [] bytes plan = .ok (cw, sym)) :
    decodeStr cw = .ok cps := by
  rw [plain_string_decode_E list bytes cw plan sym (latin1_bytes cps bytes hl) hplan h]
  exact mapChars_latin1 bytes cps (latin1_inverse_l cps bytes hl)

theorem latin1_string_roundtrip (cps bytes : List Nat) (hl : utf8ToLatin1Str cps = some bytes)
    (list : List Sym) (cw : List Nat) (plan : List (Nat × EMode)) (sym : Sym)
    (hplan : ∀ e ∈ plan, (e.2 ≠ .ascii → e.1 = 0 ∨ e.1 > 4) ∧ e.2 ≠ .edifact)
    (h : run list [] bytes plan = .ok (cw, sym)) :
    decodeStr cw = .ok cps :=
  latin1_string_roundtrip_E cps bytes hl list cw plan sym (planOKE_of_planOK bytes hplan) h

theorem eci_string_decode_E (n : Nat) (hn : n ≤ 999999) (list : List Sym) (body cw : List Nat)
    (plan : List (Nat × EMode)) (sym : Sym) (hb : ByteList body) (hplan : PlanOKE body plan)
    (h : run list (241 :: Eci.designator n) body plan = .ok (cw, sym)) :
    decodeStr cw = convertChunk body n :=
  string_decode_E (.eci _ n (DM.Props.C15.read_write_eci n hn)) (fun r => convert_one r n) list body cw plan sym hb hplan h

/-- **Behind an ECI designator** the string decoder converts exactly the original bytes with the
conversion of that ECI. -/
theorem eci_string_decode (n : Nat) (hn : n ≤ 999999) (list : List Sym) (body cw : List Nat)
    (plan : List (Nat × EMode)) (sym : Sym) (hb : ∀ b ∈ body, b < 256)
    (hplan : ∀ e ∈ plan, (e.2 ≠ .ascii → e.1 = 0 ∨ e.1 > 4) ∧ e.2 ≠ .edifact)
    (h : run list (241 :: Eci.designator n) body plan = .ok (cw, sym)) :
    decodeStr cw = convertChunk body n :=
  eci_string_decode_E n hn list body cw plan sym hb (planOKE_of_planOK body hplan) h

def utf8Bytes (s : String) : List Nat := s.toUTF8.data.toList.map UInt8.toNat

def codePoints (s : String) : List Nat := s.toList.map Char.toNat

/-- `from_utf8 (s.as_bytes()) = s` -/
theorem utf8Decode_utf8Bytes (s : String) : utf8Decode (utf8Bytes s) = some (codePoints s) := by
  unfold utf8Decode utf8Bytes codePoints
  have hb : (ByteArray.mk ((s.toUTF8.data.toList.map UInt8.toNat).map fun b => b.toUInt8).toArray) = s.toUTF8 := by
    rw [List.map_map]
    have : (fun b : Nat => b.toUInt8) ∘ UInt8.toNat = id := by
      funext b; simp
    rw [this, List.map_id, Array.toArray_toList]
  rw [hb]
  have hv : s.toUTF8.IsValidUTF8 := s.isValidUTF8
  simp only [String.fromUTF8?, hv, dite_true]
  rfl

theorem utf8Bytes_lt (s : String) : ∀ b ∈ utf8Bytes s, b < 256 := by
  intro b hb
  simp only [utf8Bytes, List.mem_map] at hb
  obtain ⟨x, _, rfl⟩ := hb
  exact x.toNat_lt

/-- **UTF-8 branch of `encode_str`.** -/
theorem utf8_string_roundtrip_E (s : String) (list : List Sym) (cw : List Nat) (plan : List (Nat × EMode)) (sym : Sym)
    (hplan : PlanOKE (utf8Bytes s) plan) (h : run list [241, 27] (utf8Bytes s) plan = .ok (cw, sym)) :
    decodeStr cw = .ok (codePoints s) := by
  have hd : (241 :: Eci.designator 26 : List Nat) = [241, 27] := by decide
  rw [eci_string_decode_E 26 (by omega) list (utf8Bytes s) cw plan sym (utf8Bytes_lt s) hplan (by rw [hd]; exact h)]
  simp [convertChunk, utf8Decode_utf8Bytes]

theorem utf8_string_roundtrip (s : String) (list : List Sym) (cw : List Nat) (plan : List (Nat × EMode)) (sym : Sym)
    (hplan : ∀ e ∈ plan, (e.2 ≠ .ascii → e.1 = 0 ∨ e.1 > 4) ∧ e.2 ≠ .edifact)
    (h : run list [241, 27] (utf8Bytes s) plan = .ok (cw, sym)) :
    decodeStr cw = .ok (codePoints s) :=
  utf8_string_roundtrip_E s list cw plan sym (planOKE_of_planOK _ hplan) h

/-- what `encode_str` hands to the encoder: (ECI codewords, message bytes) -/
def strInput (s : String) : List Nat × List Nat :=
  match utf8ToLatin1Str (codePoints s) with
  | some bytes => ([], bytes)
  | none => ([241, 27], utf8Bytes s)

/-- `encode_str` writes no ECI codeword exactly for the strings `utf8_to_latin1` accepts, and these
are encoded byte for byte as Latin-1 -/
theorem strInput_latin1 (s : String) (bytes : List Nat) (h : utf8ToLatin1Str (codePoints s) = some bytes) :
    strInput s = ([], bytes) ∧ latin1ToUtf8Str bytes = some (codePoints s) := by
  unfold strInput
  rw [h]
  exact ⟨rfl, latin1_inverse_l _ _ h⟩

theorem strInput_utf8 (s : String) (h : utf8ToLatin1Str (codePoints s) = none) :
    strInput s = ([241, 27], utf8Bytes s) := by
  unfold strInput
  rw [h]

theorem strInput_bytes (s : String) : ByteList (strInput s).2 := by
  cases hl : utf8ToLatin1Str (codePoints s) with
  | some bytes => rw [(strInput_latin1 s bytes hl).1]; exact latin1_bytes _ bytes hl
  | none => rw [strInput_utf8 s hl]; exact utf8Bytes_lt s

theorem encode_str_roundtrip_E (s : String) (list : List Sym) (cw : List Nat) (plan : List (Nat × EMode)) (sym : Sym)
    (hplan : PlanOKE (strInput s).2 plan) (h : run list (strInput s).1 (strInput s).2 plan = .ok (cw, sym)) :
    decodeStr cw = .ok (codePoints s) := by
  cases hl : utf8ToLatin1Str (codePoints s) with
  | some bytes =>
    rw [(strInput_latin1 s bytes hl).1] at h hplan
    exact latin1_string_roundtrip_E (codePoints s) bytes hl list cw plan sym hplan h
  | none =>
    rw [strInput_utf8 s hl] at h hplan
    exact utf8_string_roundtrip_E s list cw plan sym hplan h

/-- **`encode_str` → `decode_str`.** Whatever branch `encode_str` selects for the string `s`, and
whatever symbol list and (admissible) plan are used, if encoding succeeds the string decoder
returns exactly the code points of `s`. -/
theorem encode_str_roundtrip (s : String) (list : List Sym) (cw : List Nat) (plan : List (Nat × EMode)) (sym : Sym)
    (hplan : ∀ e ∈ plan, (e.2 ≠ .ascii → e.1 = 0 ∨ e.1 > 4) ∧ e.2 ≠ .edifact)
    (h : run list (strInput s).1 (strInput s).2 plan = .ok (cw, sym)) :
    decodeStr cw = .ok (codePoints s) :=
  encode_str_roundtrip_E s list cw plan sym (planOKE_of_planOK _ hplan) h

end DM.Props.C14

namespace DM.Props.C14.Examples
open DM.Gen DM.Model
/-- Non-vacuity: "héllo€" is not Latin-1; its UTF-8 bytes behind the designator of ECI 26, planned as two
ASCII characters (one with Upper Shift) and a Base 256 run, are encoded into 12x26; "héllo" is Latin-1. -/
example : DM.Model.Enc.run (symbolList (List.range 30)) [241, 27] [104, 195, 169, 108, 108, 111, 226, 130, 172]
    [(9, .ascii), (7, .base256), (0, .base256)] =
    .ok ([241, 27, 105, 235, 68, 231, 31, 86, 175, 68, 221, 230, 27, 219, 129, 237], 6) := by decide +kernel
example : DM.Model.Enc.run (symbolList (List.range 30)) [] [104, 233, 108, 108, 111] [(5, .ascii), (0, .ascii)] =
    .ok ([105, 235, 106, 109, 109, 112, 129, 56], 3) := by decide +kernel
example : utf8ToLatin1Str [104, 233, 108, 108, 111] = some [104, 233, 108, 108, 111] := by decide +kernel

end DM.Props.C14.Examples
