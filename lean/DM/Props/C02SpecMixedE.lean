import DM.Props.C02SpecMixed
import DM.Lemmas.PlannedRun
/-!
# C02 — conformant output against the reference decoder: every plan within `PlanOKE` (all six modes)

`spec_mixed_roundtrip_E`: `C02SpecMixed.spec_mixed_in` for all six modes. Side condition on the plan:
`C40Gen.PlanOKE body plan` — the side condition of
`Props/C01.mixed_roundtrip_E`, which speaks of the model of the crate's decoder where this theorem speaks of the
reference decoder. `spec_mixed_roundtrip_Eb` states it with the executable check `planOKEb`;
`planned_conformant_E` composes it with the planner model.
-/
namespace DM.Props.C02SpecMixedE
open DM.Model DM.Model.Plan DM.Model.PlanSide DM.Lemmas DM.Lemmas.AsciiRT DM.Lemmas.SpecStep DM.Lemmas.SpecMain
open DM.Lemmas.MainRT DM.Lemmas.PlanProv
open DM.Lemmas.EncRT DM.Lemmas.C40Gen DM.Lemmas.SpecMainEdi DM.Lemmas.SpecMainAll
open DM.Props.C02Spec (run30_eq_of_check)
open DM.Props.C02SpecMixed
open DM.Spec.Stream (decode Decoded Mode macroHead macroTrail)

/-- **Mixed round trip through the reference decoder for every plan within `PlanOKE`** (ASCII, C40,
Text, X12, Base 256 in any order, EDIFACT as the final stretch over EDIFACT characters; no latch to a
non-ASCII mode planned for the last four characters), every message of bytes, every symbol list and
each of the headers none / FNC1 / Macro 05 / Macro 06: whatever the encoder model returns, the
reference decoder accepts and returns the message (header and trailer re-created for Macro); every
latch stands behind the header and in front of `L`, there is no ECI; the stream fills the symbol, and the
decoder meets the first pad codeword exactly at `L`, or `L` is the end of the symbol
(`L` is bound existentially, see `spec_frameB`). -/
theorem spec_mixed_roundtrip_E (list : List Sym) (pre body cw : List Nat) (plan : List (Nat × Enc.EMode)) (sym : Sym)
    (hpre : HdrOK pre) (hb : ∀ b ∈ body, b < 256) (hok : PlanOKE body plan)
    (h : Enc.run list pre body plan = .ok (cw, sym)) :
    ∃ d L, decode cw = .ok d ∧ d.body = body ∧
      d.bytes = (if macOf pre = 0 then body else macroHead (macOf pre) ++ body ++ macroTrail) ∧
      d.fnc1 = (pre == [232]) ∧ d.macro = macOf pre ∧ d.ecis = [] ∧ d.trace.length = body.length ∧
      (∀ l ∈ d.latches, l.2 ≠ .ascii ∧ pre.length ≤ l.1 ∧ l.1 < L) ∧
      cw.length = dataCw sym ∧ cw.take pre.length = pre ∧ pre.length ≤ L ∧ L ≤ cw.length ∧
      (L < cw.length → cw.getD L 0 = 129) ∧ d.padAt = (if L = cw.length then none else some L) := by
  obtain ⟨d, L, a1, a2, a3, a4, a5, a6, a7, _, a9, a10⟩ :=
    spec_mixed_in (fun _ => True) (fun _ => True) trivial trivial (fun _ => trivial) (fun _ => trivial)
      (fun _ => trivial) (fun _ => trivial) (fun _ => trivial) list pre body cw plan sym hpre hb (fun _ _ => trivial) (Or.inl hok) h
  exact ⟨d, L, a1, a2, a3, a4, a5, a6, a7, fun l hl => (a9 l hl).2, a10⟩

/-- `spec_mixed_roundtrip_E` with the executable side condition `C40Gen.planOKEb` -/
theorem spec_mixed_roundtrip_Eb (list : List Sym) (pre body cw : List Nat) (plan : List (Nat × Enc.EMode)) (sym : Sym)
    (hpre : HdrOK pre) (hb : ∀ b ∈ body, b < 256) (hok : planOKEb body plan = true)
    (h : Enc.run list pre body plan = .ok (cw, sym)) :
    ∃ d L, decode cw = .ok d ∧ d.body = body ∧
      d.bytes = (if macOf pre = 0 then body else macroHead (macOf pre) ++ body ++ macroTrail) ∧
      d.fnc1 = (pre == [232]) ∧ d.macro = macOf pre ∧ d.ecis = [] ∧ d.trace.length = body.length ∧
      (∀ l ∈ d.latches, l.2 ≠ .ascii ∧ pre.length ≤ l.1 ∧ l.1 < L) ∧
      cw.length = dataCw sym ∧ cw.take pre.length = pre ∧ pre.length ≤ L ∧ L ≤ cw.length ∧
      (L < cw.length → cw.getD L 0 = 129) ∧ d.padAt = (if L = cw.length then none else some L) :=
  spec_mixed_roundtrip_E list pre body cw plan sym hpre hb (planOKE_of_check body plan hok) h

/-- **Planner, encoder and reference decoder composed, EDIFACT plans included**: as
`C02Planner.planned_conformant`, with the executable side condition `planOKEb body plan = true`
(`PlanOKE`: EDIFACT as the final stretch over EDIFACT characters, no latch to a non-ASCII mode planned
for the last four characters) in place of `PlanOK`, and `d.trace.length = body.length` in place of its last conjunct
(no byte carried by EDIFACT). -/
theorem planned_conformant_E (body pre : List Nat) (list : List Sym) (modes : Nat) (perms : List (List Nat)) (o : Outcome)
    (plan : List (Nat × Enc.EMode)) (ps : Sym) (hpre : HdrOK pre) (hb : ByteList body)
    (hopt : Plan.optimize body pre.length list modes perms = .ok o) (hp : o.plan = some plan)
    (hok : planOK body plan = true)
    (hplan : planOKEb body plan = true)
    (hfit : firstBigEnough list (pre.length + o.cost12 / 12) = some ps) :
    ∃ cw sym d, Enc.run list pre body plan = .ok (cw, sym) ∧ dataCw sym ≤ dataCw ps ∧ cw.length = dataCw sym ∧
      decode cw = .ok d ∧ d.body = body ∧
      d.bytes = (if macOf pre = 0 then body else macroHead (macOf pre) ++ body ++ macroTrail) ∧
      d.fnc1 = (pre == [232]) ∧ d.macro = macOf pre ∧ d.ecis = [] ∧ d.trace.length = body.length := by
  obtain ⟨cw, sym, hrun, hsz⟩ := DM.Lemmas.PlannedRun.planned_run_nogate body pre list modes perms o plan ps hb hopt hp hok hfit
  obtain ⟨d, L, a1, a2, a3, a4, a5, a6, a7, _, a10, _⟩ := spec_mixed_roundtrip_Eb list pre body cw plan sym hpre hb hplan hrun
  exact ⟨cw, sym, d, hrun, hsz, a10, a1, a2, a3, a4, a5, a6, a7⟩

/-! ### Non-vacuity -/

/-- X12 ("ABC\r*>"), two bytes in Base 256, a digit pair in ASCII, then "ABCDEFG" in EDIFACT to the
end (one complete group, the last group "EFG" with the UNLATCH value in its fourth slot). -/
example : planOKEb [65, 66, 67, 13, 42, 62, 200, 201, 49, 50, 65, 66, 67, 68, 69, 70, 71]
    [(17, .x12), (11, .base256), (9, .ascii), (7, .edifact), (0, .edifact)] = true := by decide
theorem run_four_modes :
    Enc.run (symbolList (List.range 30)) [] [65, 66, 67, 13, 42, 62, 200, 201, 49, 50, 65, 66, 67, 68, 69, 70, 71]
      [(17, .x12), (11, .base256), (9, .ascii), (7, .edifact), (0, .edifact)] =
    .ok ([238, 89, 233, 0, 43, 254, 231, 175, 11, 161, 142, 240, 4, 32, 196, 20, 97, 223], 7) :=
  run30_eq_of_check (by decide +kernel)
example : Enc.run (symbolList (List.range 30)) [] [65, 66, 67, 13, 42, 62, 200, 201, 49, 50, 65, 66, 67, 68, 69, 70, 71]
    [(17, .x12), (11, .base256), (9, .ascii), (7, .edifact), (0, .edifact)] =
    .ok ([238, 89, 233, 0, 43, 254, 231, 175, 11, 161, 142, 240, 4, 32, 196, 20, 97, 223], 7) :=
  run_four_modes
example : (decode [238, 89, 233, 0, 43, 254, 231, 175, 11, 161, 142, 240, 4, 32, 196, 20, 97, 223]).toOption.map
      (fun d => (d.body, d.padAt, d.latches)) =
    some ([65, 66, 67, 13, 42, 62, 200, 201, 49, 50, 65, 66, 67, 68, 69, 70, 71], none,
      [(0, .x12), (6, .base256), (11, .edifact)]) := by decide +kernel

/-- … and the theorem applied to that run. -/
example : ∃ d, decode [238, 89, 233, 0, 43, 254, 231, 175, 11, 161, 142, 240, 4, 32, 196, 20, 97, 223] = .ok d ∧
    d.body = [65, 66, 67, 13, 42, 62, 200, 201, 49, 50, 65, 66, 67, 68, 69, 70, 71] ∧
    d.bytes = [65, 66, 67, 13, 42, 62, 200, 201, 49, 50, 65, 66, 67, 68, 69, 70, 71] ∧ d.ecis = [] := by
  obtain ⟨d, L, h1, h2, h3, _, _, h6, _⟩ :=
    spec_mixed_roundtrip_Eb (symbolList (List.range 30)) [] [65, 66, 67, 13, 42, 62, 200, 201, 49, 50, 65, 66, 67, 68, 69, 70, 71] _
      [(17, .x12), (11, .base256), (9, .ascii), (7, .edifact), (0, .edifact)] _ (Or.inl rfl) (by decide) (by decide)
      run_four_modes
  exact ⟨d, h1, h2, by simpa [macOf] using h3, h6⟩

/-- Behind FNC1: C40 ("ABCDEF"), X12 ("\r*>"), then "ABCDEFG" in EDIFACT to the end. -/
example : ∃ d, decode [232, 230, 89, 233, 109, 36, 254, 238, 0, 43, 254, 240, 4, 32, 196, 20, 97, 223] = .ok d ∧
    d.body = [65, 66, 67, 68, 69, 70, 13, 42, 62, 65, 66, 67, 68, 69, 70, 71] ∧ d.fnc1 = true ∧ d.ecis = [] := by
  obtain ⟨d, L, h1, h2, _, h4, _, h6, _⟩ :=
    spec_mixed_roundtrip_Eb (symbolList (List.range 30)) [232] [65, 66, 67, 68, 69, 70, 13, 42, 62, 65, 66, 67, 68, 69, 70, 71] _
      [(16, .c40), (10, .x12), (7, .edifact), (0, .edifact)] _ (Or.inr (Or.inl rfl)) (by decide) (by decide)
      (run30_eq_of_check (cw := [232, 230, 89, 233, 109, 36, 254, 238, 0, 43, 254, 240, 4, 32, 196, 20, 97, 223]) (sym := 7)
        (by decide +kernel))
  exact ⟨d, h1, h2, h4, h6⟩

/-- Text followed by EDIFACT with the ASCII end game (the run of `Props/C01.lean`): "abcdefg" in Text,
"ABCDEFGH" in EDIFACT, the last character "I" goes to ASCII without UNLATCH. -/
example : ∃ d, decode [239, 89, 233, 109, 36, 125, 71, 254, 240, 4, 32, 196, 20, 97, 200, 74] = .ok d ∧
    d.body = [97, 98, 99, 100, 101, 102, 103, 65, 66, 67, 68, 69, 70, 71, 72, 73] ∧ d.ecis = [] := by
  obtain ⟨d, L, h1, h2, _, _, _, h6, _⟩ :=
    spec_mixed_roundtrip_Eb (symbolList (List.range 30)) [] [97, 98, 99, 100, 101, 102, 103, 65, 66, 67, 68, 69, 70, 71, 72, 73] _
      [(16, .text), (9, .edifact), (0, .edifact)] _ (Or.inl rfl) (by decide) (by decide)
      (run30_eq_of_check (cw := [239, 89, 233, 109, 36, 125, 71, 254, 240, 4, 32, 196, 20, 97, 200, 74]) (sym := 6)
        (by decide +kernel))
  exact ⟨d, h1, h2, h6⟩

end DM.Props.C02SpecMixedE
