import DM.Props.C02SpecMixed
/-!
# C02 — conformant output against the reference decoder: plans over ASCII, Base 256 and X12

`spec_mixed_roundtrip_abx`: `C02SpecMixed.spec_mixed_in` for these three modes. Side condition on the plan:
`C40Gen.PlanOK` restricted to the three modes (needed: a stale latch, see the last example).
-/
namespace DM.Props.C02SpecMixedX12
open DM.Model DM.Lemmas DM.Lemmas.AsciiRT DM.Lemmas.SpecStep DM.Lemmas.SpecMain DM.Lemmas.MainRT DM.Lemmas.PlanProv
open DM.Lemmas.EncRT DM.Lemmas.C40Gen DM.Lemmas.SpecMainX12
open DM.Props.C02Spec (run30_eq_of_check)
open DM.Props.C02SpecMixed (HdrOK spec_mixed_in)
open DM.Spec.Stream (decode Decoded Mode macroHead macroTrail)

/-- **Mixed ASCII / Base 256 / X12 round trip through the reference decoder.** For every plan whose
entries name only ASCII, Base 256 and X12 and plan no latch (to Base 256 or X12) for the last four
characters, every message of bytes, every symbol list and each of the headers none / FNC1 /
Macro 05 / Macro 06: whatever the encoder returns, the reference decoder accepts and returns the
message; every byte is carried by ASCII, Base 256 or X12 encodation, every latch is a Base 256 or
X12 latch standing behind the header and in front of `L`, there is no ECI; the stream fills the symbol,
and the decoder meets the first pad codeword exactly at `L`, or `L` is the end of the symbol
(`L` is bound existentially, see `spec_frameB`). -/
theorem spec_mixed_roundtrip_abx (list : List Sym) (pre body cw : List Nat) (plan : List (Nat × Enc.EMode)) (sym : Sym)
    (hpre : HdrOK pre) (hb : ∀ b ∈ body, b < 256)
    (hplan : ∀ e ∈ plan, (e.2 = .ascii ∨ e.2 = .base256 ∨ e.2 = .x12) ∧ (e.2 ≠ .ascii → e.1 = 0 ∨ e.1 > 4))
    (h : Enc.run list pre body plan = .ok (cw, sym)) :
    ∃ d L, decode cw = .ok d ∧ d.body = body ∧
      d.bytes = (if macOf pre = 0 then body else macroHead (macOf pre) ++ body ++ macroTrail) ∧
      d.fnc1 = (pre == [232]) ∧ d.macro = macOf pre ∧ d.ecis = [] ∧ d.trace.length = body.length ∧
      (∀ m ∈ d.trace, m = .ascii ∨ m = .base256 ∨ m = .x12) ∧
      (∀ l ∈ d.latches, (l.2 = .base256 ∨ l.2 = .x12) ∧ pre.length ≤ l.1 ∧ l.1 < L) ∧
      cw.length = dataCw sym ∧ cw.take pre.length = pre ∧ pre.length ≤ L ∧ L ≤ cw.length ∧
      (L < cw.length → cw.getD L 0 = 129) ∧ d.padAt = (if L = cw.length then none else some L) := by
  obtain ⟨d, L, a1, a2, a3, a4, a5, a6, a7, a8, a9, a10⟩ :=
    spec_mixed_in (fun m => m = .ascii ∨ m = .base256 ∨ m = .x12) (fun m => m = .ascii ∨ m = .base256 ∨ m = .x12)
      (Or.inl rfl) (Or.inl rfl)
      (fun _ => Or.inr (Or.inl rfl)) (by simp) (by simp) (fun _ => Or.inr (Or.inr rfl)) (by simp)
      list pre body cw plan sym hpre hb (fun e he => (hplan e he).1)
      (Or.inl (planOKE_of_planOK body fun e he => ⟨(hplan e he).2, by rcases (hplan e he).1 with h | h | h <;> simp [h]⟩)) h
  exact ⟨d, L, a1, a2, a3, a4, a5, a6, a7, a8, fun l hl => ⟨(a9 l hl).1.resolve_left (a9 l hl).2.1, (a9 l hl).2.2⟩, a10⟩

/-- "A" in ASCII, two bytes in Base 256, "ABCDEF" in X12 (two triples, UNLATCH), "ab" in ASCII, three
pads. -/
example : Enc.run (symbolList (List.range 30)) [] [65, 200, 201, 65, 66, 67, 68, 69, 70, 97, 98]
    [(11, .ascii), (10, .base256), (8, .x12), (2, .ascii), (0, .ascii)] =
    .ok ([66, 231, 195, 31, 181, 238, 89, 233, 109, 36, 254, 98, 99, 129, 87, 237], 6) := run30_eq_of_check (by decide +kernel)
example : (decode [66, 231, 195, 31, 181, 238, 89, 233, 109, 36, 254, 98, 99, 129, 87, 237]).toOption.map
    (fun d => (d.body, d.padAt, d.latches, d.trace)) =
    some ([65, 200, 201, 65, 66, 67, 68, 69, 70, 97, 98], some 13, [(1, .base256), (5, .x12)],
      [.ascii, .base256, .base256, .x12, .x12, .x12, .x12, .x12, .x12, .ascii, .ascii]) := by decide +kernel

/-- … and the theorem applied to that run. -/
example : ∃ d, decode [66, 231, 195, 31, 181, 238, 89, 233, 109, 36, 254, 98, 99, 129, 87, 237] = .ok d ∧
    d.body = [65, 200, 201, 65, 66, 67, 68, 69, 70, 97, 98] ∧ d.bytes = [65, 200, 201, 65, 66, 67, 68, 69, 70, 97, 98] ∧
    d.ecis = [] ∧ ∀ l ∈ d.latches, l.2 = .base256 ∨ l.2 = .x12 := by
  obtain ⟨d, L, h1, h2, h3, _, _, h6, _, _, h9, _⟩ :=
    spec_mixed_roundtrip_abx (symbolList (List.range 30)) [] [65, 200, 201, 65, 66, 67, 68, 69, 70, 97, 98] _
      [(11, .ascii), (10, .base256), (8, .x12), (2, .ascii), (0, .ascii)] _ (Or.inl rfl) (by decide) (by decide)
      (run30_eq_of_check (cw := [66, 231, 195, 31, 181, 238, 89, 233, 109, 36, 254, 98, 99, 129, 87, 237]) (sym := 6)
        (by decide +kernel))
  exact ⟨d, h1, h2, by simpa [macOf] using h3, h6, fun l hl => (h9 l hl).1⟩

/-- A planned switch behind a whole triple: "1" in ASCII, "ABCDEF" in X12, UNLATCH, five bytes in
Base 256 (explicit length), one pad. -/
example : Enc.run (symbolList (List.range 30)) [] [49, 65, 66, 67, 68, 69, 70, 200, 201, 202, 203, 204]
    [(12, .ascii), (11, .x12), (5, .base256), (0, .base256)] =
    .ok ([50, 238, 89, 233, 109, 36, 254, 231, 72, 160, 55, 206, 100, 251, 129, 237], 6) := run30_eq_of_check (by decide +kernel)
example : (decode [50, 238, 89, 233, 109, 36, 254, 231, 72, 160, 55, 206, 100, 251, 129, 237]).toOption.map
    (fun d => (d.body, d.padAt, d.latches)) =
    some ([49, 65, 66, 67, 68, 69, 70, 200, 201, 202, 203, 204], some 14, [(1, .x12), (7, .base256)]) := by decide +kernel

/-- The ending without UNLATCH: two bytes in Base 256, "ABCDEF" in X12, then the single ASCII
codeword for "1" fills the symbol (`room = some 1` in the invariant). -/
example : Enc.run (symbolList (List.range 30)) [] [200, 201, 65, 66, 67, 68, 69, 70, 49] [(9, .base256), (7, .x12), (0, .x12)] =
    .ok ([231, 46, 137, 32, 238, 89, 233, 109, 36, 50], 4) := run30_eq_of_check (by decide +kernel)
example : ∃ d, decode [231, 46, 137, 32, 238, 89, 233, 109, 36, 50] = .ok d ∧ d.body = [200, 201, 65, 66, 67, 68, 69, 70, 49] ∧
    d.padAt = none := by
  obtain ⟨d, L, h1, h2, _, _, _, _, _, _, _, h10, _, _, hL, _, h15⟩ :=
    spec_mixed_roundtrip_abx (symbolList (List.range 30)) [] [200, 201, 65, 66, 67, 68, 69, 70, 49] _
      [(9, .base256), (7, .x12), (0, .x12)] _ (Or.inl rfl) (by decide) (by decide)
      (run30_eq_of_check (cw := [231, 46, 137, 32, 238, 89, 233, 109, 36, 50]) (sym := 4) (by decide +kernel))
  refine ⟨d, h1, h2, ?_⟩
  have : (decode [231, 46, 137, 32, 238, 89, 233, 109, 36, 50]).toOption.map (fun d => d.padAt) = some none := by
    decide +kernel
  rw [h1] at this
  simpa [Except.toOption] using this

/-- The exact end: one byte in Base 256, "ABCDEF" in X12 ends with the symbol, the decoder stops in
X12 mode (`room = some 0`, "done"). -/
example : Enc.run (symbolList (List.range 30)) [] [200, 65, 66, 67, 68, 69, 70] [(7, .base256), (6, .x12), (0, .x12)] =
    .ok ([231, 45, 137, 238, 89, 233, 109, 36], 3) := run30_eq_of_check (by decide +kernel)
example : (decode [231, 45, 137, 238, 89, 233, 109, 36]).toOption.map (fun d => (d.body, d.padAt, d.latches)) =
    some ([200, 65, 66, 67, 68, 69, 70], none, [(0, .base256), (3, .x12)]) := by decide +kernel

/-- Behind Macro 06. -/
example : Enc.run (symbolList (List.range 30)) [237] [97, 200, 65, 66, 67, 68, 69, 70, 98, 99]
    [(10, .ascii), (9, .base256), (8, .x12), (2, .ascii), (0, .ascii)] =
    .ok ([237, 98, 231, 88, 180, 238, 89, 233, 109, 36, 254, 99, 100, 129, 87, 237], 6) := run30_eq_of_check (by decide +kernel)

/-- The side condition on the plan is needed: a latch to Base 256 planned for the
last two characters behind an X12 run — the encoder ends the run without UNLATCH (one ASCII
codeword, the digit pair, would fill the symbol), then writes the stale latch 231 and the pair; the
reference decoder, still in X12 mode, reads another message. -/
example : Enc.run (symbolList (List.range 30)) [] [65, 66, 67, 68, 69, 70, 71, 72, 73, 49, 50]
    [(11, .x12), (2, .base256), (0, .base256)] = .ok ([238, 89, 233, 109, 36, 128, 95, 231, 142, 129], 4) :=
  run30_eq_of_check (by decide +kernel)
example : (decode [238, 89, 233, 109, 36, 128, 95, 231, 142, 129]).toOption.map (fun d => d.body) =
    some [65, 66, 67, 68, 69, 70, 71, 72, 73, 88, 42, 88] := by decide +kernel

end DM.Props.C02SpecMixedX12
