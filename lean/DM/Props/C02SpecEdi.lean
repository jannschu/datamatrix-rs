import DM.Lemmas.SpecEdiPure
import DM.Props.C02Spec
/-!
# C02 — conformant output, against the reference decoder: EDIFACT

The round trip through the independent decoder `DM.Spec.Stream.decode` for a message planned
entirely in EDIFACT encodation: latch 240, complete groups of four characters in three codewords,
and the three ways `edifact::encode` ends the data (ASCII end game; UNLATCH value in the next free
slot followed by padding; complete groups filling the symbol exactly).
-/
namespace DM.Props.C02SpecEdi
open DM.Model DM.Lemmas DM.Lemmas.AsciiRT DM.Lemmas.SpecStep DM.Lemmas.SpecAscii DM.Lemmas.MainRT
open DM.Lemmas.SpecEdi DM.Lemmas.Complete DM.Lemmas.EncRT DM.Lemmas.X12RT DM.Lemmas.EdiRT DM.Lemmas.EdiGen
open DM.Props.C02Spec
open DM.Spec.Stream (decode Decoded macroHead macroTrail unrand253 Mode)

def EdiForm (p : Nat) (body X : List Nat) (q cap : Nat) (trace : List Mode) : Prop :=
  (X = ediLast (body.drop (4 * q)) ∧ body.length - 4 * q ≤ 3 ∧ p + 1 + 3 * q + 3 ≤ cap ∧
    trace = List.replicate body.length .edifact) ∨
  (X = asciiEnc (body.drop (4 * q)) ∧ body.length - 4 * q ≤ 4 ∧ cap ≤ p + 1 + 3 * q + 2 ∧
    (cap = p + 1 + 3 * q → body.length = 4 * q) ∧
    trace = List.replicate (4 * q) .edifact ++ List.replicate (body.length - 4 * q) .ascii)

theorem edi_core (list : List Sym) (pre body cw : List Nat) (sym : Sym) (hc : EdiChars body) (hne : body ≠ [])
    (h : Enc.run list pre body [(body.length, .edifact), (0, .edifact)] = .ok (cw, sym)) :
    ∃ q X L s, 4 * q ≤ body.length ∧ L = pre.length + (1 + 3 * q) + X.length ∧ cw.length = dataCw sym ∧
      L ≤ dataCw sym ∧ cw.take L = pre ++ ediC body q ++ X ∧
      DM.Spec.Stream.run cw.toArray (3 * cw.length + 4) { i := pre.length } = .ok s ∧
      s.out.toList = body ∧ s.latches.toList = [(pre.length, .edifact)] ∧ s.ecis.toList = [] ∧
      s.padAt = (if L = dataCw sym then none else some L) ∧
      EdiForm pre.length body X q (dataCw sym) s.trace.toList := by
  obtain ⟨q, X, L, hq, hL, hlen, htake, hpd, hform⟩ := edi_run_shape list pre body cw sym hc hne h
  have hle : L ≤ dataCw sym := hlen ▸ hpd.le
  rcases hform with ⟨rfl, hr, hthree⟩ | ⟨rfl, hr, htwo, hnil⟩
  · have hrun := spec_run_edi_unlatch cw pre body q L hc hq hr hL htake (by omega) hpd
    rw [hlen] at hrun
    refine ⟨q, _, L, _, hq, hL, hlen, hle, htake, by rw [hlen]; exact hrun, ?_, ?_, ?_, rfl,
      Or.inl ⟨rfl, hr, hthree, ?_⟩⟩ <;> simp [ediFinalU]
  · have hrun := spec_run_edi_ascii cw pre body q L hc hq hL htake (by omega) (by rw [hlen]; exact hnil) hpd
    rw [hlen] at hrun
    refine ⟨q, _, L, _, hq, hL, hlen, hle, htake, by rw [hlen]; exact hrun, ?_, ?_, ?_, rfl,
      Or.inr ⟨rfl, hr, htwo, hnil, ?_⟩⟩ <;> simp [ediFinalA]

/-- **EDIFACT round trip behind any header** (`pre` = none, FNC1, Macro 05, Macro 06): what `decode`
returns, and the shape of the stream (see `spec_edifact_roundtrip`). -/
theorem edi_decode (list : List Sym) (pre body cw : List Nat) (sym : Sym) (hpre : pre = [] ∨ pre = [232] ∨ pre = [236] ∨ pre = [237])
    (hc : EdiChars body) (hne : body ≠ []) (h : Enc.run list pre body [(body.length, .edifact), (0, .edifact)] = .ok (cw, sym)) :
    ∃ d q X L, decode cw = .ok d ∧ d.body = body ∧ d.fnc1 = (pre == [232]) ∧ d.macro = macOf pre ∧
      d.bytes = (if macOf pre = 0 then body else macroHead (macOf pre) ++ body ++ macroTrail) ∧ d.ecis = [] ∧
      d.latches = [(pre.length, .edifact)] ∧ 4 * q ≤ body.length ∧ L = pre.length + (1 + 3 * q) + X.length ∧
      cw.length = dataCw sym ∧ L ≤ dataCw sym ∧ cw.take L = pre ++ ediC body q ++ X ∧
      EdiForm pre.length body X q (dataCw sym) d.trace ∧ d.padAt = (if L = dataCw sym then none else some L) := by
  obtain ⟨q, X, L, s, hq, hL, hlen, hle, htake, hrun, ho, hl, he, hp, hform⟩ := edi_core list pre body cw sym hc hne h
  have hcw : cw = pre ++ (240 :: (DM.Spec.Build.packEdifact ((body.take (4 * q)).map (· % 64)) ++ X ++ cw.drop L)) := by
    conv => lhs; rw [← List.take_append_drop L cw, htake]
    simp [ediC]
  have hd := decode_behind pre cw s hpre (by rw [hcw, List.take_left])
    (fun hp => by rw [hcw, hp]; exact headOK_cons 240 _ (by omega)) hrun
  exact ⟨_, q, X, L, hd, ho, rfl, rfl, by simp only [mkDecoded, ho], he, hl, hq, hL, hlen, hle, htake, hform, hp⟩

/-- **EDIFACT round trip through the reference decoder.** For a non-empty message of EDIFACT
characters (32..94) planned entirely in EDIFACT, and every symbol list: whatever the encoder
returns, the reference decoder accepts; it reads the message, after the single latch at codeword 0,
without ECI, FNC1 or Macro. The stream is the latch, `q` complete groups (`ediC body q`), then `X`
and padding, in one of two forms (`EdiForm`):
* `X` is the last group holding the remaining `≤ 3` characters and the UNLATCH value in the next
  free slot, at least three codewords stand from its start to the end of the symbol, and every
  byte was carried by EDIFACT;
* at most two codewords of the symbol are left behind the groups and `X` is the remaining `≤ 4`
  characters in ASCII encodation (nothing when the groups fill the symbol exactly): the first `4q`
  bytes were carried by EDIFACT, the rest by ASCII.
The decoder meets the first pad codeword exactly behind `X` (`none` when `X` ends the symbol). -/
theorem spec_edifact_roundtrip (list : List Sym) (body cw : List Nat) (sym : Sym) (hc : ∀ b ∈ body, 32 ≤ b ∧ b ≤ 94)
    (hne : body ≠ []) (h : Enc.run list [] body [(body.length, .edifact), (0, .edifact)] = .ok (cw, sym)) :
    ∃ d q X L, decode cw = .ok d ∧ d.bytes = body ∧ d.body = body ∧ d.fnc1 = false ∧ d.macro = 0 ∧ d.ecis = [] ∧
      d.latches = [(0, .edifact)] ∧ (∀ m ∈ d.trace, m = .edifact ∨ m = .ascii) ∧
      4 * q ≤ body.length ∧ L = 1 + 3 * q + X.length ∧ cw.length = dataCw sym ∧ L ≤ dataCw sym ∧
      cw.take L = ediC body q ++ X ∧ EdiForm 0 body X q (dataCw sym) d.trace ∧
      d.padAt = (if L = dataCw sym then none else some L) := by
  obtain ⟨d, q, X, L, hd, a1, a2, a3, a4, a5, a6, hq, hL, hlen, hle, htake, hform, hp⟩ :=
    edi_decode list [] body cw sym (Or.inl rfl) hc hne h
  simp only [List.length_nil, Nat.zero_add, List.nil_append] at hL htake a6 hform
  refine ⟨d, q, X, L, hd, a4, a1, a2, a3, a5, a6, ?_, hq, hL, hlen, hle, htake, hform, hp⟩
  intro m hm
  rcases hform with ⟨_, _, _, ht⟩ | ⟨_, _, _, _, ht⟩
  · rw [ht] at hm; exact Or.inl (List.eq_of_mem_replicate hm)
  · rw [ht] at hm
    rcases List.mem_append.mp hm with h1 | h1
    · exact Or.inl (List.eq_of_mem_replicate h1)
    · exact Or.inr (List.eq_of_mem_replicate h1)


/-- Non-vacuity. The three ends of `edifact::encode`, checked by the kernel on the encoder model:
"AHO" (UNLATCH in the fourth slot, one pad), "AHOVC" (one codeword left behind the group: ASCII end
game, no UNLATCH, symbol full), twelve characters (complete groups fill the 10-codeword symbol
exactly), sixteen characters (UNLATCH in the first slot: codeword 124, then padding), seventeen
(UNLATCH in the second slot). The kernel also runs the reference decoder on three of the streams. -/
example : Enc.run (symbolList (List.range 30)) [] [65, 72, 79] [(3, .edifact), (0, .edifact)] =
    .ok ([240, 4, 131, 223, 129], 1) := run30_eq_of_check (by decide +kernel)
example : Enc.run (symbolList (List.range 30)) [] [65, 72, 79, 86, 67] [(5, .edifact), (0, .edifact)] =
    .ok ([240, 4, 131, 214, 68], 1) := run30_eq_of_check (by decide +kernel)
example : Enc.run (symbolList (List.range 30)) [] [65, 72, 79, 86, 67, 74, 81, 88, 69, 76, 83, 90]
    [(12, .edifact), (0, .edifact)] = .ok ([240, 4, 131, 214, 12, 164, 88, 20, 196, 218], 4) :=
  run30_eq_of_check (by decide +kernel)
example : Enc.run (symbolList (List.range 30)) [] [65, 72, 79, 86, 67, 74, 81, 88, 69, 76, 83, 90, 71, 78, 85, 66]
    [(16, .edifact), (0, .edifact)] =
    .ok ([240, 4, 131, 214, 12, 164, 88, 20, 196, 218, 28, 229, 66, 124, 129, 237], 6) :=
  run30_eq_of_check (by decide +kernel)
example : Enc.run (symbolList (List.range 30)) [] [65, 72, 79, 86, 67, 74, 81, 88, 69, 76, 83, 90, 71, 78, 85, 66, 73]
    [(17, .edifact), (0, .edifact)] =
    .ok ([240, 4, 131, 214, 12, 164, 88, 20, 196, 218, 28, 229, 66, 37, 240, 129], 6) :=
  run30_eq_of_check (by decide +kernel)
example : (decode [240, 4, 131, 223, 129]).toOption.map (fun d => (d.body, d.padAt, d.latches, d.trace)) =
    some ([65, 72, 79], some 4, [(0, .edifact)], [.edifact, .edifact, .edifact]) := by decide +kernel
example : (decode [240, 4, 131, 214, 68]).toOption.map (fun d => (d.body, d.padAt, d.latches, d.trace)) =
    some ([65, 72, 79, 86, 67], none, [(0, .edifact)], [.edifact, .edifact, .edifact, .edifact, .ascii]) := by
  decide +kernel
example : (decode [240, 4, 131, 214, 12, 164, 88, 20, 196, 218]).toOption.map (fun d => (d.body, d.padAt)) =
    some ([65, 72, 79, 86, 67, 74, 81, 88, 69, 76, 83, 90], none) := by decide +kernel

/-- … and the theorem applied to the run on "AHOVC". -/
example : ∃ d, decode [240, 4, 131, 214, 68] = .ok d ∧ d.body = [65, 72, 79, 86, 67] ∧ d.latches = [(0, .edifact)] := by
  obtain ⟨d, _, _, _, h1, _, h3, _, _, _, h7, _⟩ :=
    spec_edifact_roundtrip (symbolList (List.range 30)) [65, 72, 79, 86, 67] _ _ (by decide) (by decide)
      (run30_eq_of_check (cw := [240, 4, 131, 214, 68]) (sym := 1) (by decide +kernel))
  exact ⟨d, h1, h3, h7⟩

/-- the empty message under the EDIFACT plan is the empty ASCII message: padding only, no latch -/
theorem spec_edifact_roundtrip_nil (list : List Sym) (cw : List Nat) (sym : Sym)
    (h : Enc.run list [] [] [(([] : List Nat).length, .edifact), (0, .edifact)] = .ok (cw, sym)) :
    ∃ d, decode cw = .ok d ∧ d.bytes = [] ∧ d.body = [] ∧ d.fnc1 = false ∧ d.macro = 0 ∧ d.ecis = [] ∧
      d.latches = [] ∧ d.trace = [] ∧ cw.length = dataCw sym ∧
      d.padAt = (if 0 = dataCw sym then none else some 0) := by
  obtain ⟨d, h1, h2, h3, h4, h5, h6, h7, h8, h9, h10, _⟩ := spec_nil_roundtrip list _ cw sym h
  exact ⟨d, h1, h2, h3, h4, h5, h6, h7, h8, h9, h10⟩

example : Enc.run (symbolList (List.range 30)) [] [] [(([] : List Nat).length, .edifact), (0, .edifact)] =
    .ok ([129, 175, 70], 0) := run30_eq_of_check (by decide +kernel)

/-- **Every body of EDIFACT characters**, empty or not: the reference decoder returns the message;
no FNC1, Macro or ECI; every byte carried by EDIFACT or (in the end game) ASCII; at most the one
latch at codeword 0. -/
theorem spec_edifact_roundtrip_all (list : List Sym) (body cw : List Nat) (sym : Sym) (hc : ∀ b ∈ body, 32 ≤ b ∧ b ≤ 94)
    (h : Enc.run list [] body [(body.length, .edifact), (0, .edifact)] = .ok (cw, sym)) :
    ∃ d, decode cw = .ok d ∧ d.bytes = body ∧ d.body = body ∧ d.fnc1 = false ∧ d.macro = 0 ∧ d.ecis = [] ∧
      d.latches = (if body = [] then [] else [(0, .edifact)]) ∧ (∀ m ∈ d.trace, m = .edifact ∨ m = .ascii) ∧
      d.trace.length = body.length ∧ cw.length = dataCw sym := by
  by_cases hne : body = []
  · subst hne
    obtain ⟨d, h1, h2, h3, h4, h5, h6, h7, h8, h9, _⟩ := spec_edifact_roundtrip_nil list cw sym h
    exact ⟨d, h1, h2, h3, h4, h5, h6, by simpa using h7, by rw [h8]; simp, by rw [h8]; rfl, h9⟩
  · obtain ⟨d, q, X, L, h1, h2, h3, h4, h5, h6, h7, h8, hq, _, h11, _, _, hform, _⟩ :=
      spec_edifact_roundtrip list body cw sym hc hne h
    refine ⟨d, h1, h2, h3, h4, h5, h6, by rw [if_neg hne]; exact h7, h8, ?_, h11⟩
    rcases hform with ⟨_, _, _, ht⟩ | ⟨_, _, _, _, ht⟩
    · rw [ht]; simp
    · rw [ht]; simp; omega

/-- **EDIFACT behind a header codeword** `c` = 232 (FNC1), 236 (Macro 05) or 237 (Macro 06): the
latch now stands at codeword 1. -/
theorem spec_edifact_roundtrip_header (c : Nat) (hcc : c = 232 ∨ c = 236 ∨ c = 237) (list : List Sym) (body cw : List Nat)
    (sym : Sym) (hc : ∀ b ∈ body, 32 ≤ b ∧ b ≤ 94) (hne : body ≠ [])
    (h : Enc.run list [c] body [(body.length, .edifact), (0, .edifact)] = .ok (cw, sym)) :
    ∃ d q X L, decode cw = .ok d ∧ d.body = body ∧ d.fnc1 = (c == 232) ∧ d.macro = hdrMacro c ∧
      d.bytes = (if c = 232 then body else macroHead (hdrMacro c) ++ body ++ macroTrail) ∧ d.ecis = [] ∧
      d.latches = [(1, .edifact)] ∧
      4 * q ≤ body.length ∧ L = 2 + 3 * q + X.length ∧ cw.length = dataCw sym ∧ L ≤ dataCw sym ∧
      cw.take L = c :: (ediC body q ++ X) ∧ EdiForm 1 body X q (dataCw sym) d.trace ∧
      d.padAt = (if L = dataCw sym then none else some L) := by
  obtain ⟨d, q, X, L, hd, a1, a2, a3, a4, a5, a6, hq, hL, hlen, hle, htake, hform, hp⟩ := edi_decode list [c] body cw sym
    (DM.Props.C02Spec.hdr_fields c hcc body).1 hc hne h
  simp only [List.length_singleton, List.cons_append, List.nil_append] at hL htake a6 hform
  obtain ⟨_, f1, f2, f3⟩ := DM.Props.C02Spec.hdr_fields c hcc body
  exact ⟨d, q, X, L, hd, a1, a2.trans f1, a3.trans f2, a4.trans f3, a5, a6, hq, by omega, hlen, hle, htake, hform, hp⟩

/-- Non-vacuity: five characters behind FNC1 (UNLATCH in the second slot of the second group, one
pad), four behind Macro 05 (exact fit), nine behind Macro 06 (ASCII end game, one pad); the kernel
runs the reference decoder on the streams. -/
example : Enc.run (symbolList (List.range 30)) [232] [65, 72, 79, 86, 67] [(5, .edifact), (0, .edifact)] =
    .ok ([232, 240, 4, 131, 214, 13, 240, 129], 3) := run30_eq_of_check (by decide +kernel)
example : Enc.run (symbolList (List.range 30)) [236] [65, 72, 79, 86] [(4, .edifact), (0, .edifact)] =
    .ok ([236, 240, 4, 131, 214], 1) := run30_eq_of_check (by decide +kernel)
example : Enc.run (symbolList (List.range 30)) [237] [65, 72, 79, 86, 67, 74, 81, 88, 69] [(9, .edifact), (0, .edifact)] =
    .ok ([237, 240, 4, 131, 214, 12, 164, 88, 70, 129], 4) := run30_eq_of_check (by decide +kernel)
example : (decode [232, 240, 4, 131, 214, 13, 240, 129]).toOption.map (fun d => (d.body, d.fnc1, d.padAt, d.latches)) =
    some ([65, 72, 79, 86, 67], true, some 7, [(1, .edifact)]) := by decide +kernel
example : (decode [236, 240, 4, 131, 214]).toOption.map (fun d => (d.bytes, d.body, d.macro, d.padAt)) =
    some ([91, 41, 62, 30, 48, 53, 29, 65, 72, 79, 86, 30, 4], [65, 72, 79, 86], 5, none) := by decide +kernel
example : (decode [237, 240, 4, 131, 214, 12, 164, 88, 70, 129]).toOption.map (fun d => (d.body, d.macro, d.padAt)) =
    some ([65, 72, 79, 86, 67, 74, 81, 88, 69], 6, some 9) := by decide +kernel

/-- Side condition `32 ≤ b ≤ 94` is needed: with 95 in the last group the encoder's `% 64` turns it
into the UNLATCH value 31 and the reference decoder stops reading there; 96 is read back as 32. -/
example : Enc.run (symbolList (List.range 30)) [] [65, 66, 67, 95] [(4, .edifact), (0, .edifact)] =
    .ok ([240, 4, 32, 223, 129], 1) := run30_eq_of_check (by decide +kernel)
example : (decode [240, 4, 32, 223, 129]).toOption.map (fun d => d.body) = some [65, 66, 67] := by decide +kernel
example : (match Enc.run (symbolList (List.range 30)) [] [65, 66, 67, 68, 96, 65, 66, 67, 68, 69] [(10, .edifact), (0, .edifact)] with
    | .ok (cw, _) => (decode cw).toOption.map (fun d => d.body)
    | .error _ => none) = some [65, 66, 67, 68, 32, 65, 66, 67, 68, 69] := by
  rw [DM.Lemmas.symbols30]
  decide +kernel

end DM.Props.C02SpecEdi
