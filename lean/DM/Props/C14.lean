import DM.Model.Latin1
import DM.Spec.Charsets
/-!
# C14 — string API: the Latin-1 helpers

Theorems about the two per-character tables, regenerated from the code on every run
(`latin1_to_utf8(&[b])` for all 256 bytes; `utf8_to_latin1` of every one-character string over
all 1 112 064 scalar values — the list holds exactly the scalar values on which it is defined):
the helpers agree with ISO-8859-1 on printable bytes and are mutually inverse character by
character, hence on whole strings (`mapOpt`). The `encode_str`/`decode_str` round trip at data level
is in `Props/C14Str.lean`.
-/
namespace DM.Props.C14
open DM.Model DM.Gen DM.Spec

/-- the table of `latin1_to_utf8` written out: the byte itself on the printable area, refused elsewhere -/
theorem latin1_table :
    latin1ToUtf8 = (List.range 256).map fun b => if Charsets.printable b then (b : Int) else -1 := by
  decide +kernel

/-- the table of `utf8_to_latin1` written out: the printable bytes in order, each with itself -/
theorem u2l_table : utf8ToLatin1 = ((List.range 256).filter Charsets.printable).map fun b : Nat => (b, (b : Int)) := by
  decide +kernel

/-- `latin1_to_utf8` agrees with ISO-8859-1 on every byte: printable bytes map to the code
point of the same number, control and undefined bytes are refused -/
theorem latin1_agrees_iso8859_1 : ∀ b, b < 256 → latin1Char b = Charsets.latin1 b := by
  intro b hb
  unfold latin1Char Charsets.latin1
  rw [latin1_table, List.getElem?_map, List.getElem?_range hb]
  cases h : Charsets.printable b <;> simp [h]

theorem u2l_mem {p : Nat × Int} (h : p ∈ utf8ToLatin1) :
    ∃ b, b < 256 ∧ Charsets.printable b = true ∧ p = (b, (b : Int)) := by
  rw [u2l_table] at h
  obtain ⟨b, hb, rfl⟩ := List.mem_map.mp h
  rw [List.mem_filter, List.mem_range] at hb
  exact ⟨b, hb.1, hb.2, rfl⟩

/-- the table of `utf8_to_latin1` is exactly the inverse relation: each listed scalar value is
the image of its byte … -/
theorem u2l_sound : utf8ToLatin1.all (fun p => p.2 ≥ 0 && latin1Char p.2.toNat == some p.1) = true := by
  rw [List.all_eq_true]
  intro p hp
  obtain ⟨b, hb, hpr, rfl⟩ := u2l_mem hp
  simp [latin1_agrees_iso8859_1 b hb, Charsets.latin1, hpr]

theorem find_key (b : Nat) : ∀ l : List Nat, b ∈ l →
    (l.map fun x : Nat => (x, (x : Int))).find? (fun p => p.1 == b) = some (b, (b : Int))
  | x :: t, h => by
    rw [List.map_cons, List.find?_cons]
    by_cases hx : x = b
    · rw [hx, beq_self_eq_true]
    · rw [beq_false_of_ne hx]
      exact find_key b t ((List.mem_cons.mp h).resolve_left (Ne.symm hx))

/-- … every byte that `latin1_to_utf8` accepts is listed with its code point … -/
theorem u2l_complete : ∀ b, b < 256 → ∀ cp, latin1Char b = some cp → latin1Byte cp = some b := by
  intro b hb cp h
  rw [latin1_agrees_iso8859_1 b hb, Charsets.latin1] at h
  split at h
  · cases h
    unfold latin1Byte
    rw [u2l_table, find_key b _ (List.mem_filter.mpr ⟨List.mem_range.mpr hb, ‹_›⟩)]
    simp
  · cases h

/-- … and no scalar value is listed twice -/
theorem u2l_nodup : (utf8ToLatin1.map Prod.fst).Nodup := by
  rw [u2l_table, List.map_map, show (Prod.fst ∘ fun b : Nat => (b, (b : Int))) = id from rfl, List.map_id]
  exact List.Pairwise.filter _ List.nodup_range

theorem latin1Byte_sound (cp b : Nat) (h : latin1Byte cp = some b) : latin1Char b = some cp := by
  unfold latin1Byte at h
  cases hf : utf8ToLatin1.find? (fun p => p.1 == cp) with
  | none => rw [hf] at h; simp at h
  | some pr =>
    obtain ⟨c, bb⟩ := pr
    rw [hf] at h
    have hm := List.mem_of_find?_eq_some hf
    have hp := List.find?_some hf
    have hs := List.all_eq_true.mp u2l_sound _ hm
    simp only [Bool.and_eq_true, decide_eq_true_eq, beq_iff_eq] at hs hp
    simp only at h
    rw [if_pos hs.1] at h
    simp only [Option.some.injEq] at h
    subst h
    rw [hs.2, hp]

theorem mapOpt_cons_some {α β : Type} {f : α → Option β} {a : α} {t : List α} {r : List β}
    (h : mapOpt f (a :: t) = some r) : ∃ b bs, f a = some b ∧ mapOpt f t = some bs ∧ r = b :: bs := by
  simp only [mapOpt] at h
  cases hb : f a with
  | none => simp [hb] at h
  | some b =>
    cases hr : mapOpt f t with
    | none => simp [hb, hr] at h
    | some bs =>
      simp only [hb, hr, Option.some.injEq] at h
      exact ⟨b, bs, rfl, rfl, h.symm⟩

theorem mapOpt_inverse {α β : Type} {f : α → Option β} {g : β → Option α} : ∀ (l : List α) (r : List β),
    (∀ a ∈ l, ∀ b, f a = some b → g b = some a) → mapOpt f l = some r → mapOpt g r = some l
  | [], r, _, h => by cases h; rfl
  | a :: t, r, hf, h => by
    obtain ⟨b, bs, hb, ht, rfl⟩ := mapOpt_cons_some h
    simp only [mapOpt, hf a (List.mem_cons_self ..) b hb,
      mapOpt_inverse t bs (fun x hx => hf x (List.mem_cons_of_mem _ hx)) ht]

theorem mapOpt_forall {α β : Type} {f : α → Option β} {P : β → Prop} (hf : ∀ a b, f a = some b → P b) :
    ∀ (l : List α) (r : List β), mapOpt f l = some r → ∀ b ∈ r, P b
  | [], r, h => by cases h; exact fun _ hb => nomatch hb
  | a :: t, r, h => by
    obtain ⟨b, bs, hb, ht, rfl⟩ := mapOpt_cons_some h
    intro x hx
    rcases List.mem_cons.mp hx with rfl | hx
    · exact hf a _ hb
    · exact mapOpt_forall hf t bs ht x hx

/-- `utf8_to_latin1` then `latin1_to_utf8` is the identity on the strings it accepts -/
theorem latin1_inverse_l : ∀ (cps bytes : List Nat), utf8ToLatin1Str cps = some bytes →
    latin1ToUtf8Str bytes = some cps :=
  fun cps bytes h => mapOpt_inverse cps bytes (fun c _ b hb => latin1Byte_sound c b hb) h

/-- `latin1_to_utf8` then `utf8_to_latin1` is the identity on the byte strings it accepts -/
theorem latin1_inverse_r : ∀ (bytes cps : List Nat), (∀ b ∈ bytes, b < 256) → latin1ToUtf8Str bytes = some cps →
    utf8ToLatin1Str cps = some bytes :=
  fun bytes cps hb h => mapOpt_inverse bytes cps (fun b hm c hc => u2l_complete b (hb b hm) c hc) h

/-- Non-vacuity: "µ" (U+00B5) is Latin-1 byte 0xB5 and back; Greek "μ" (U+03BC) is not Latin-1. -/
example : latin1Byte 0xB5 = some 0xB5 ∧ latin1Char 0xB5 = some 0xB5 ∧ latin1Byte 0x3BC = none := by
  decide +kernel

end DM.Props.C14
