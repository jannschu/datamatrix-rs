import DM.Lemmas.Complete
import DM.Lemmas.Pads
/-!
# C04 — the decoder accepts every standard-conformant codeword stream

`decoder_complete`: for **every** script of the independent reference builder
(`DM/Spec/Build.lean`: any sequence of ASCII / C40 / Text / X12 / EDIFACT / Base 256 runs with
every legal termination form, optional Macro 05/06 or FNC1 header, any amount of padding) that
is well formed (`WFScript`: each run is legal in front of the codewords that follow it), the data
decoder model returns exactly the bytes the script stands for.

The builder is the definition of "built according to ISO/IEC 16022" used by the C04 check: the
streams the check feeds to the real decoder are produced by this very builder; the decoder model
is tied to `decode_data` by correspondence on those streams and on exhaustive / mutated ones.
-/
namespace DM.Props.C04
open DM.Model.Dec DM.Gen DM.Lemmas DM.Lemmas.DecRun DM.Spec.Build DM.Lemmas.AsciiRT DM.Lemmas.Complete
open DM.Props.C02 (padAt)

def headerCw (h : Nat) : List Nat := match h with | 5 => [236] | 6 => [237] | 1 => [232] | _ => []

structure WFScript (s : Script) : Prop where
  header : s.header = 0 ∨ s.header = 1 ∨ s.header = 5 ∨ s.header = 6
  items : ItemsOK (headerCw s.header).length s.items
    (padsOf ((headerCw s.header).length + (emitAll (headerCw s.header).length s.items).length) s.pad)
  /-- the codeword after the header position is not itself a header codeword -/
  first : ∀ c ∈ (emitAll (headerCw s.header).length s.items ++
      padsOf ((headerCw s.header).length + (emitAll (headerCw s.header).length s.items).length) s.pad).head?,
    c ≠ 232 ∧ c ≠ 236 ∧ c ≠ 237

theorem randomize253_eq (pos : Nat) : randomize253 pos = padAt pos := rfl

theorem build_with (hdr : List Nat) (items : List Item) (pad : Nat)
    (h : ItemsOK hdr.length items (padsOf (hdr.length + (emitAll hdr.length items).length) pad)) :
    (let body := items.foldl emit hdr
     if pad = 0 then body
     else (List.range (pad - 1)).foldl (fun acc _ => acc ++ [randomize253 (acc.length + 1)]) (body ++ [129])) =
    hdr ++ emitAll hdr.length items ++ padsOf (hdr.length + (emitAll hdr.length items).length) pad := by
  have hf := foldl_emit items hdr _ h
  simp only [hf]
  unfold padsOf
  by_cases hp : pad = 0
  · simp [hp]
  · rw [if_neg hp, if_neg hp]
    simp only [randomize253_eq]
    rw [DM.Lemmas.Pads.foldl_pads]
    simp [List.append_assoc]
    congr 1

theorem build_eq (s : Script) (h : WFScript s) :
    build s = headerCw s.header ++ emitAll (headerCw s.header).length s.items ++
      padsOf ((headerCw s.header).length + (emitAll (headerCw s.header).length s.items).length) s.pad := by
  obtain ⟨hd, items, pad⟩ := s
  have hi := h.items
  simp only [] at hi ⊢
  rcases h.header with h0 | h0 | h0 | h0 <;> simp only [] at h0 <;> subst h0 <;>
    exact build_with _ items pad hi

theorem decRun_pads (len pad : Nat) (out : List Nat) (ecis : List (Nat × Nat)) :
    ∃ e, decRun .ascii { rest := padsOf len pad, eaten := len, out := out, ecis := ecis } =
      .ok { rest := [], eaten := e, out := out, ecis := ecis } := by
  unfold padsOf
  split
  · exact ⟨len, decRun_nil _ _ rfl⟩
  · refine ⟨len + 1 + (pad - 1), ?_⟩
    rw [decRun_ascii_eq, decodeAscii_cons]
    -- `asciiAct false 129 = .pad`
    simp only [asciiThen, asciiAct, Nat.reduceLeDiff, and_false, Bool.false_eq_true, ↓reduceIte, checkPads_pads, Except.map]
    rw [decRun_nil _ _ rfl]

theorem macro_heads : macroHead05 = DM.Spec.Stream.macroHead 5 ∧ macroHead06 = DM.Spec.Stream.macroHead 6 ∧
    macroTrail = DM.Spec.Stream.macroTrail := ⟨rfl, rfl, rfl⟩

theorem decoder_complete (s : Script) (h : WFScript s) : decodeData (build s) = .ok (meaning s) := by
  rw [build_eq s h, List.append_assoc]
  -- the main loop behind the header, from any initial output: the items (`items_seg`), then the padding
  have hrun : ∀ out0, ∃ e, decRun .ascii ⟨emitAll (headerCw s.header).length s.items ++
        padsOf ((headerCw s.header).length + (emitAll (headerCw s.header).length s.items).length) s.pad,
      (headerCw s.header).length, out0, []⟩ = .ok ⟨[], e, out0 ++ s.items.flatMap Item.bytes, []⟩ := fun out0 => by
    rw [items_seg s.items _ _ out0 [] h.items]
    exact decRun_pads ..
  have key : ∀ {out0 : List Nat} {mac fnc1 : Bool} {sp : Bool → List (Nat × Nat)},
      Header (headerCw s.header) out0 mac fnc1 sp → sp true = [] → _ := fun H hs =>
    (hrun _).elim fun e hr => decodeData_header H hs h.first hr
  unfold meaning
  rcases h.header with h0 | h0 | h0 | h0 <;> rw [h0] at key ⊢
  · simpa using key .none rfl
  · simpa using key .fnc1 rfl
  · simpa [← macro_heads.1, ← macro_heads.2.2] using key .m05 rfl
  · simpa [← macro_heads.2.1, ← macro_heads.2.2] using key .m06 rfl

/-! ### `WFScript` is decidable: the check evaluates it on every script it generates -/

instance (l : List Nat) : Decidable (X12Native l) := by unfold X12Native; infer_instance
instance (l : List Nat) : Decidable (EdiChars l) := by unfold EdiChars; infer_instance
instance (un : Bool) (t : List Nat) : Decidable (TripleTail un t) := by unfold TripleTail; infer_instance
instance (text : Bool) (b : List Nat) (un : Bool) (t : List Nat) : Decidable (C40OK text b un t) := by
  unfold C40OK; infer_instance
instance (b : List Nat) (un : Bool) (t : List Nat) : Decidable (EdiOK b un t) := by
  unfold EdiOK; cases un <;> simp only [Bool.false_eq_true, ↓reduceIte] <;> infer_instance
instance (b : List Nat) (toEnd : Bool) (t : List Nat) : Decidable (B256OK b toEnd t) := by
  unfold B256OK; cases toEnd <;> simp only [Bool.false_eq_true, ↓reduceIte] <;> infer_instance
instance (it : Item) (t : List Nat) : Decidable (ItemOK it t) := by
  cases it <;> unfold ItemOK <;> simp only [] <;> infer_instance

def decItemsOK : (pos : Nat) → (items : List Item) → (pads : List Nat) → Decidable (ItemsOK pos items pads)
  | _, [], _ => isTrue trivial
  | pos, it :: rest, pads =>
    have := decItemsOK (pos + (emitAt pos it).length) rest pads
    by unfold ItemsOK; infer_instance

instance (pos : Nat) (items : List Item) (pads : List Nat) : Decidable (ItemsOK pos items pads) := decItemsOK pos items pads

theorem wfScript_iff (s : Script) : WFScript s ↔
    (s.header = 0 ∨ s.header = 1 ∨ s.header = 5 ∨ s.header = 6) ∧
    ItemsOK (headerCw s.header).length s.items
      (padsOf ((headerCw s.header).length + (emitAll (headerCw s.header).length s.items).length) s.pad) ∧
    (∀ c ∈ (emitAll (headerCw s.header).length s.items ++
        padsOf ((headerCw s.header).length + (emitAll (headerCw s.header).length s.items).length) s.pad).head?,
      c ≠ 232 ∧ c ≠ 236 ∧ c ≠ 237) :=
  ⟨fun h => ⟨h.header, h.items, h.first⟩, fun h => ⟨h.1, h.2.1, h.2.2⟩⟩

instance (s : Script) : Decidable (WFScript s) := decidable_of_iff _ (wfScript_iff s).symm

/-- Non-vacuity: a script with a macro header, all six kinds of run and padding is well formed,
and so is one that ends in C40 without UNLATCH followed by a single ASCII codeword. -/
def exampleScript1 : Script :=
  Script.mk 5 [Item.ascii true [49, 50, 200], Item.c40 false [65, 66, 67] true, Item.c40 true [97, 33, 200, 98, 99] true,
    Item.x12 [65, 13, 42] true, Item.edifact [64, 65, 66, 67, 68] true, Item.base256 [0, 255, 7] false] 3

def exampleScript2 : Script := Script.mk 0 [Item.c40 false [65, 66, 67] false, Item.ascii false [66]] 0

example : WFScript exampleScript1 := by decide +kernel
example : WFScript exampleScript2 := by decide +kernel

end DM.Props.C04
