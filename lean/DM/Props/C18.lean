import DM.Lemmas.LatchSeq
import DM.Props.C13
/-!
# C18 (encoder side) — the latches in the output are exactly the planned mode changes, in order

`Props/C13.lean` (`latches_planned`) shows that every latch the encoder writes belongs to *some* mode
the plan names.  Here the exact sequence: for a plan within `PlanOK` whose positions never increase
and do not exceed the length of the message (what the planner guarantees, `Planner.plan_positions`),
the output of a successful run of the encoder model splits into the segments of `run_segments`
(one per call of a mode encoder, with all the properties stated there), and the latches at the
segment starts, read from left to right, are **equal** to `plannedLatches plan`: walk through the entries
`(position, mode)` of the plan with `position > 0` (an entry with position 0 is never taken from the list),
starting in ASCII mode; an entry of another mode than the current one changes it, and contributes the latch
codeword of its mode if that mode is not ASCII (examples at the end of the file).

How it is proved (`Lemmas/LatchSeq.lean`): the main loop keeps

  latches written ++ pending latch ++ latchesFrom (current mode) (rest of the plan) = plannedLatches plan.

Between two iterations a mode encoder takes entries of its own mode from the plan (no change of
`latchesFrom`), then at most one entry of another mode — every encoder leaves its loop at the first
`maybe_switch_mode` that reports a change — which moves one latch from `latchesFrom` to `new_mode`.
`set_ascii_until_end` throws the rest of the plan away; it is only reached with at most two
characters left (one position after the last successful `maybe_switch_mode` in Base 256), every
entry still planned then has a position ≤ 4 (the list is ordered and `maybe_switch_mode` has just
checked its head), and within `PlanOK` such entries are ASCII or have position 0: nothing is lost.

The two extra hypotheses are needed:
* positions ≤ length: for the empty message and the plan `[(5, C40)]` the model returns padding
  only (no call of `maybe_switch_mode` at all), `plannedLatches = [230]`;
* positions never increase: for `"ABCDEFGHI01"` and the plan `[(11, C40), (1, ASCII), (7, Text)]`
  the run succeeds with the single latch 230 (C40 ends with `set_ascii_until_end` two digits before
  the end, the stale entry `(7, Text)` is dropped), `plannedLatches = [230, 239]`.
Strictly decreasing positions are not needed: of two entries at one position the model either takes
both in turn (`(5, ASCII), (5, Text)` behind C40: UNLATCH, then the latch 239) or panics
(`expected to call maybe_switch_mode earlier`: `(6, X12), (6, Text)` behind C40).
-/
namespace DM.Props.C18
open DM.Model DM.Model.Enc DM.Model.Dec DM.Gen DM.Lemmas DM.Lemmas.DecRun DM.Lemmas.AsciiRT DM.Lemmas.Complete
open DM.Lemmas.EncRT DM.Lemmas.C40Gen DM.Lemmas.MainRT DM.Lemmas.PlanProv DM.Lemmas.Trace DM.Lemmas.LatchSeq
open DM.Props.C13

/-- **C18 (encoder side): the exact sequence of latches.**  The segments are those of
`C13.run_segments` (`SegmentsOK`); the latches at their starts are exactly the planned mode changes to
non-ASCII modes, in plan order. -/
theorem latch_sequence_segments (pre out0 : List Nat) (list : List Sym) (body cw : List Nat) (plan : List (Nat × EMode)) (sym : Sym)
    (hb : ByteList body) (hplan : PlanOK plan) (hsorted : plan.Pairwise (fun a b => a.1 ≥ b.1))
    (hfit : ∀ e ∈ plan, e.1 ≤ body.length) (h : run list pre body plan = .ok (cw, sym)) :
    ∃ (segs : List Seg) (pads : List Nat), SegmentsOK pre out0 body cw plan segs pads ∧
      segs.filterMap (·.latch) = plannedLatches plan := by
  have ⟨sE, segs, pads, hp, hmf, li⟩ := run_trace pre out0 list body cw plan sym
    (fun s s' segs X => step_LI (plannedLatches plan) s s' segs X) (li_init list pre body plan hplan hsorted hfit) hb hplan h
  exact ⟨segs, pads, hp, li_end _ sE segs li hmf⟩

/-- **C18, the latch sequence alone.** -/
theorem latch_sequence (pre : List Nat) (list : List Sym) (body cw : List Nat) (plan : List (Nat × EMode)) (sym : Sym)
    (hb : ByteList body) (hplan : PlanOK plan) (hsorted : plan.Pairwise (fun a b => a.1 ≥ b.1))
    (hfit : ∀ e ∈ plan, e.1 ≤ body.length) (h : run list pre body plan = .ok (cw, sym)) :
    ∃ (segs : List Seg) (pads : List Nat), cw = pre ++ flatCw segs ++ pads ∧
      (∀ g ∈ segs, g.latch = none → ∀ c ∈ g.X, c ≠ 230 ∧ c ≠ 231 ∧ c ≠ 238 ∧ c ≠ 239 ∧ c ≠ 240) ∧
      segs.filterMap (·.latch) = plannedLatches plan := by
  obtain ⟨segs, pads, ⟨h1, h2, _, _⟩, h3⟩ := latch_sequence_segments pre [] list body cw plan sym hb hplan hsorted hfit h
  exact ⟨segs, pads, h1, fun g hg => segOK_noLatch (h2 g hg), h3⟩

/-- **C18, planner and encoder together.**  If the plan is the optimiser's answer for the message
(planner model) and lies within `PlanOK`, the latches at the segment starts of the encoder model's
output are exactly `plannedLatches plan`; the hypotheses on the positions are theorems about the
planner (`Planner.plan_positions`).  As in `latch_sequence`, the statement asks of the segments only
that they make up the output in front of some rest `pads` and that those without a latch hold no latch
codeword; what ties them to the decoder is in `latch_sequence_segments`. -/
theorem latch_sequence_optimized (written : Nat) (modes : Nat) (perms : List (List Nat)) (o : Plan.Outcome)
    (pre : List Nat) (list : List Sym) (body cw : List Nat) (plan : List (Nat × EMode)) (sym : Sym)
    (hopt : Plan.optimize body written list modes perms = .ok o) (hp : o.plan = some plan)
    (hb : ByteList body) (hplan : PlanOK plan) (h : run list pre body plan = .ok (cw, sym)) :
    ∃ (segs : List Seg) (pads : List Nat), cw = pre ++ flatCw segs ++ pads ∧
      (∀ g ∈ segs, g.latch = none → ∀ c ∈ g.X, c ≠ 230 ∧ c ≠ 231 ∧ c ≠ 238 ∧ c ≠ 239 ∧ c ≠ 240) ∧
      segs.filterMap (·.latch) = plannedLatches plan := by
  obtain ⟨p1, p2, _⟩ := DM.Props.Planner.plan_positions body written list modes perms o plan hopt hp
  exact latch_sequence pre list body cw plan sym hb hplan p1 p2 h

theorem plannedLatches_zero (m : EMode) (t : List (Nat × EMode)) : plannedLatches ((0, m) :: t) = plannedLatches t :=
  latchesFrom_cons_zero _ _ _

theorem plannedLatches_ascii (p : Nat) (t : List (Nat × EMode)) : plannedLatches ((p, .ascii) :: t) = plannedLatches t := by
  by_cases hp : p = 0
  · subst hp; exact plannedLatches_zero _ _
  · exact latchesFrom_cons_same _ _ _ (by omega)

theorem plannedLatches_latch (p l : Nat) (m : EMode) (t : List (Nat × EMode)) (hp : 0 < p) (hl : m.latch = some l) :
    plannedLatches ((p, m) :: t) = l :: latchesFrom m t := by
  have hm : m ≠ .ascii := by intro hm; subst hm; simp [EMode.latch] at hl
  unfold plannedLatches
  rw [latchesFrom_cons_ne _ _ _ _ hp hm, hl]
  rfl

example : plannedLatches [(22, .c40), (13, .ascii), (7, .text), (0, .text)] = [230, 239] := by decide
example : plannedLatches [(22, .ascii), (13, .c40), (7, .c40), (5, .ascii), (0, .ascii)] = [230] := by decide
example : plannedLatches [(22, .c40), (13, .ascii), (7, .c40), (0, .c40)] = [230, 230] := by decide
example : plannedLatches [(22, .c40), (13, .x12), (7, .base256), (0, .text)] = [230, 238, 231] := by decide

/-- Non-vacuity (the run of the example in `Props/C13.lean`): hypotheses and conclusion on a mixed plan. -/
example :
    let plan : List (Nat × EMode) := [(22, .c40), (13, .ascii), (7, .text), (0, .text)]
    let body := [65,66,67,68,69,70,71,72,73,49,50,51,52,53,54,97,98,99,100,101,102,103]
    PlanOK plan ∧ plan.Pairwise (fun a b => a.1 ≥ b.1) ∧ (∀ e ∈ plan, e.1 ≤ body.length) ∧
    run (symbolList (List.range 30)) [] body plan =
      .ok ([230, 89, 233, 109, 36, 128, 95, 254, 142, 164, 186, 239, 89, 233, 109, 36, 254, 104], 7) ∧
    plannedLatches plan = [230, 239] := by
  exact ⟨by unfold PlanOK; decide, by decide, by decide, run_mixed, by decide⟩

end DM.Props.C18
