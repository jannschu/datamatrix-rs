import DM.Props.C03Full
/-!
# C03 — any ⌊k/2⌋ wrong codewords are corrected, wherever they lie

`decode_few_wrong_codewords`: a received word that differs from a valid codeword vector in at most ⌊k/2⌋ codewords is
mapped back to it: the positions of an interleaved block embed one-to-one into the positions of the word
(`C09.hamming_le_of_embed`), so no block has more wrong codewords than the word (`hamming_block_le`).
`decode_single_wrong_codeword`: one replaced codeword, since every size has k ≥ 2.
Namespace: `C03`.
-/
namespace DM.Props.C03
open DM.Gen DM.Model DM.Spec DM.Lemmas DM.Props.C09

theorem hamming_strided_le (x y : List Nat) (b B : Nat) (hB : 0 < B) :
    hamming (strided x b B) (strided y b B) ≤ hamming x y :=
  hamming_le_of_embed _ _ _ _ (fun m => b + m * B)
    (fun _ _ _ _ h => Nat.eq_of_mul_eq_mul_right hB (Nat.add_left_cancel h))
    (fun i hi => (lt_strided_length x b B i hB).mp hi)
    (fun i _ => ⟨getD_strided x b B i hB, getD_strided y b B i hB⟩)

theorem hamming_block_le (s : Sym) (d e rd re : List Nat) (hl : d.length = rd.length) (b : Nat)
    (hB : 0 < (row s).blocks) :
    hamming (block s d e b) (block s rd re b) ≤ hamming (d ++ e) (rd ++ re) := by
  unfold block
  rw [hamming_append _ _ _ _ (by rw [strided_length, strided_length, hl]), hamming_append _ _ _ _ hl]
  exact Nat.add_le_add (hamming_strided_le d rd b _ hB) (hamming_strided_le e re b _ hB)

/-- **Any ⌊k/2⌋ wrong codewords are corrected**, wherever they lie. -/
theorem decode_few_wrong_codewords (s : Sym) (hs : s < numSizes) (d e r : List Nat)
    (hd : Bytes d) (he : Bytes e) (hrb : Bytes r)
    (hl : d.length = dataCw s) (hel : e.length = (row s).blocks * (row s).eccPer) (hr : r.length = totalCw s)
    (hv : Valid s d e) (herr : hamming (d ++ e) r ≤ (row s).eccPer / 2) :
    RS.decode s r = .ok (d ++ e) := by
  refine decode_complete_unconditional s hs d e r hd he hrb hl hel hr hv fun b _ => le_trans ?_ herr
  conv => rhs; rw [← List.take_append_drop (dataCw s) r]
  exact hamming_block_le s d e _ _ (by rw [hl, length_take_data s r hr]) b (rowShape s hs).blocks_pos

theorem eccPer_ge_two : ∀ s, s < numSizes → 2 ≤ (row s).eccPer := by decide +kernel

/-- **Any single wrong codeword is corrected.** -/
theorem decode_single_wrong_codeword (s : Sym) (hs : s < numSizes) (d e : List Nat)
    (hd : Bytes d) (he : Bytes e)
    (hl : d.length = dataCw s) (hel : e.length = (row s).blocks * (row s).eccPer)
    (hv : Valid s d e) (i x : Nat) (hx : x < 256) :
    RS.decode s ((d ++ e).set i x) = .ok (d ++ e) := by
  refine decode_few_wrong_codewords s hs d e _ hd he ((hd.append he).set i hx) hl hel
    (by rw [List.length_set, List.length_append, hl, hel]; rfl) hv ?_
  refine le_trans ?_ (show 1 ≤ (row s).eccPer / 2 from Nat.div_le_div_right (c := 2) (eccPer_ge_two s hs))
  exact hamming_le_one _ _ i fun j hj => by
    rw [getD_set, if_neg fun e => hj e.1.symm]

end DM.Props.C03
