import DM.Lemmas.FinderStores
import DM.Lemmas.WriteRead
import DM.Props.C12
/-!
# C08 — finder/alignment rendering and strict bitmap parsing are mutual inverses

`finder_facts`: what the region arithmetic of `Lemmas/Finder*` gives for a catalogue size.  `parse_render`, `render_parse`:
the parser accepts exactly the renderings, from `tryFromBits_eq_ok_iff` and the two halves `takes_bitmapOf`,
`bitmapOf_takes`.
-/
namespace DM.Props.C08
open DM.Gen DM.Model DM.Lemmas DM.Spec

structure FinderFacts (s : Sym) : Prop where
  takes_eq : takes s = cellPos s
  cells_spec : cellPos s = finderCells (toStdRow (row s))
  cells_lt : ∀ p ∈ cellPos s, p < (row s).height * (row s).width
  cells_nodup : (cellPos s).Nodup
  cells_len : (cellPos s).length = contentWidth s * contentHeight s
  checks : ∀ q ∈ alignChecks s, q.1 < (row s).height * (row s).width ∧ q.1 ∉ cellPos s ∧
    (constHigh s).testBit q.1 = q.2
  cover : ∀ p, p < (row s).height * (row s).width → p ∈ cellPos s ∨ p ∈ (alignChecks s).map Prod.fst
  dark_spec : constHigh s = finderDark (toStdRow (row s))
  lookup : sizeByDims (row s).width (row s).height = some s
  wpos : 0 < (row s).width

/-- The constant stores and the copy loop of `bitmap()`, the checks and the takes of `try_from_bits`
agree with the standard's region arithmetic for every layout made of whole regions with even sides,
catalogue size or not. -/
theorem finder_facts_of_regions {s : Sym} {rh rw : Nat} (G : Regions (toStdRow (row s)) rh rw)
    (lookup : sizeByDims (row s).width (row s).height = some s) : FinderFacts s where
  takes_eq := (takes_eq_finderCells G).trans (cellPos_eq_finderCells G).symm
  cells_spec := cellPos_eq_finderCells G
  cells_lt := fun p hp => finderCells_lt G (cellPos_eq_finderCells G ▸ hp)
  cells_nodup := cellPos_eq_finderCells G ▸ finderCells_nodup G
  cells_len := by rw [cellPos, List.length_map, List.length_range]; rfl
  checks := fun (p, b) hq => by
    have F := alignChecks_fixed rfl G hq
    refine ⟨F.1, fun hm => ?_, Bool.eq_iff_iff.mpr ⟨fun h => F.unique ((testBit_constHigh rfl G).mp h), ?_⟩⟩
    · obtain ⟨k, hk⟩ := finderPix_of_mem_finderCells G (cellPos_eq_finderCells G ▸ hm)
      have := hk.symm.trans F.2
      cases b <;> cases this
    · rintro rfl
      exact (testBit_constHigh rfl G).mpr F
  cover := fun p hp => (cell_or_checked rfl G hp).imp_left (cellPos_eq_finderCells G ▸ ·)
  dark_spec := Nat.eq_of_testBit_eq fun p =>
    Bool.eq_iff_iff.mpr ((testBit_constHigh rfl G).trans (testBit_finderDark _ p).symm)
  lookup := lookup
  wpos := by
    have := Nat.mul_pos G.hpos (Nat.zero_lt_of_lt G.rw_gt)
    rwa [← G.cols] at this

/-- Looking a catalogue size up by its dimensions finds it: no two sizes have the same. -/
theorem lookup_dims (s : Sym) (hs : s < numSizes) : sizeByDims (row s).width (row s).height = some s := by
  have key : ∀ u (hu : u < numSizes), (sizes.map fun r => (r.width, r.height))[u]'(by rwa [List.length_map]) =
      ((row u).width, (row u).height) := fun u hu => by
    rw [List.getElem_map, row, List.getD_eq_getElem?_getD, List.getElem?_eq_getElem hu]; rfl
  unfold sizeByDims
  cases h : master.find? (fun t => (row t).width == (row s).width && (row t).height == (row s).height) with
  | none => exact absurd (List.find?_eq_none.mp h s ((C12.mem_master s).mpr hs)) (by simp)
  | some t =>
    have ht := (C12.mem_master t).mp (List.mem_of_find?_eq_some h)
    have hp := List.find?_some h
    simp only [Bool.and_eq_true, beq_iff_eq] at hp
    exact congrArg some ((List.getElem_inj C12.dims_injective).mp (by rw [key t ht, key s hs, hp.1, hp.2]))

/-- What is particular to the catalogue: every size is made of whole regions, more than two pixels wide
and high and with even sides. -/
theorem table_regions : ∀ s, s < numSizes →
    (row s).height % ((row s).extraH + 1) = 0 ∧ (row s).width % ((row s).extraV + 1) = 0 ∧
    2 < (row s).height / ((row s).extraH + 1) ∧ 2 < (row s).width / ((row s).extraV + 1) ∧
    (row s).height / ((row s).extraH + 1) % 2 = 0 ∧ (row s).width / ((row s).extraV + 1) % 2 = 0 := by
  decide +kernel

theorem finder_facts (s : Sym) (hs : s < numSizes) : FinderFacts s := by
  obtain ⟨h1, h2, h3, h4, h5, h6⟩ := table_regions s hs
  exact finder_facts_of_regions
    ⟨(Nat.mul_div_cancel' (Nat.dvd_of_mod_eq_zero h1)).symm, (Nat.mul_div_cancel' (Nat.dvd_of_mod_eq_zero h2)).symm,
      Nat.succ_pos _, Nat.succ_pos _, h3, h4, h5, h6⟩ (lookup_dims s hs)

/-- `layout_eq_spec`: the rendered fixed modules and the content cells are where the
standard's region arithmetic puts them. -/
theorem layout_eq_spec (s : Sym) (hs : s < numSizes) :
    cellPos s = finderCells (toStdRow (row s)) ∧ constHigh s = finderDark (toStdRow (row s)) :=
  ⟨(finder_facts s hs).cells_spec, (finder_facts s hs).dark_spec⟩

theorem bitmapOf_eq (s : Sym) (entries : List Bool) :
    bitmapOf s entries = setAll ((List.range ((row s).height * (row s).width)).map fun p => (constHigh s).testBit p)
      ((cellPos s).zip entries) := rfl

theorem bitmapOf_length (s : Sym) (entries : List Bool) :
    (bitmapOf s entries).length = (row s).height * (row s).width := by
  rw [bitmapOf_eq, setAll_length, List.length_map, List.length_range]

theorem bitmapOf_fixed (s : Sym) (entries : List Bool) {p : Nat}
    (hp : p < (row s).height * (row s).width) (hn : p ∉ cellPos s) :
    (bitmapOf s entries).getD p false = (constHigh s).testBit p := by
  rw [bitmapOf_eq, setAll_getD_not_mem _ _ _ fun hm => hn ((map_fst_zip_sublist _ _).subset hm),
    getD_map_range, if_pos hp]

theorem bitmapOf_cell {s : Sym} (F : FinderFacts s) (entries : List Bool) (k : Nat)
    (hk : k < (cellPos s).length) (hk' : k < entries.length) :
    (bitmapOf s entries).getD ((cellPos s)[k]) false = entries[k] := by
  rw [bitmapOf_eq]
  apply setAll_getD_mem
  · exact F.cells_nodup.sublist (map_fst_zip_sublist _ _)
  · rw [List.mem_iff_getElem]
    exact ⟨k, by rw [List.length_zip]; omega, by simp⟩
  · simp; exact F.cells_lt _ (List.getElem_mem hk)

theorem checks_bitmapOf {s : Sym} (F : FinderFacts s) (content : List Bool) :
    (alignChecks s).all (fun q => (bitmapOf s content).getD q.1 false == q.2) = true := by
  rw [List.all_eq_true]
  intro q hq
  obtain ⟨h1, h2, h3⟩ := F.checks q hq
  rw [bitmapOf_fixed s content h1 h2, h3, beq_self_eq_true]

theorem takes_bitmapOf {s : Sym} (F : FinderFacts s) {content : List Bool}
    (hl : content.length = contentWidth s * contentHeight s) :
    ((takes s).map fun p => (bitmapOf s content).getD p false) = content := by
  rw [F.takes_eq]
  refine List.ext_getElem (by rw [List.length_map, F.cells_len, hl]) fun k h1 h2 => ?_
  rw [List.getElem_map]
  exact bitmapOf_cell F content k (by rwa [List.length_map] at h1) h2

/-- A pixel array of the size of the symbol that passes the alignment checks is the rendering of
the pixels the parser takes from it: every other pixel was checked. -/
theorem bitmapOf_takes {s : Sym} (F : FinderFacts s) {bits : List Bool}
    (hlen : bits.length = (row s).height * (row s).width)
    (hA : (alignChecks s).all (fun q => bits.getD q.1 false == q.2) = true) :
    bitmapOf s ((takes s).map fun p => bits.getD p false) = bits := by
  rw [F.takes_eq]
  refine ext_getD false (by rw [bitmapOf_length, hlen]) fun p hp => ?_
  rw [bitmapOf_length] at hp
  rcases F.cover p hp with hc | hc
  · obtain ⟨k, hk, rfl⟩ := List.mem_iff_getElem.mp hc
    rw [bitmapOf_cell F _ k hk (by rwa [List.length_map]), List.getElem_map]
  · obtain ⟨q, hq, rfl⟩ := List.mem_map.mp hc
    obtain ⟨h1, h2, h3⟩ := F.checks q hq
    rw [bitmapOf_fixed s _ h1 h2, h3]
    exact (beq_iff_eq.mp (List.all_eq_true.mp hA q hq)).symm

theorem tryFromBits_eq_ok_iff (bits : List Bool) (W : Nat) (m : List Bool) (s : Sym) :
    tryFromBits bits W = .ok (m, s) ↔
      W ≠ 0 ∧ bits.length % W = 0 ∧ sizeByDims W (bits.length / W) = some s ∧
      (alignChecks s).all (fun q => bits.getD q.1 false == q.2) = true ∧
      ((takes s).map fun p => bits.getD p false) = m ∧
      (padChecks s).all (fun q => m.getD q.1 false == q.2) = true := by
  unfold tryFromBits
  by_cases hW : W = 0
  · rw [if_pos hW]
    exact ⟨fun h => (nomatch h), fun h => absurd hW h.1⟩
  by_cases hm : bits.length % W ≠ 0
  · rw [if_neg hW, if_pos hm]
    exact ⟨fun h => (nomatch h), fun h => absurd h.2.1 hm⟩
  rw [if_neg hW, if_neg hm]
  cases hsz : sizeByDims W (bits.length / W) with
  | none => exact ⟨fun h => (nomatch h), fun h => nomatch h.2.2.1⟩
  | some s' =>
    simp only []
    constructor
    · intro h
      split at h
      · cases h
      split at h
      · cases h
      rename_i hA hP
      rw [Bool.not_eq_true', Bool.not_eq_false] at hA hP
      cases h
      exact ⟨hW, Decidable.not_not.mp hm, rfl, hA, rfl, hP⟩
    · rintro ⟨_, _, hs, hA, rfl, hP⟩
      cases hs
      rw [hA, hP]
      rfl

/-- the four cells `padChecks` reads are the last two of the last two rows of the mapping matrix -/
theorem corner_index {w h : Nat} (hw : 2 ≤ w) (hh : 2 ≤ h) :
    w * h - 2 = (h - 1) * w + (w - 2) ∧ w * h - 1 = (h - 1) * w + (w - 1) ∧
    w * h - w - 2 = (h - 2) * w + (w - 2) ∧ w * h - w - 1 = (h - 2) * w + (w - 1) := by
  obtain ⟨h, rfl⟩ := Nat.exists_eq_add_of_le hh
  rw [Nat.add_comm 2 h, show h + 2 - 1 = h + 1 from rfl, Nat.add_sub_cancel, Nat.mul_comm w, Nat.add_mul, Nat.add_mul,
    Nat.succ_mul]
  omega

theorem content_ge_two (s : Sym) (hs : s < numSizes) : 2 ≤ contentWidth s ∧ 2 ≤ contentHeight s := by
  obtain ⟨h1, h2, h3, h4, h5, h6⟩ := table_regions s hs
  have e1 := Nat.mul_div_cancel' (Nat.dvd_of_mod_eq_zero h1)
  have e2 := Nat.mul_div_cancel' (Nat.dvd_of_mod_eq_zero h2)
  generalize (row s).height / ((row s).extraH + 1) = rh at *
  generalize (row s).width / ((row s).extraV + 1) = rw at *
  unfold contentWidth contentHeight
  have := Nat.mul_le_mul_left ((row s).extraH + 1) (show 4 ≤ rh by omega)
  have := Nat.mul_le_mul_left ((row s).extraV + 1) (show 4 ≤ rw by omega)
  omega

/-- what the parser's padding check asks of the content, by row and column: the corner pattern of `write_padding` -/
theorem padChecks_of_corner (s : Sym) (hs : s < numSizes) (e : List Bool)
    (h : (row s).padding = true →
      e.getD ((contentHeight s - 2) * contentWidth s + (contentWidth s - 2)) false = true ∧
      e.getD ((contentHeight s - 2) * contentWidth s + (contentWidth s - 1)) false = false ∧
      e.getD ((contentHeight s - 1) * contentWidth s + (contentWidth s - 2)) false = false ∧
      e.getD ((contentHeight s - 1) * contentWidth s + (contentWidth s - 1)) false = true) :
    (padChecks s).all (fun q => e.getD q.1 false == q.2) = true := by
  unfold padChecks
  split
  · rename_i hp
    obtain ⟨c1, c2, c3, c4⟩ := h hp
    obtain ⟨hw, hh⟩ := content_ge_two s hs
    obtain ⟨e1, e2, e3, e4⟩ := corner_index hw hh
    simp only [fdims, List.all_cons, List.all_nil, Bool.and_true, Bool.and_eq_true, beq_iff_eq]
    rw [e1, e2, e3, e4]
    exact ⟨c3, c4, c1, c2⟩
  · rfl
/-- **`parse_render`**: the parser returns the content and the size of every rendering whose content fills
the mapping matrix and has the fixed corner pattern where the size has one (`padChecks`). -/
theorem parse_render (s : Sym) (hs : s < numSizes) (content : List Bool)
    (hl : content.length = contentWidth s * contentHeight s)
    (hpad : (padChecks s).all (fun q => content.getD q.1 false == q.2) = true) :
    tryFromBits (bitmapOf s content) (row s).width = .ok (content, s) := by
  have F := finder_facts s hs
  have hlen := bitmapOf_length s content
  refine (tryFromBits_eq_ok_iff ..).mpr
    ⟨Nat.ne_of_gt F.wpos, by rw [hlen, Nat.mul_mod_left], ?_, checks_bitmapOf F content, takes_bitmapOf F hl, hpad⟩
  rw [hlen, Nat.mul_div_cancel _ F.wpos, F.lookup]

/-- **`render_parse`**: whatever pixel array the parser accepts is exactly the rendering of
what it returns (so every finder, clock, alignment and fixed-corner module was checked). -/
theorem render_parse (bits : List Bool) (W : Nat) (m : List Bool) (s : Sym)
    (h : tryFromBits bits W = .ok (m, s)) :
    s < numSizes ∧ (row s).width = W ∧ (row s).height * W = bits.length ∧ bitmapOf s m = bits ∧
      (padChecks s).all (fun q => m.getD q.1 false == q.2) = true := by
  obtain ⟨_, hmod, hsz, hA, rfl, hP⟩ := (tryFromBits_eq_ok_iff ..).mp h
  have hs : s < numSizes := (C12.mem_master s).mp (List.mem_of_find?_eq_some hsz)
  have hfind := List.find?_some hsz
  simp only [Bool.and_eq_true, beq_iff_eq] at hfind
  have hlen : (row s).height * (row s).width = bits.length := by
    rw [hfind.1, hfind.2]; exact Nat.div_mul_cancel (Nat.dvd_of_mod_eq_zero hmod)
  exact ⟨hs, hfind.1, hfind.1 ▸ hlen, bitmapOf_takes (finder_facts s hs) hlen.symm hA, hP⟩

/-! The three rejections of `try_from_bits` that come before any pixel is read: `ZeroWidth`, `DataSize`,
`SymbolSize`. -/

theorem reject_zero_width (bits : List Bool) : tryFromBits bits 0 = .error .zeroWidth := by
  simp [tryFromBits]

theorem reject_data_size (bits : List Bool) (W : Nat) (hW : W ≠ 0) (h : bits.length % W ≠ 0) :
    tryFromBits bits W = .error .dataSize := by
  simp [tryFromBits, hW, h]

theorem reject_unknown_dims (bits : List Bool) (W : Nat) (hW : W ≠ 0) (h : bits.length % W = 0)
    (hno : ∀ s, s < numSizes → ¬ ((row s).width = W ∧ (row s).height = bits.length / W)) :
    tryFromBits bits W = .error .symbolSize := by
  have : sizeByDims W (bits.length / W) = none := by
    unfold sizeByDims
    rw [List.find?_eq_none]
    intro s hs
    have := hno s ((C12.mem_master s).mp hs)
    simpa using this
  simp [tryFromBits, hW, h, this]

/-- Non-vacuity: the rendering of an all-light 8x8 mapping matrix parses back (10x10). -/
example : (match tryFromBits (bitmapOf 0 (List.replicate 64 false)) 10 with
    | .ok (m, s) => m == List.replicate 64 false && s == 0
    | .error _ => false) = true := by
  decide +kernel

end DM.Props.C08
