import DM.Lemmas.PlanRounds
import DM.Lemmas.TestSymbols
/-!
# The planner (`optimize`) — totality, plan shape, linear work  (C11, C13, C18, C19)

Theorems about the Lean model of the whole planner (`DM/Model/Planner.lean`), which is compared
with `optimize()` on every case of the `c18m` sweep (same plan, cost, step count and live maximum).
They hold for **every** message, symbol list, mode set, `written` offset and — because the order
`sort_unstable_by_key` leaves equal-cost plans in is not modelled — for every sequence of sort
permutations the implementation could produce: a sequence that is not a sorting permutation of the
model's candidates yields `badPerm`, every other yields an outcome with the properties below.
-/
namespace DM.Props.Planner
open DM.Model DM.Model.Plan DM.Model.Enc DM.Lemmas.PlanInv DM.Lemmas.PlanLoop DM.Lemmas.PlanRounds

/-- `optimize_inv` with nothing asked of the rounds: the loop's own invariant `Live` gives the shape of the plan -/
theorem optimize_spec (data : List Nat) (written : Nat) (list : List Sym) (modes : Nat) (perms : List (List Nat)) :
    Post (fun p _ => ∀ q, p = some q → PlanOK modes data.length q) (216 * (data.length + 1) + 5)
      (optimize data written list modes perms) :=
  optimize_inv (list := list) perms (I := fun _ _ => True)
    (fun k plans cands live _ R =>
      { none := fun _ _ h => by cases h
        next := fun _ _ => trivial
        last := fun _ best hb q hq => by
          cases hq
          exact finalPlan_ok written data.length best
            (R.cands_live best (R.live_sub best (pickBest_mem live best hb))).2 })
    (fun _ => trivial) (fun _ _ _ _ _ => trivial)

/-- **C11 (planner part): planning is total.** For every input the model of `optimize` returns a
plan or "no plan"; it never reaches one of the planner's panic sites (`assert!`, `unwrap`, `usize` underflow,
`Frac` debug assertion) and never exhausts its `len + 3` fuel.
(`badPerm` only rejects permutation logs that no run of the implementation can produce.) -/
theorem optimize_total (data : List Nat) (written : Nat) (list : List Sym) (modes : Nat) (perms : List (List Nat)) :
    (∃ o, optimize data written list modes perms = .ok o) ∨
    optimize data written list modes perms = .error .badPerm := by
  have := optimize_spec data written list modes perms
  cases h : optimize data written list modes perms with
  | ok o => exact .inl ⟨o, rfl⟩
  | error e => rw [h] at this; cases e <;> first | exact .inr rfl | exact this.elim

/-- **C13 / C18: the plan names only enabled modes.** -/
theorem plan_modes_enabled (data : List Nat) (written : Nat) (list : List Sym) (modes : Nat)
    (perms : List (List Nat)) (o : Outcome) (p : List (Nat × EMode))
    (h : optimize data written list modes perms = .ok o) (hp : o.plan = some p) :
    ∀ e ∈ p, enabledMode modes e.2 = true :=
  fun e he => ((((optimize_spec data written list modes perms).ok h).2.2 p hp).1 e he).1

/-- **C18: remaining-character positions never increase, stay within the message and end at 0.** -/
theorem plan_positions (data : List Nat) (written : Nat) (list : List Sym) (modes : Nat)
    (perms : List (List Nat)) (o : Outcome) (p : List (Nat × EMode))
    (h : optimize data written list modes perms = .ok o) (hp : o.plan = some p) :
    p.Pairwise (fun a b => a.1 ≥ b.1) ∧ (∀ e ∈ p, e.1 ≤ data.length) ∧ ∃ m, p.getLast? = some (0, m) := by
  have := ((optimize_spec data written list modes perms).ok h).2.2 p hp
  exact ⟨this.2.1, fun e he => (this.1 e he).2, this.2.2⟩

/-- **C19: planning work is linear.** At most `216·(n+1) + 5` calls of `Plan::step()` for a
message of `n` bytes, whatever the content, symbol list and mode set. -/
theorem steps_linear (data : List Nat) (written : Nat) (list : List Sym) (modes : Nat)
    (perms : List (List Nat)) (o : Outcome) (h : optimize data written list modes perms = .ok o) :
    o.steps ≤ 216 * (data.length + 1) + 5 :=
  ((optimize_spec data written list modes perms).ok h).1

/-- **C19: at most 36 plans are alive after any iteration.** -/
theorem live_le_36 (data : List Nat) (written : Nat) (list : List Sym) (modes : Nat)
    (perms : List (List Nat)) (o : Outcome) (h : optimize data written list modes perms = .ok o) :
    o.maxLive ≤ 36 :=
  ((optimize_spec data written list modes perms).ok h).2.1

/-- Non-vacuity: a run of the model with the sort permutations the implementation logged for
`"AB12"` (all modes, the 30 standard sizes) returns the implementation's plan `[(0, ASCII)]` with
cost 3 codewords after 93 steps and at most 9 live plans. -/
example : (match optimize [65, 66, 49, 50] 0 (symbolList (List.range 30)) 63
    [[0,3,5,2,4,1], [0,6,7,8,3,5,2,4,1,9,14,15,11,13,17,19,16,12,18,10],
     [0,1,2,3,9,10,11,12,4,24,18,17,23,16,15,8,7,21,22,27,28,19,25,14,20,6,26,13,5],
     [0,8,15,14,16,3,2,1,9,5,17,29,28,22,23,24,12,13,4,6,10,7,30,11,25,18,26,27,21,20,19,31,32,33],
     [0,1,2,3]] with
    | .ok o => o.plan == some [(0, EMode.ascii)] && o.cost12 == 36 && o.steps == 93 && o.maxLive == 9
    | .error _ => false) = true := by
  rw [DM.Lemmas.symbols30]
  decide +kernel

end DM.Props.Planner
