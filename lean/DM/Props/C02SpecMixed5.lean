import DM.Props.C02SpecMixed
/-!
# C02 — conformant output against the reference decoder: plans over ASCII, Base 256, C40, Text and X12

`spec_mixed_roundtrip_5`: `C02SpecMixed.spec_mixed_in` for the five modes other than EDIFACT. Side condition on the
plan: `C40Gen.PlanOK` — the side
condition of `Props/C01.mixed_roundtrip`, which speaks of the model of the crate's decoder where this theorem
speaks of the reference decoder. Plans with EDIFACT are in `C02SpecMixedE`.
-/
namespace DM.Props.C02SpecMixed5
open DM.Model DM.Lemmas DM.Lemmas.AsciiRT DM.Lemmas.SpecStep DM.Lemmas.SpecMain DM.Lemmas.MainRT DM.Lemmas.PlanProv
open DM.Lemmas.EncRT DM.Lemmas.C40Gen DM.Lemmas.SpecMainC40
open DM.Props.C02SpecMixed (HdrOK spec_mixed_in)
open DM.Spec.Stream (decode Decoded Mode macroHead macroTrail)

/-- **Mixed round trip through the reference decoder for every plan within `PlanOK`** (ASCII, Base 256,
C40, Text, X12 in any order; no latch to a non-ASCII mode planned for the last four characters), every
message of bytes, every symbol list and each of the headers none / FNC1 / Macro 05 / Macro 06: whatever
the encoder model returns, the reference decoder accepts and returns the message; no byte is carried by
EDIFACT, every latch stands behind the header and in front of `L`, there is no ECI; the stream fills the
symbol, and the decoder meets the first pad codeword exactly at `L`, or `L` is the end of the symbol
(`L` is bound existentially, see `spec_frameB`). -/
theorem spec_mixed_roundtrip_5 (list : List Sym) (pre body cw : List Nat) (plan : List (Nat × Enc.EMode)) (sym : Sym)
    (hpre : HdrOK pre) (hb : ∀ b ∈ body, b < 256)
    (hplan : ∀ e ∈ plan, (e.2 ≠ .ascii → e.1 = 0 ∨ e.1 > 4) ∧ e.2 ≠ .edifact)
    (h : Enc.run list pre body plan = .ok (cw, sym)) :
    ∃ d L, decode cw = .ok d ∧ d.body = body ∧
      d.bytes = (if macOf pre = 0 then body else macroHead (macOf pre) ++ body ++ macroTrail) ∧
      d.fnc1 = (pre == [232]) ∧ d.macro = macOf pre ∧ d.ecis = [] ∧ d.trace.length = body.length ∧
      (∀ m ∈ d.trace, m ≠ .edifact) ∧
      (∀ l ∈ d.latches, l.2 ≠ .edifact ∧ l.2 ≠ .ascii ∧ pre.length ≤ l.1 ∧ l.1 < L) ∧
      cw.length = dataCw sym ∧ cw.take pre.length = pre ∧ pre.length ≤ L ∧ L ≤ cw.length ∧
      (L < cw.length → cw.getD L 0 = 129) ∧ d.padAt = (if L = cw.length then none else some L) :=
  spec_mixed_in (· ≠ .edifact) (· ≠ .edifact) (by simp) (by simp) (by simp) (by simp) (by simp) (by simp)
    (by simp) list pre body cw plan sym hpre hb (fun e he => (hplan e he).2) (Or.inl (planOKE_of_planOK body hplan)) h

/-! ### Non-vacuity: the run of `Props/C01.lean`'s example (C40, ASCII digit pairs, Base 256, X12) -/

example : (∀ e ∈ [(26, DM.Model.Enc.EMode.c40), (20, .ascii), (12, .base256), (6, .x12), (0, .x12)],
    (e.2 ≠ DM.Model.Enc.EMode.ascii → e.1 = 0 ∨ e.1 > 4) ∧ e.2 ≠ .edifact) := by decide

example : ∃ d, decode [230, 89, 233, 109, 36, 254, 142, 164, 186, 208, 231, 10, 97, 248, 142, 37, 187, 82, 238, 89, 233, 0, 43, 254] = .ok d ∧
    d.body = [65, 66, 67, 68, 69, 70, 49, 50, 51, 52, 53, 54, 55, 56, 200, 201, 202, 203, 204, 205, 65, 66, 67, 13, 42, 62] ∧
    d.ecis = [] := by
  obtain ⟨d, L, h1, h2, _, _, _, h6, _⟩ :=
    spec_mixed_roundtrip_5 (symbolList (List.range 30)) []
      [65, 66, 67, 68, 69, 70, 49, 50, 51, 52, 53, 54, 55, 56, 200, 201, 202, 203, 204, 205, 65, 66, 67, 13, 42, 62] _
      [(26, .c40), (20, .ascii), (12, .base256), (6, .x12), (0, .x12)] _ (Or.inl rfl) (by decide) (by decide)
      (DM.Props.C02Spec.run30_eq_of_check
        (cw := [230, 89, 233, 109, 36, 254, 142, 164, 186, 208, 231, 10, 97, 248, 142, 37, 187, 82, 238, 89, 233, 0, 43, 254])
        (sym := 11) (by decide +kernel))
  exact ⟨d, h1, h2, h6⟩

end DM.Props.C02SpecMixed5
