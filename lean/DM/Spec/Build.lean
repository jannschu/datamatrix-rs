import DM.Spec.Stream
/-
An independent reference *encoder* for ISO/IEC 16022 data codeword streams: a script of mode
runs with explicit termination forms is turned into a stream. It is used to confront the
crate's decoder with legal streams its own optimiser would never produce (property C04).

Only forms whose legality is beyond doubt are generated:
* ASCII: one codeword per byte < 128, Upper Shift + codeword for bytes ≥ 128, digit pairs
  packed or not (the script decides);
* C40 / Text / X12: whole triples only (the script generator cuts runs accordingly), ended by
  UNLATCH (254), or by the end of the symbol, or — with exactly one codeword left — by a single
  ASCII codeword without UNLATCH;
* EDIFACT: quadruples; the run ends with the UNLATCH value (31) in the next free slot, or at the
  end of the symbol after a complete quadruple, or with ≤ 2 symbol codewords left after a complete
  quadruple which are then ASCII codewords;
* Base 256: explicit length (1 or 2 codewords) or length 0 = to the end of the symbol, 255-state
  randomised by codeword position;
* optional header: Macro 05 / 06 or FNC1 in first position;
* padding: 129 followed by 253-state randomised pads, in ASCII mode only.
-/
namespace DM.Spec.Build
open DM.Spec.Stream

def randomize255 (v pos : Nat) : Nat := (v + rand255 pos) % 256
def randomize253 (pos : Nat) : Nat :=
  let t := 129 + rand253 pos
  if t ≤ 254 then t else t - 254

/-- ASCII codewords for bytes; `pair` says whether two digits are packed -/
def asciiCw (pair : Bool) : List Nat → List Nat
  | a :: b :: t =>
    if pair ∧ 48 ≤ a ∧ a ≤ 57 ∧ 48 ≤ b ∧ b ≤ 57 then (130 + (a - 48) * 10 + (b - 48)) :: asciiCw pair t
    else (if a < 128 then [a + 1] else [235, a - 127]) ++ asciiCw pair (b :: t)
  | [a] => if a < 128 then [a + 1] else [235, a - 127]
  | [] => []

/-- C40 / Text values of one byte -/
def c40Vals (text : Bool) (b : Nat) : List Nat :=
  let lo := b % 128
  let up : List Nat := if b ≥ 128 then [1, 30] else []
  let base := if text then textBase else c40Base
  let sh3 := if text then textShift3 else c40Shift3
  up ++ (match base.idxOf? lo with
    | some i => [i + 3]
    | none =>
      if lo < 32 then [0, lo]
      else match shift2Set.idxOf? lo with
        | some i => [1, i]
        | none => match sh3.idxOf? lo with
          | some i => [2, i]
          | none => [])

def packTriples : List Nat → List Nat
  | a :: b :: c :: t =>
    let v := 1600 * a + 40 * b + c + 1
    (v / 256) :: (v % 256) :: packTriples t
  | _ => []

def x12Val (b : Nat) : Option Nat :=
  if b = 13 then some 0 else if b = 42 then some 1 else if b = 62 then some 2 else if b = 32 then some 3
  else if 48 ≤ b ∧ b ≤ 57 then some (b - 48 + 4) else if 65 ≤ b ∧ b ≤ 90 then some (b - 65 + 14) else none

/-- pack 6-bit values, 4 per 3 codewords (the list length must be a multiple of 4) -/
def packEdifact : List Nat → List Nat
  | a :: b :: c :: d :: t =>
    ((a * 4 + b / 16) % 256) :: (((b % 16) * 16 + c / 4) % 256) :: (((c % 4) * 64 + d) % 256) :: packEdifact t
  | _ => []

inductive Item where
  | ascii (pair : Bool) (bytes : List Nat)
  | c40 (text : Bool) (bytes : List Nat) (unlatch : Bool)   -- value count must be a multiple of 3
  | x12 (bytes : List Nat) (unlatch : Bool)                 -- length must be a multiple of 3
  | edifact (bytes : List Nat) (unlatch : Bool)             -- 32..94; without unlatch: multiple of 4
  | base256 (bytes : List Nat) (toEnd : Bool)
  deriving Repr

def Item.bytes : Item → List Nat
  | .ascii _ b => b | .c40 _ b _ => b | .x12 b _ => b | .edifact b _ => b | .base256 b _ => b

/-- append the codewords of one item to the stream built so far -/
def emit (cw : List Nat) : Item → List Nat
  | .ascii pair b => cw ++ asciiCw pair b
  | .c40 text b un =>
    cw ++ [if text then 239 else 230] ++ packTriples (b.flatMap (c40Vals text)) ++ (if un then [254] else [])
  | .x12 b un =>
    cw ++ [238] ++ packTriples (b.filterMap x12Val) ++ (if un then [254] else [])
  | .edifact b un =>
    let vals := b.map (· % 64)
    if un then
      -- UNLATCH value in the next slot, the group is cut after the codeword that holds it
      let full := vals ++ [31]
      let n := full.length
      let padded := full ++ List.replicate ((4 - n % 4) % 4) 0
      let all := packEdifact padded
      -- codewords needed for n six-bit values: ceil(6n/8)
      cw ++ [240] ++ all.take ((6 * n + 7) / 8)
    else cw ++ [240] ++ packEdifact vals
  | .base256 b toEnd =>
    let start := cw.length + 1      -- index of the length field (0-based), after the latch
    let hdr : List Nat :=
      if toEnd then [0]
      else if b.length ≤ 249 then [b.length] else [b.length / 250 + 249, b.length % 250]
    let field := hdr ++ b
    cw ++ [231] ++ (field.zipIdx.map fun (v, k) => randomize255 v (start + k + 1))

structure Script where
  header : Nat            -- 0 none, 5 / 6 macro, 1 FNC1
  items : List Item
  pad : Nat               -- number of pad codewords appended (0 = symbol exactly full)
  deriving Repr

def build (s : Script) : List Nat :=
  let h : List Nat := match s.header with | 5 => [236] | 6 => [237] | 1 => [232] | _ => []
  let body := s.items.foldl emit h
  if s.pad = 0 then body
  else
    let first := body ++ [129]
    (List.range (s.pad - 1)).foldl (fun acc _ => acc ++ [randomize253 (acc.length + 1)]) first

/-- the bytes the script stands for -/
def meaning (s : Script) : List Nat :=
  let b := s.items.flatMap Item.bytes
  match s.header with
  | 5 => macroHead 5 ++ b ++ macroTrail
  | 6 => macroHead 6 ++ b ++ macroTrail
  | _ => b

/-! ### random legal scripts -/

structure G where
  s : Nat

def G.next (g : G) : G × Nat :=
  let s := (g.s * 6364136223846793005 + 1442695040888963407) % 18446744073709551616
  ({ s := s }, s / 4294967296)

def G.below (g : G) (n : Nat) : G × Nat := let (g, v) := g.next; (g, if n = 0 then 0 else v % n)

def genBytes (g : G) (n : Nat) (f : Nat → Nat) : G × List Nat :=
  (List.range n).foldl (fun (acc : G × List Nat) _ => let (g, v) := acc.1.next; (g, acc.2 ++ [f v])) (g, [])

def c40ish (v : Nat) : Nat :=
  -- mostly basic-set characters, sometimes shift sets and upper shift
  let k := v % 100
  if k < 60 then (if v / 100 % 37 = 0 then 32 else if v / 100 % 37 ≤ 10 then 47 + v / 100 % 37 else 54 + v / 100 % 37)
  else if k < 70 then v / 100 % 32
  else if k < 80 then 33 + v / 100 % 15
  else if k < 90 then 96 + v / 100 % 32
  else 128 + v / 100 % 128

/-- cut a byte list so that its C40/Text value count is a multiple of 3 -/
def cutTriples (text : Bool) : List Nat → List Nat
  | l =>
    let rec go : Nat → List Nat → List Nat
      | 0, l => l
      | f + 1, l =>
        if (l.flatMap (c40Vals text)).length % 3 = 0 then l else go f l.dropLast
    go (l.length + 1) l

def genItem (g : G) (last : Bool) : G × Item :=
  let (g, kind) := g.below 6
  let (g, n) := g.below 14
  let (g, flag) := g.below 2
  match kind with
  | 0 =>
    let (g, b) := genBytes g n fun v => if v % 5 = 0 then 48 + v / 7 % 10 else if v % 11 = 0 then 128 + v / 13 % 128 else v / 3 % 128
    (g, .ascii (flag = 1) b)
  | 1 | 2 =>
    let text := kind = 2
    -- one run in eight uses only the extreme basic-set values (39 = 'Z', 3 = space, 4 = '0'), so that whole
    -- triples of the largest / smallest values (packed 64000 = (250, 0), 4965, ...) occur at triple boundaries
    let (g, ext) := g.below 8
    let (g, b) := genBytes g (n + 1) (if ext = 0 then fun v => [90, 90, 90, 32, 48, 90, 65].getD (v % 7) 90 else c40ish)
    let b := cutTriples text (if text then b.map fun x => if 65 ≤ x % 128 ∧ x % 128 ≤ 90 then x + 32 else x else b)
    (g, .c40 text b (flag = 1 || !last))
  | 3 =>
    let (g, ext) := g.below 8
    let (g, b) := genBytes g (3 * (n / 3 + 1)) (if ext = 0 then fun v => [90, 90, 90, 13, 90, 13, 90].getD (v % 7) 90
      else fun v => [13, 42, 62, 32, 48 + v / 7 % 10, 65 + v / 7 % 26, 65 + v / 11 % 26].getD (v % 7) 32)
    (g, .x12 b (flag = 1 || !last))
  | 4 =>
    let un := flag = 1 || !last
    let (g, b) := genBytes g (if un then n else 4 * (n / 4 + 1)) fun v => 32 + v % 63
    (g, .edifact b un)
  | _ =>
    let (g, big) := g.below 40
    let len := if big = 0 then 250 + n * 20 else n + 1   -- an explicit length of 0 would mean "to the end"
    let (g, b) := genBytes g len fun v => v % 256
    (g, .base256 b (flag = 1 && last))

def genScript (g : G) : G × Script :=
  let (g, h) := g.below 8
  let header := if h = 0 then 5 else if h = 1 then 6 else if h = 2 then 1 else 0
  let (g, k) := g.below 5
  let (g, items) := (List.range (k + 1)).foldl
    (fun (acc : G × List Item) i => let (g, it) := genItem acc.1 (i = k); (g, acc.2 ++ [it])) (g, [])
  -- padding is only legal in ASCII mode: after an explicit unlatch / a Base256 field with explicit
  -- length / an ASCII run; the "to the end" forms fill the symbol exactly
  let exact := match items.getLast? with
    | some (.c40 _ _ false) | some (.x12 _ false) | some (.edifact _ false) | some (.base256 _ true) => true
    | _ => false
  let (g, p) := g.below 6
  (g, { header := header, items := items, pad := if exact then 0 else p })

end DM.Spec.Build

namespace DM.Spec.Build

/-- the distinct data capacities of the 48 symbols (ISO/IEC 16022 Table 7 and ISO/IEC 21471) -/
def capacities : List Nat :=
  [3, 5, 8, 10, 12, 16, 18, 22, 24, 30, 32, 36, 38, 43, 44, 49, 56, 62, 63, 64, 70, 72, 80, 84, 86, 90,
   108, 114, 118, 144, 174, 204, 280, 368, 456, 576, 696, 816, 1050, 1304, 1558]

/-- add the end-of-symbol tail forms and make the stream fill a real symbol exactly -/
def fitScript (g : G) (s : Script) : G × Option Script :=
  -- optional short ASCII tail after a run that ends without UNLATCH
  let (g, t) := g.below 4
  let (g, v) := g.next
  let items := match s.items.getLast? with
    | some (.c40 _ _ false) | some (.x12 _ false) =>
      if t < 2 then s.items ++ [.ascii false [v % 128]] else s.items
    | some (.edifact _ false) =>
      if t = 0 then s.items ++ [.ascii false [v % 128]]
      else if t = 1 then s.items ++ [.ascii true [48 + v % 10, 48 + v / 10 % 10]]
      else if t = 2 then s.items ++ [.ascii false [v % 128, v / 128 % 128]]
      else s.items
    | _ => s.items
  let tailed := items.length ≠ s.items.length
  let exact := tailed || s.pad = 0 && (match s.items.getLast? with
    | some (.c40 _ _ false) | some (.x12 _ false) | some (.edifact _ false) | some (.base256 _ true) => true
    | _ => false)
  let s1 : Script := { s with items := items, pad := 0 }
  let len := (build s1).length
  -- an EDIFACT group must not start with fewer than three codewords left in the symbol (those
  -- would be ASCII): keep two spare codewords when the stream is padded anyway
  -- every other padded script is instead fitted tightly: the smallest capacity that holds it (0 or 1 pad
  -- codewords are possible), and half of those are filled up at the front so that a run with an explicit
  -- end (ASCII, UNLATCH, Base 256 with a length) ends exactly with the symbol. A script for which this
  -- breaks the EDIFACT rule is one on which reference builder and reference decoder disagree: dropped.
  let (g, tight) := g.below 4
  match capacities.find? (· ≥ (if exact || tight < 2 then len else len + 2)) with
  | none => (g, none)
  | some cap =>
    if exact || tight = 0 then
      if cap = len then (g, some s1)
      else
        -- fill up at the front with ASCII letters (one codeword each)
        let s2 : Script := { s1 with items := .ascii false (List.replicate (cap - len) 65) :: s1.items }
        (g, if (build s2).length = cap then some s2 else none)
    else
      (g, some { s1 with pad := cap - len })

/-- `n` random legal scripts -/
def genScripts (seed n : Nat) : List Script :=
  let rec go : Nat → G → List Script → List Script
    | 0, _, acc => acc.reverse
    | k + 1, g, acc =>
      let (g, s) := genScript g
      let (g, fs) := fitScript g s
      match fs with
      | some s => go k g (s :: acc)
      | none => go k g acc
  go n { s := seed * 2 + 1 } []

/-- (stream, meaning) of `n` random legal scripts -/
def genStreams (seed n : Nat) : List (List Nat × List Nat) :=
  (genScripts seed n).map fun s => (build s, meaning s)

end DM.Spec.Build
